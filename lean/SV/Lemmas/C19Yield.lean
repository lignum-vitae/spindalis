import SV.Lemmas.C19
/-!
Lemmas for C19: the tree returned by `parse_expr` is a *precedence reading* of exactly the tokens consumed.

`PR e ts k`: the tree `e` reads the token list `ts`, and holds together with (doubled) binding level `k`
(`top` for a primary expression).  The rules are the conventional grammar:

* atoms, a parenthesised reading, a function applied to a parenthesised reading, and `v!` for a primary `v`
  are primaries;
* unary minus takes an operand that holds together at least as tightly as `2M − 1` for some `M ≥ 3`
  (`SV.Gen.unaryMinPow`, strictly above `*` `/`), and then itself holds together at `2M − 1`.  In the
  parser `M = max 3 m` for the minimum power `m` of the position; here `M` is free, so a token list can
  have several readings (`- x ^ 2`: `-(x^2)` with `M = 3`, and `(-x)^2` with `M = 6`): `PR` bounds what
  the parser may return, it does not determine it;
* a binary node `l o r` needs `l` at least as tight as `o` and `r` strictly tighter (left associativity),
  and holds together at `2·bp o`.

`R_pr`: what the parser returns is a reading.  In the other direction `CR` is `PR` with every unary minus at the
unary minimum power itself (what `Display` prints), and `CR.reads`: the parser returns every such reading.
-/
namespace SV.C19
variable {N : Type}

/-- level of a primary expression (above every `2 * bp o`) -/
def top : Nat := 1000

inductive PR : Expr N → List (Tok N) → Nat → Prop where
  | num (x : N) : PR (.num x) [.num x] top
  | var (s : String) : PR (.var s) [.var s] top
  | const (c : Const) : PR (.const c) [.const c] top
  | paren {e : Expr N} {ts : List (Tok N)} {k : Nat} : PR e ts k → PR (setParen e) (.lp :: ts ++ [.rp]) top
  | func (f : Func) {e : Expr N} {ts : List (Tok N)} {k : Nat} :
      PR e ts k → PR (.func f (setParen e)) (.func f :: .lp :: ts ++ [.rp]) top
  | post {v : Expr N} {ts : List (Tok N)} : PR v ts top → PR (.post .fac v) (ts ++ [.op .fac]) top
  | neg {v : Expr N} {ts : List (Tok N)} {kv : Nat} (M : Nat) :
      PR v ts kv → SV.Gen.unaryMinPow ≤ M → (kv = top ∨ 2 * M ≤ kv + 1) →
      PR (.pre .sub v) (.op .sub :: ts) (2 * M - 1)
  | bin {l r : Expr N} {tl tr : List (Tok N)} {kl kr : Nat} (o : Op) :
      PR l tl kl → PR r tr kr → o ≠ .fac → 2 * bp o ≤ kl → 2 * bp o < kr →
      PR (.bin (if o = .cdot then .mul else o) l r false) (tl ++ .op o :: tr) (2 * bp o)

theorem bp_vals : bp .add = 1 ∧ bp .sub = 1 ∧ bp .mul = 2 ∧ bp .div = 2 ∧ bp .rem = 3 ∧ bp .cdot = 4 ∧
    bp .caret = 5 ∧ bp .fac = 0 ∧ SV.Gen.unaryMinPow = 3 := by decide

theorem bp_le_five (o : Op) : bp o ≤ 5 := by
  obtain ⟨h1, h2, h3, h4, h5, h6, h7, h8, -⟩ := bp_vals
  cases o <;> omega

theorem two_bp_lt_top (o : Op) : 2 * bp o < top := by
  have := bp_le_five o
  unfold top
  omega

/-- `display_power`'s ∞ (`inf`, in the model) and the level of a primary expression are the same number -/
theorem top_eq_inf : top = inf := rfl

theorem two_bp_lt_inf (o : Op) : 2 * bp o < inf := top_eq_inf ▸ two_bp_lt_top o

def HeadFac : List (Tok N) → Prop
  | .op .fac :: _ => True
  | _ => False

theorem ne_fac_of_not_headFac {ts : List (Tok N)} (h : ¬ HeadFac ts) : ∀ r, ts ≠ .op .fac :: r :=
  fun _ hr => h (hr ▸ trivial)

theorem headFac_cons_iff (t : Tok N) (ts : List (Tok N)) : HeadFac (t :: ts) ↔ t = .op .fac := by
  constructor
  · intro h
    cases t with
    | op o => cases o <;> first | rfl | exact h.elim
    | _ => exact h.elim
  · rintro rfl; trivial

theorem postfixLoop_not_headFac (l : Expr N) (ts : List (Tok N)) : ¬ HeadFac (postfixLoop l ts).2 := by
  induction ts generalizing l with
  | nil => rw [postfixLoop_not_fac _ _ (by simp)]; exact fun h => h
  | cons t ts ih =>
    by_cases h : t = .op .fac
    · subst h; rw [postfixLoop_fac]; exact ih _
    · rw [postfixLoop_not_fac _ _ (ne_fac_of_not_headFac (mt (headFac_cons_iff t ts).mp h))]
      exact mt (headFac_cons_iff t ts).mp h

/-- the operator loop at minimum power `m` has stopped in front of `r` -/
def Stop (m : Nat) (r : List (Tok N)) : Prop := ∀ o tl, r = .op o :: tl → bp o < m

/-- level `k` may stand where `parse_expr` was called with minimum power `m` -/
def Fits (m k : Nat) : Prop := k = top ∨ 2 * m ≤ k + 1

/-- an operator at the head of `ts` binds no tighter than level `k` (so a tree of level `k` may be its left
operand) -/
def HeadLe (k : Nat) (ts : List (Tok N)) : Prop := ∀ o tl, ts = .op o :: tl → 2 * bp o ≤ k

/-- what `R .pre` knows of a negation whose operand was read at minimum power `M`: it holds together at
level `2M − 1` (`PR.neg`), and the operand's operator loop has stopped in front of `r` -/
def NegLevel (M k : Nat) (r : List (Tok N)) : Prop := k + 1 = 2 * M ∧ ¬ HeadFac r ∧ Stop M r

theorem postfixLoop_pr {l : Expr N} {pl : List (Tok N)} (hl : PR l pl top) (ts : List (Tok N)) :
    ∃ p, ts = p ++ (postfixLoop l ts).2 ∧ PR (postfixLoop l ts).1 (pl ++ p) top := by
  induction ts generalizing l pl with
  | nil =>
    rw [postfixLoop_not_fac _ _ (by simp)]
    exact ⟨[], rfl, by simpa using hl⟩
  | cons t ts ih =>
    by_cases h : t = .op .fac
    · subst h
      rw [postfixLoop_fac]
      obtain ⟨p, h1, h2⟩ := ih (PR.post hl)
      refine ⟨.op .fac :: p, ?_, by simpa using h2⟩
      rw [List.cons_append, ← h1]
    · rw [postfixLoop_not_fac _ _ (ne_fac_of_not_headFac (mt (headFac_cons_iff t ts).mp h))]
      exact ⟨[], rfl, by simpa using hl⟩

theorem R_pr {mode : Mode N} {ts : List (Tok N)} {m : Nat} {e : Expr N} {r : List (Tok N)}
    (h : R mode ts m e r) :
    match mode with
    | .pre => ∃ p k, ts = p ++ r ∧ PR e p k ∧ (k = top ∨ NegLevel (max SV.Gen.unaryMinPow m) k r)
    | .full => ∃ p k, ts = p ++ r ∧ PR e p k ∧ Fits m k ∧ Stop m r ∧ ¬ HeadFac r
    | .loop l => ∀ pl kl, PR l pl kl → ¬ HeadFac ts → HeadLe kl ts → Fits m kl →
        ∃ p k, ts = p ++ r ∧ PR e (pl ++ p) k ∧ Fits m k ∧ Stop m r ∧ ¬ HeadFac r := by
  induction h with
  | num n rest m => exact ⟨[.num n], top, rfl, .num n, Or.inl rfl⟩
  | var s rest m => exact ⟨[.var s], top, rfl, .var s, Or.inl rfl⟩
  | const c rest m => exact ⟨[.const c], top, rfl, .const c, Or.inl rfl⟩
  | paren m h ih =>
    obtain ⟨p, k, h1, h2, -⟩ := ih
    exact ⟨.lp :: p ++ [.rp], top, by rw [h1]; simp, .paren h2, Or.inl rfl⟩
  | func f m h ih =>
    obtain ⟨p, k, h1, h2, -⟩ := ih
    exact ⟨.func f :: .lp :: p ++ [.rp], top, by rw [h1]; simp, .func f h2, Or.inl rfl⟩
  | @neg rest m v r h ih =>
    obtain ⟨p, k, h1, h2, h3, h4, h5⟩ := ih
    refine ⟨.op .sub :: p, 2 * max SV.Gen.unaryMinPow m - 1, by rw [h1]; rfl,
      .neg _ h2 (Nat.le_max_left _ _) h3, Or.inr ⟨?_, h5, h4⟩⟩
    have : 1 ≤ max SV.Gen.unaryMinPow m := Nat.le_trans (by decide) (Nat.le_max_left _ _)
    omega
  | @full ts m l r e r' h1 h2 ih1 ih2 =>
    obtain ⟨p, k, e1, hpr, hk⟩ := ih1
    rcases hk with rfl | ⟨hk, hnf, hstop⟩
    · obtain ⟨q, e2, hpost⟩ := postfixLoop_pr hpr r
      obtain ⟨p2, k2, e3, hpr2, hfit, hst, hnf2⟩ := ih2 _ _ hpost (postfixLoop_not_headFac l r)
        (fun o _ _ => Nat.le_of_lt (two_bp_lt_top o)) (Or.inl rfl)
      refine ⟨p ++ q ++ p2, k2, ?_, hpr2, hfit, hst, hnf2⟩
      rw [e1, List.append_assoc, List.append_assoc, ← e3, ← e2]
    · have hpf : postfixLoop l r = (l, r) := postfixLoop_not_fac l r (ne_fac_of_not_headFac hnf)
      obtain ⟨p2, k2, e3, hpr2, hfit, hst, hnf2⟩ := ih2 p k (by rw [hpf]; exact hpr) (by rw [hpf]; exact hnf)
        (fun o tl he => by rw [hpf] at he; have := hstop o tl he; omega)
        (Or.inr (by have := Nat.le_max_right SV.Gen.unaryMinPow m; omega))
      rw [hpf] at e3
      refine ⟨p ++ p2, k2, ?_, hpr2, hfit, hst, hnf2⟩
      rw [e1, List.append_assoc, ← e3]
  | stop l ts m h =>
    intro pl kl hpr hnf _ hfit
    exact ⟨[], kl, rfl, by rwa [List.append_nil], hfit, fun o tl he => absurd he (h o tl), hnf⟩
  | low l o rest h =>
    intro pl kl hpr hnf _ hfit
    refine ⟨[], kl, rfl, by rwa [List.append_nil], hfit, ?_, hnf⟩
    intro o' tl he
    cases he; exact h
  | @step l o rest m rhs r' e r h h1 h2 ih1 ih2 =>
    intro pl kl hpr hnf hop hfit
    obtain ⟨pr, kr, e1, hprr, hfitr, hstr, hnfr⟩ := ih1
    have ho : o ≠ .fac := by rintro rfl; exact hnf trivial
    have hkl := hop o rest rfl
    have hkr : 2 * bp o < kr := by
      rcases hfitr with rfl | h
      · exact two_bp_lt_top o
      · omega
    have hnew := PR.bin o hpr hprr ho hkl hkr
    obtain ⟨p2, k2, e2, hpr2, hfit2, hst2, hnf2⟩ := ih2 _ _ hnew hnfr
      (fun o2 tl he => by have := hstr o2 tl he; omega) (Or.inr (by omega))
    refine ⟨.op o :: pr ++ p2, k2, ?_, by rwa [List.append_assoc] at hpr2, hfit2, hst2, hnf2⟩
    rw [e1, e2]; simp

/-- the readings `Display` aims at: `PR` with every unary minus at the unary minimum power itself -/
inductive CR : Expr N → List (Tok N) → Nat → Prop where
  | num (x : N) : CR (.num x) [.num x] top
  | var (s : String) : CR (.var s) [.var s] top
  | const (c : Const) : CR (.const c) [.const c] top
  | paren {e : Expr N} {ts : List (Tok N)} {k : Nat} : CR e ts k → CR (setParen e) (.lp :: ts ++ [.rp]) top
  | func (f : Func) {e : Expr N} {ts : List (Tok N)} {k : Nat} :
      CR e ts k → CR (.func f (setParen e)) (.func f :: .lp :: ts ++ [.rp]) top
  | post {v : Expr N} {ts : List (Tok N)} : CR v ts top → CR (.post .fac v) (ts ++ [.op .fac]) top
  | neg {v : Expr N} {ts : List (Tok N)} {kv : Nat} :
      CR v ts kv → 2 * SV.Gen.unaryMinPow ≤ kv + 1 → CR (.pre .sub v) (.op .sub :: ts) (2 * SV.Gen.unaryMinPow - 1)
  | bin {l r : Expr N} {tl tr : List (Tok N)} {kl kr : Nat} (o : Op) :
      CR l tl kl → CR r tr kr → o ≠ .fac → 2 * bp o ≤ kl → 2 * bp o < kr →
      CR (.bin (if o = .cdot then .mul else o) l r false) (tl ++ .op o :: tr) (2 * bp o)

/-- a reading of level `k` may stand at minimum power `m` in front of `rest`: a primary anywhere, any other
where `k` fits `m` and `rest` begins with neither `!` nor an operator that binds tighter than `k` -/
def Room (k m : Nat) (rest : List (Tok N)) : Prop :=
  k = top ∨ (2 * m ≤ k + 1 ∧ ¬ HeadFac rest ∧ HeadLe k rest)

theorem loop_stops (e : Expr N) {rest : List (Tok N)} {k : Nat} (hf : ¬ HeadFac rest) (h : Stop k rest) :
    R (.loop (postfixLoop e rest).1) (postfixLoop e rest).2 k e rest := by
  rw [postfixLoop_not_fac _ _ (ne_fac_of_not_headFac hf)]
  by_cases hop : ∃ o tl, rest = .op o :: tl
  · obtain ⟨o, tl, rfl⟩ := hop
    exact .low _ _ _ (h o tl rfl)
  · exact .stop _ _ _ fun o tl he => hop ⟨o, tl, he⟩

/-- **The parser returns every canonical reading**: where a reading of level `k` may stand, `parse_expr`
reads its tokens as its tree and goes on with the postfix and operator loops. -/
theorem CR.reads {e : Expr N} {p : List (Tok N)} {k : Nat} (h : CR e p k) {m : Nat} {rest : List (Tok N)}
    {ef : Expr N} {rf : List (Tok N)} (hk : Room k m rest)
    (hc : R (.loop (postfixLoop e rest).1) (postfixLoop e rest).2 m ef rf) : R .full (p ++ rest) m ef rf := by
  induction h generalizing m rest ef rf with
  | num x => exact .full (.num x rest m) hc
  | var s => exact .full (.var s rest m) hc
  | const c => exact .full (.const c rest m) hc
  | paren h ih =>
    have := ih (m := 0) (rest := .rp :: rest) (.inr ⟨Nat.zero_le _, id, fun o tl he => by cases he⟩)
      (loop_stops _ id fun o tl he => by cases he)
    simpa using R.full (R.paren m this) hc
  | func f h ih =>
    have := ih (m := 0) (rest := .rp :: rest) (.inr ⟨Nat.zero_le _, id, fun o tl he => by cases he⟩)
      (loop_stops _ id fun o tl he => by cases he)
    simpa using R.full (R.func f m this) hc
  | post h ih =>
    simpa using ih (m := m) (rest := .op .fac :: rest) (.inl rfl) (by rw [postfixLoop_fac]; exact hc)
  | @neg v ts kv h hkv ih =>
    -- every `m` that fits level `2U − 1` is at most `U`, so the operand is read at `max U m = U`
    obtain ⟨hm, hfac, hop⟩ := hk.resolve_left (by decide)
    have hU : 1 ≤ SV.Gen.unaryMinPow := by decide
    have hst : Stop SV.Gen.unaryMinPow rest := fun o' tl' he => by have := hop o' tl' he; omega
    have hoper := ih (m := SV.Gen.unaryMinPow) (.inr ⟨hkv, hfac, fun o' tl' he => by have := hst o' tl' he; omega⟩)
      (loop_stops _ hfac hst)
    rw [show SV.Gen.unaryMinPow = max SV.Gen.unaryMinPow m by omega] at hoper
    exact .full (.neg hoper) hc
  | @bin l r tl tr kl kr o hl hr ho hkl hkr ihl ihr =>
    obtain ⟨hm, hfac, hop⟩ := hk.resolve_left (Nat.ne_of_lt (two_bp_lt_top o))
    rw [postfixLoop_not_fac _ _ (ne_fac_of_not_headFac hfac)] at hc
    have hst : Stop (bp o + 1) rest := fun o' tl' he => by have := hop o' tl' he; omega
    have hrhs := ihr (m := bp o + 1) (.inr ⟨by omega, hfac, fun o' tl' he => by have := hst o' tl' he; omega⟩)
      (loop_stops _ hfac hst)
    have hno : ¬ HeadFac (.op o :: (tr ++ rest)) := fun hf => ho (Tok.op.inj ((headFac_cons_iff _ _).mp hf))
    have := ihl (m := m) (rest := .op o :: (tr ++ rest))
      (.inr ⟨by omega, hno, fun o' tl' he => by cases he; exact hkl⟩)
      (by rw [postfixLoop_not_fac _ _ (ne_fac_of_not_headFac hno)]; exact .step (by omega) hrhs hc)
    simpa using this

theorem CR.whole {e : Expr N} {p : List (Tok N)} {k : Nat} (h : CR e p k) : R .full p 0 e [] := by
  simpa using h.reads (m := 0) (rest := []) (.inr ⟨Nat.zero_le _, id, fun o tl he => by cases he⟩)
    (loop_stops _ id fun o tl he => by cases he)

theorem CR.parse {e : Expr N} {ts : List (Tok N)} {k : Nat} (h : CR e (impliedMul ts) k) :
    parseTokens ts = .ok e :=
  (parseTokens_iff_R ts e).mpr h.whole

theorem CR.level_le {e : Expr N} {p : List (Tok N)} {k : Nat} (h : CR e p k) : k ≤ top := by
  cases h with
  | neg => decide
  | bin o => exact Nat.le_of_lt (two_bp_lt_top o)
  | _ => exact Nat.le_refl _

theorem CR.ne_nil {e : Expr N} {p : List (Tok N)} {k : Nat} (h : CR e p k) : p ≠ [] := by
  cases h <;> simp

/-- the first token of a reading of level `k`: an operand, a function name, `(`, or the minus sign of a negation
(level `2 · unaryMinPow − 1`) -/
def HeadTok (k : Nat) : Tok N → Prop
  | .num _ | .var _ | .const _ | .func _ | .lp => True
  | .op o => o = .sub ∧ k < 2 * SV.Gen.unaryMinPow
  | .rp => False

theorem HeadTok.mono {P Q : Nat} {t : Tok N} (h : HeadTok P t) (hq : Q ≤ P) : HeadTok Q t := by
  cases t with
  | op o => exact ⟨h.1, Nat.lt_of_le_of_lt hq h.2⟩
  | _ => exact h

/-- a reading begins with an operand, a function name, `(`, or — below the level of a negation — `-` -/
theorem CR.head {e : Expr N} {p : List (Tok N)} {k : Nat} (h : CR e p k) : ∀ t ∈ p.head?, HeadTok k t := by
  have app {tl : List (Tok N)} {kl : Nat} (more : List (Tok N)) (hne : tl ≠ [])
      (ih : ∀ t ∈ tl.head?, HeadTok kl t) {K : Nat} (hK : K ≤ kl) : ∀ t ∈ (tl ++ more).head?, HeadTok K t := by
    obtain ⟨a, l, rfl⟩ := List.exists_cons_of_ne_nil hne
    exact fun t ht => (ih t ht).mono hK
  induction h with
  | num | var | const | paren | func => intro t ht; cases ht; trivial
  | post h ih => exact app _ h.ne_nil ih (Nat.le_refl _)
  | neg h hkv ih => intro t ht; cases ht; exact ⟨rfl, by decide⟩
  | bin o hl hr ho hkl hkr ihl ihr => exact app _ hl.ne_nil ihl hkl

/-- the in-order listing of a tree's tokens without parentheses (`*` for both `*` and `·`) -/
def flat : Expr N → List (Tok N)
  | .num x => [.num x]
  | .var s => [.var s]
  | .const c => [.const c]
  | .func f i => .func f :: flat i
  | .pre o v => .op o :: flat v
  | .post o v => flat v ++ [.op o]
  | .bin o l r _ => flat l ++ .op o :: flat r

/-- drop the parentheses and read `·` as `*` -/
def stripParens : List (Tok N) → List (Tok N)
  | [] => []
  | .lp :: ts => stripParens ts
  | .rp :: ts => stripParens ts
  | .op .cdot :: ts => .op .mul :: stripParens ts
  | t :: ts => t :: stripParens ts

theorem stripParens_append (a b : List (Tok N)) : stripParens (a ++ b) = stripParens a ++ stripParens b := by
  induction a using stripParens.induct with
  | case1 => rfl
  | case2 ts ih => simpa [stripParens] using ih
  | case3 ts ih => simpa [stripParens] using ih
  | case4 ts ih => simpa [stripParens] using ih
  | case5 t ts h1 h2 h3 ih =>
    rw [List.cons_append, stripParens, stripParens, ih]
    · rfl
    all_goals assumption

theorem flat_setParen (e : Expr N) : flat (setParen e) = flat e := by cases e <;> rfl

theorem PR.flat_eq {e : Expr N} {ts : List (Tok N)} {k : Nat} (h : PR e ts k) : flat e = stripParens ts := by
  induction h with
  | num | var | const => rfl
  | paren h ih =>
    rw [flat_setParen, ih, List.cons_append, stripParens, stripParens_append]
    simp [stripParens]
  | func f h ih =>
    rw [flat, flat_setParen, ih]
    simp [stripParens, stripParens_append]
  | post h ih => rw [flat, ih, stripParens_append]; rfl
  | neg M h _ _ ih => rw [flat, ih]; rfl
  | bin o hl hr ho _ _ ihl ihr =>
    rw [flat, ihl, ihr, stripParens_append]
    cases o <;> first | rfl | exact absurd rfl ho

theorem setParen_ne_unflagged (e : Expr N) (o : Op) (l r : Expr N) : setParen e ≠ .bin o l r false := by
  cases e <;> simp [setParen]

theorem setParen_eq_pre {e v : Expr N} {o : Op} (h : setParen e = .pre o v) : e = .pre o v := by
  cases e <;> simp_all [setParen]

/-- an unflagged binary node of a reading was put together by the binary rule: it holds together exactly
as its operator token does, the left operand at least as tightly, the right one strictly tighter -/
theorem PR.bin_inv {o : Op} {a b : Expr N} {ts : List (Tok N)} {k : Nat} (h : PR (.bin o a b false) ts k) :
    ∃ p, o = (if p = .cdot then .mul else p) ∧ k = 2 * bp p ∧
      ∃ tl tr kl kr, PR a tl kl ∧ PR b tr kr ∧ 2 * bp p ≤ kl ∧ 2 * bp p < kr := by
  generalize he : Expr.bin o a b false = e at h
  cases h with
  | num | var | const | func | post | neg => cases he
  | paren h => exact absurd he.symm (setParen_ne_unflagged _ _ _ _)
  | bin p hl hr hp hkl hkr =>
    cases he
    exact ⟨p, rfl, rfl, _, _, _, _, hl, hr, hkl, hkr⟩

end SV.C19
