import SV.Props.C01
import SV.Lemmas.Sparse
import SV.Lemmas.C16InterSem
/-!
Lemmas for `SV.Props.C02Agree` (agreement of the univariate and the multivariate parser on their common
language).  The dense side rests on an end result of the univariate parser, hence the import of `SV.Props.C01`
(`eval_eq_sum`); the sparse side on `SV.Lemmas.Sparse` and the converse `SV.C16Inter.parse_inv`.  The common language is the
univariate grammar of `SV.Lemmas.C01` with an ASCII letter as the variable.  Its syntax is translated
into the multivariate syntax (`tr`): same text (`render_tr`), well formed (`tr_wf`), meaning
`(signed coefficient, [(letter, power)] or [])` (`sem_tr`).  `numK` reads `Text.Num` expressions in an
arbitrary field; in characteristic 0 that is the image of the exact rational value the two grammar
theorems speak about.  `agree_core` evaluates both parse results, and `common_of_both_ok` shows that
*every* text both parser models accept belongs to the common language, so that the agreement theorem
needs no grammar hypothesis.
-/
namespace SV.C02Agree
open SV SV.Text SV.Poly

/-- `C02.UDec.ofText` under the name the statements of `SV.Props.C02Agree` use -/
def trU (u : Text.UDec) : C02.UDec := ⟨u.ip, u.fp, u.dot⟩

theorem trU_render (u : Text.UDec) : (trU u).render = u.render := rfl
theorem trU_value (u : Text.UDec) : (trU u).value = u.value := rfl

def trCoef : Option Text.UDec → C02.Coef
  | none => .none
  | some u => .dec (trU u)

/-- the exponent digits as a decimal spelling without `.` -/
def expU (ds : List Char) : C02.UDec := ⟨ds, [], false⟩

def trBody (v : Char) : C01.Body → List C02.Factor
  | .const => []
  | .var => [⟨v, none⟩]
  | .varPow ds => [⟨v, some (.dec false (expU ds))⟩]

/-- a univariate term with variable letter `v` as a multivariate term -/
def tr (v : Char) (t : C01.TermSyn) : C02.TermSyn := ⟨t.neg, trCoef t.coef, trBody v t.body⟩

theorem trCoef_render (o : Option Text.UDec) : (trCoef o).render = C01.renderCoef o := by
  cases o <;> rfl

theorem trBody_render (v : Char) (b : C01.Body) : C02.renderFactors (trBody v b) = b.render v := by
  cases b with
  | const => rfl
  | var => rfl
  | varPow ds =>
    simp [trBody, C02.renderFactors, C02.Factor.render, C02.Expo.render, C02.signChars, expU,
      C02.UDec.render, C01.Body.render]

theorem tr_body (v : Char) (t : C01.TermSyn) : (tr v t).body = t.renderAbs v := by
  unfold C02.TermSyn.body C01.TermSyn.renderAbs
  rw [show (tr v t).coef = trCoef t.coef from rfl, show (tr v t).factors = trBody v t.body from rfl,
    trCoef_render, trBody_render]

theorem render_tr (v : Char) (lead : Bool) (ts : List C01.TermSyn) :
    C02.render lead (ts.map (tr v)) = C01.render v lead ts := by
  cases ts with
  | nil => rfl
  | cons t ts =>
    simp only [List.map_cons, C02.render, C01.render, tr_body, List.flatMap_map]
    rfl

theorem letter_varOK {v : Char} (hv : isAsciiLetter v = true) : C01.VarOK v :=
  ⟨letter_not_digit hv, letter_ne_dot hv, letter_ne_plus hv, letter_ne_dash hv,
    letter_ne_caret hv⟩

theorem tr_wf {cap : Nat} {v : Char} (hv : isAsciiLetter v = true) {t : C01.TermSyn}
    (ht : t.WF cap) : (tr v t).WF := by
  rcases t with ⟨neg, coef, body⟩
  have hc : (trCoef coef).WF := by
    cases coef with
    | none => trivial
    | some u => exact C02.UDec.ofText_wf (ht.coef_wf u rfl)
  cases body with
  | const =>
    refine ⟨hc, (fun _ h => nomatch h), (fun _ h => nomatch h), List.nodup_nil, Or.inl ?_⟩
    cases coef with
    | none => exact absurd rfl (ht.const_coef rfl)
    | some u => exact nofun
  | var =>
    exact ⟨hc, fun f hf => List.mem_singleton.1 hf ▸ hv,
      (fun f hf e he => by rw [List.mem_singleton.1 hf] at he; cases he),
      List.pairwise_singleton _ _, Or.inr (List.cons_ne_nil _ _)⟩
  | varPow ds =>
    obtain ⟨h1, h2, _⟩ := ht.exp_wf ds rfl
    refine ⟨hc, fun f hf => List.mem_singleton.1 hf ▸ hv, ?_, List.pairwise_singleton _ _,
      Or.inr (List.cons_ne_nil _ _)⟩
    intro f hf e he
    obtain rfl := List.mem_singleton.1 hf
    cases he
    exact ⟨h2, (fun _ h => nomatch h), Or.inl h1, fun _ => rfl⟩

theorem tr_wf_all {cap : Nat} {v : Char} (hv : isAsciiLetter v = true) {ts : List C01.TermSyn}
    (hts : C01.WellFormed cap ts) : ∀ u ∈ ts.map (tr v), u.WF := by
  intro u hu
  obtain ⟨t, ht, rfl⟩ := List.mem_map.1 hu
  exact tr_wf hv (hts t ht)

/-- the variables a univariate term mentions, with their powers: nothing for a constant -/
def varsOf (v : Char) (t : C01.TermSyn) : List (String × ℚ) :=
  if t.body.writesVar then [(String.singleton v, (t.pow : ℚ))] else []

/-- **the translation has the same meaning**: signed coefficient value, and the variable with the
power written (none for a constant term) -/
theorem sem_tr (v : Char) (t : C01.TermSyn) : (tr v t).sem = (t.value, varsOf v t) := by
  rcases t with ⟨neg, coef, body⟩
  unfold C02.TermSyn.sem
  congr 1
  · cases coef <;> rfl
  · cases body with
    | const => simp [tr, trBody, varsOf, C01.Body.writesVar]
    | var =>
      simp [tr, trBody, varsOf, C01.Body.writesVar, C02.Factor.expValue, C01.TermSyn.pow,
        C01.Body.pow]
    | varPow ds =>
      simp [tr, trBody, varsOf, C01.Body.writesVar, C02.Factor.expValue, C01.TermSyn.pow,
        C01.Body.pow, C02.Expo.value, C02.sgn, expU, C02.UDec.value, C02.UDec.mant]

/-- A `Text.Num` read in a field: a decimal literal `(-1)^neg · mant / 10^scale`, and the operations
`/`, `+` the parsers perform, as the field's own operations (no detour through `ℚ`). -/
def numK (K : Type) [DivisionRing K] : Num → K
  | .dec d => (if d.neg then -1 else 1) * (d.mant : K) / (10 : K) ^ d.scale
  | .div a b => numK K a / numK K b
  | .add a b => numK K a + numK K b

section
variable {K : Type} [Field K] [CharZero K]

theorem numK_eq_cast (n : Num) : numK K n = ((n.val : ℚ) : K) := by
  induction n with
  | dec d =>
    simp only [numK, Num.val, Dec.val]
    cases d.neg <;> simp
  | div a b iha ihb => simp only [numK, Num.val, iha, ihb, Rat.cast_div]
  | add a b iha ihb => simp only [numK, Num.val, iha, ihb, Rat.cast_add]

theorem numK_zero : numK K Num.zero = 0 := by simp [numK, Num.zero]

/-- the dense coefficient vector built from the terms as written, read in `K` and evaluated by the model
of `eval_simple_polynomial`, is the sum of those terms -/
theorem evalSimple_dense (ts : List C01.TermSyn) (x : K) :
    evalSimple ((C01.dense (ts.map fun t => (t.num, t.pow))).map (numK K)) x =
      (ts.map fun t => ((t.value : ℚ) : K) * x ^ t.pow).sum := by
  rw [SV.Props.C01.eval_eq_sum, C01.dense_eval (numK K) (fun _ _ => rfl) numK_zero, List.map_map]
  exact congrArg List.sum
    (List.map_congr_left fun t _ => by rw [Function.comp, numK_eq_cast, t.num_val])

def instTerm (K : Type) [DivisionRing K] (t : C02.ITerm) : Term K :=
  ⟨numK K t.coef, t.vars.map fun p => (p.1, numK K p.2)⟩

/-- a parsed multivariate polynomial with its numbers read in `K`: the `IntermediatePolynomial` -/
def instPoly (K : Type) [DivisionRing K] (p : C02.IParsed) : IPoly K :=
  ⟨p.terms.map (instTerm K), p.variables⟩

/-- value of a meaning `(coefficient, [(name, exponent)])` when every variable has the value `x` -/
def semVal (powf : K → K → K) (x : K) (s : ℚ × List (String × ℚ)) : K :=
  (s.1 : K) * (s.2.map fun p => powf x (p.2 : K)).prod

theorem termVal_instTerm (powf : K → K → K) (x : K) (t : C02.ITerm) :
    (instTerm K t).coef * ((instTerm K t).vars.map fun p => powf x p.2).prod = semVal powf x t.sem := by
  simp only [instTerm, semVal, C02.ITerm.sem, List.map_map, numK_eq_cast, C02.numVal_eq_val]
  rfl

omit [CharZero K] in
theorem semVal_tr (powf : K → K → K) (hpow : ∀ (x : K) (n : ℕ), powf x (n : K) = x ^ n) (x : K)
    (v : Char) (t : C01.TermSyn) :
    semVal powf x (tr v t).sem = ((t.value : ℚ) : K) * x ^ t.pow := by
  rw [sem_tr]
  unfold semVal varsOf
  cases hb : t.body.writesVar with
  | true => simp [hpow]
  | false =>
    have : t.pow = 0 := by
      unfold C01.TermSyn.pow
      cases hbody : t.body <;> simp [hbody, C01.Body.writesVar] at hb ⊢
      rfl
    simp [this]

theorem eq_singleton_of_nodup {α : Type} {l : List α} {a : α} (hnd : l.Nodup)
    (hall : ∀ b ∈ l, b = a) (hmem : a ∈ l) : l = [a] := by
  match l, hnd, hall, hmem with
  | [], _, _, hmem => simp at hmem
  | [b], _, hall, _ => rw [hall b (by simp)]
  | b :: c :: rest, hnd, hall, _ =>
    have hb := hall b (by simp)
    have hc := hall c (by simp)
    subst hb
    subst hc
    simp at hnd

/-- Sum of the parsed terms under the assignment `σ`, given their meanings: if `σ` binds every
variable that occurs to `x`, the model of `eval_intermediate_polynomial` returns the sum of the
meanings' values. -/
theorem evalTerms_of_sem (powf : K → K → K) (x : K) (terms : List C02.ITerm)
    (σ : List (String × K)) (hσ : ∀ t ∈ terms, ∀ p ∈ t.vars, lookup σ p.1 = some x) :
    evalTerms powf (terms.map (instTerm K)) σ =
      .ok (((terms.map C02.ITerm.sem).map (semVal powf x)).sum) := by
  rw [evalTerms, evalTermsFrom_eq_sum powf (lookup σ) (fun _ => x) _ 0, zero_add]
  · simp only [List.map_map]
    congr 2
    apply List.map_congr_left
    intro t _
    exact termVal_instTerm powf x t
  · intro t ht p hp
    obtain ⟨t', ht', rfl⟩ := List.mem_map.1 ht
    simp only [instTerm, List.mem_map] at hp
    obtain ⟨p', hp', rfl⟩ := hp
    exact hσ t' ht' p' hp'

theorem trBody_letters (v : Char) (b : C01.Body) :
    (trBody v b).map (·.letter) = if b.writesVar then [v] else [] := by
  cases b <;> rfl

theorem letter_of_mem_factors {v : Char} {t : C01.TermSyn} {f : C02.Factor}
    (hf : f ∈ (tr v t).factors) : f.letter = v ∧ t.body.writesVar = true := by
  have h : f.letter ∈ (trBody v t.body).map (·.letter) := List.mem_map.2 ⟨f, hf, rfl⟩
  rw [trBody_letters] at h
  cases hw : t.body.writesVar with
  | false => rw [hw] at h; cases h
  | true => rw [hw] at h; exact ⟨List.mem_singleton.1 h, rfl⟩

theorem exists_factor_of_writesVar {v : Char} {ts : List C01.TermSyn}
    (h : C01.writesVar ts = true) : ∃ t ∈ ts.map (tr v), ∃ f ∈ t.factors, f.letter = v := by
  obtain ⟨t, ht, hb⟩ := List.any_eq_true.1 h
  have hv : v ∈ (trBody v t.body).map (·.letter) := by rw [trBody_letters, hb]; exact List.mem_singleton.2 rfl
  obtain ⟨f, hf, hl⟩ := List.mem_map.1 hv
  exact ⟨tr v t, List.mem_map.2 ⟨t, ht, rfl⟩, f, hf, hl⟩

theorem variables_of_common {cc : CharClass} {v : Char} {ts : List C01.TermSyn} {s : List Char}
    {p : C02.IParsed} (hp : C02.parse cc s = .ok p)
    (hmem : ∀ n, n ∈ p.variables ↔
      ∃ t ∈ ts.map (tr v), ∃ f ∈ t.factors, n = String.singleton f.letter) :
    p.variables = if C01.writesVar ts then [String.singleton v] else [] := by
  have hall : ∀ n ∈ p.variables, n = String.singleton v ∧ C01.writesVar ts = true := by
    intro n hn
    obtain ⟨t, ht, f, hf, rfl⟩ := (hmem n).1 hn
    obtain ⟨t', ht', rfl⟩ := List.mem_map.1 ht
    obtain ⟨h1, h2⟩ := letter_of_mem_factors hf
    exact ⟨by rw [h1], List.any_eq_true.2 ⟨t', ht', h2⟩⟩
  cases hw : C01.writesVar ts with
  | false =>
    simp only [Bool.false_eq_true, if_false]
    apply List.eq_nil_iff_forall_not_mem.2
    intro n hn
    have := (hall n hn).2
    rw [hw] at this
    cases this
  | true =>
    simp only [if_true]
    apply eq_singleton_of_nodup ((C02.parse_eq_ok_iff.1 hp).2.2 ▸ C02.nodup_variablesOf p.terms)
      (fun n hn => (hall n hn).1)
    obtain ⟨t, ht, f, hf, hl⟩ := exists_factor_of_writesVar (v := v) hw
    exact (hmem _).2 ⟨t, ht, f, hf, by rw [hl]⟩

/-- **Core of the agreement theorem** (hypotheses in the weak form the converse direction needs: the
letter has to be alphabetic for `cc` only if it is written at all).  For every text of the common
language both parsers accept, the variable information agrees, and the two evaluations — the dense
`eval_simple_polynomial` and the sparse `eval_intermediate_polynomial` (through
`eval_univariate` as well as with the explicit binding) — both return the sum of the written terms. -/
theorem agree_core (powf : K → K → K) (hpow : ∀ (x : K) (n : ℕ), powf x (n : K) = x ^ n)
    {cc : CharClass} (h1 : cc.Sane) (h2 : C02.Sane cc) (cap : Nat) {v : Char}
    (hv : isAsciiLetter v = true) (lead : Bool) {ts : List C01.TermSyn}
    (hwf : C01.WellFormed cap ts) (hva : C01.writesVar ts = true → cc.isAlpha v = true)
    {s : List Char} (hs : stripWs cc s = C01.render v lead ts) :
    ∃ p1 p2, C01.parse cc cap s = .ok p1 ∧ C02.parse cc s = .ok p2 ∧
      p1.var = (if C01.writesVar ts then some v else none) ∧
      p2.variables = (if C01.writesVar ts then [String.singleton v] else []) ∧
      ∀ x : K,
        evalSimple (p1.coeffs.map (numK K)) x =
          (ts.map fun t => ((t.value : ℚ) : K) * x ^ t.pow).sum ∧
        evalTerms powf (instPoly K p2).terms [(String.singleton v, x)] =
          .ok ((ts.map fun t => ((t.value : ℚ) : K) * x ^ t.pow).sum) ∧
        evalUni powf (instPoly K p2) x =
          .ok ((ts.map fun t => ((t.value : ℚ) : K) * x ^ t.pow).sum) := by
  have hp1 := C01.parse_render_eq h1 (letter_varOK hv) hwf hva hs
  have hwf' := tr_wf_all hv hwf
  have hread : (ts.map (tr v)).map C02.TermSyn.read = (ts.map (tr v)).map C02.TermSyn.toITerm :=
    List.map_congr_left fun t ht => C16Inter.read_eq_toITerm (hwf' t ht).distinct
  obtain ⟨p2, hp2, hsem, hmem⟩ : ∃ p2, C02.parse cc s = .ok p2 ∧
      p2.terms.map C02.ITerm.sem = (ts.map (tr v)).map C02.TermSyn.sem ∧
      ∀ n, n ∈ p2.variables ↔
        ∃ t ∈ ts.map (tr v), ∃ f ∈ t.factors, n = String.singleton f.letter :=
    ⟨_, C02.parse_render' h2.numeric lead (ts.map (tr v)) (fun t ht => (hwf' t ht).wf') s
        (by rw [render_tr]; exact hs),
      by rw [hread, List.map_map]; exact List.map_congr_left fun t _ => C02.sem_toITerm t,
      C16Inter.mem_variablesOf_read _⟩
  have hvars := variables_of_common hp2 hmem
  have hcanon := (C02.parse_eq_ok_iff.1 hp2).2.2
  -- every variable that occurs in a term is the letter, and then the letter is written
  have hocc : ∀ t ∈ p2.terms, ∀ p ∈ t.vars,
      p.1 = String.singleton v ∧ C01.writesVar ts = true := by
    intro t ht p hp
    have hin : p.1 ∈ p2.variables :=
      hcanon ▸ (C02.mem_variablesOf _ _).2 ⟨t, ht, List.mem_map.2 ⟨p, hp, rfl⟩⟩
    rw [hvars] at hin
    split at hin
    · exact ⟨List.mem_singleton.1 hin, ‹_›⟩
    · cases hin
  have hsum : ∀ x : K, ((p2.terms.map C02.ITerm.sem).map (semVal powf x)).sum =
      (ts.map fun t => ((t.value : ℚ) : K) * x ^ t.pow).sum := by
    intro x
    rw [hsem]
    simp only [List.map_map]
    congr 1
    apply List.map_congr_left
    intro t _
    exact semVal_tr powf hpow x v t
  -- the sparse evaluation under any binding list that binds the letter, if it is written, to `x`
  have hev : ∀ (x : K) (σ : List (String × K)),
      (C01.writesVar ts = true → lookup σ (String.singleton v) = some x) →
      evalTerms powf (instPoly K p2).terms σ =
        .ok ((ts.map fun t => ((t.value : ℚ) : K) * x ^ t.pow).sum) := by
    intro x σ hσ
    rw [← hsum x]
    apply evalTerms_of_sem
    intro t ht p hp
    rw [(hocc t ht p hp).1]
    exact hσ (hocc t ht p hp).2
  have hbind : ∀ x : K, evalTerms powf (instPoly K p2).terms [(String.singleton v, x)] =
      .ok ((ts.map fun t => ((t.value : ℚ) : K) * x ^ t.pow).sum) :=
    fun x => hev x _ fun _ => (lookup_single _ x _).trans (if_pos rfl)
  refine ⟨_, p2, hp1, hp2, rfl, hvars, fun x => ⟨evalSimple_dense ts x, hbind x, ?_⟩⟩
  unfold evalUni
  simp only [instPoly, hvars]
  cases hw : C01.writesVar ts with
  | true =>
    simp only [if_true, List.length_singleton, gt_iff_lt, Nat.lt_irrefl, if_false]
    exact hbind x
  | false =>
    simp only [Bool.false_eq_true, if_false, List.length_nil, gt_iff_lt, Nat.not_lt_zero]
    exact hev x [] fun h => absurd (hw ▸ h) Bool.false_ne_true

end

theorem render_const_indep {ts : List C01.TermSyn} (h : ∀ t ∈ ts, t.body = .const) (v w : Char)
    (lead : Bool) : C01.render v lead ts = C01.render w lead ts := by
  have hAbs : ∀ t ∈ ts, t.renderAbs v = t.renderAbs w := by
    intro t ht
    unfold C01.TermSyn.renderAbs
    rw [h t ht]
    rfl
  cases ts with
  | nil => rfl
  | cons t ts =>
    simp only [C01.render]
    rw [hAbs t (by simp)]
    congr 1
    apply List.flatMap_congr
    intro u hu
    rw [hAbs u (by simp [hu])]

/-- **A text accepted by both parser models is a text of the common language**: its
non-white-space characters are the univariate rendering of a well-formed term list whose variable is
an ASCII letter (alphabetic for `cc` if it is written at all).  `hslash` (`/` is not alphabetic) is
the one fact about `is_alphabetic` that neither `Sane` structure lists. -/
theorem common_of_both_ok {cc : CharClass} (h1 : cc.Sane) (hslash : cc.isAlpha '/' = false)
    {cap : Nat} {s : List Char} {p1 : C01.SParsed} {p2 : C02.IParsed}
    (hp1 : C01.parse cc cap s = .ok p1) (hp2 : C02.parse cc s = .ok p2) :
    ∃ (v : Char) (lead : Bool) (ts : List C01.TermSyn), isAsciiLetter v = true ∧
      (C01.writesVar ts = true → cc.isAlpha v = true) ∧ C01.WellFormed cap ts ∧
      stripWs cc s = C01.render v lead ts := by
  obtain ⟨v, lead, ts, hvok, hva, hwf, hs, -⟩ := C01.parse_ok_inv h1 hp1
  cases hw : C01.writesVar ts with
  | false =>
    refine ⟨'x', lead, ts, by decide, by simp [hw], hwf, ?_⟩
    rw [hs]
    exact render_const_indep (C01.not_writesVar hw) v 'x' lead
  | true =>
    refine ⟨v, lead, ts, ?_, hva, hwf, hs⟩
    have halpha := hva hw
    -- `v` occurs in the text, and the multivariate model accepts only `+` and body characters
    obtain ⟨lead2, ts2, hwf2, hs2, _⟩ := C16Inter.parse_inv hp2
    have hmem : v ∈ C02.render lead2 ts2 := by rw [← hs2, hs]; exact C01.var_mem_render hw
    rcases C02.mem_render hwf2 hmem with hb | hb | hb | hb | hb | hb | hb
    · exact absurd hb hvok.2.2.1
    · rw [hvok.1] at hb; cases hb
    · exact hb
    · exact absurd hb hvok.2.1
    · subst hb; rw [hslash] at halpha; cases halpha
    · exact absurd hb hvok.2.2.2.1
    · exact absurd hb hvok.2.2.2.2

end SV.C02Agree
