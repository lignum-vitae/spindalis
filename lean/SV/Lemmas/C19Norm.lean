import SV.Lemmas.C19Eval
import SV.Lemmas.C19Print
import Mathlib.Tactic.FieldSimp
/-!
Lemmas for C19: `norm` does not change what a tree denotes — the canonical decimal has the same value
and the evaluator ignores `paren` flags.
-/
namespace SV.C19
open SV SV.Text

theorem canonGo_val (m s : Nat) :
    ((canonGo m s).1 : ℚ) / (10 : ℚ) ^ (canonGo m s).2 = (m : ℚ) / (10 : ℚ) ^ s := by
  induction s generalizing m with
  | zero => simp [canonGo]
  | succ n ih =>
    by_cases h : m % 10 = 0
    · rw [canonGo_of_mod_eq h, ih]
      have hm : (m : ℚ) = 10 * ((m / 10 : Nat) : ℚ) := by
        have : m = 10 * (m / 10) := by omega
        exact_mod_cast this
      rw [hm, pow_succ]
      have h10 : (10 : ℚ) ≠ 0 := by norm_num
      have hp : (10 : ℚ) ^ n ≠ 0 := pow_ne_zero _ h10
      field_simp
    · rw [canonGo_of_mod_ne h]

theorem canon_val (d : Dec) : (canon d).val = d.val := by
  unfold Dec.val canon
  simp only
  rw [mul_div_assoc, canonGo_val, ← mul_div_assoc]

theorem map_norm (e : Expr Dec) : ∀ (S : Sem ℚ), eval S ((norm e).map Dec.val) = eval S (e.map Dec.val) := by
  intro S
  induction e with
  | num x => simp [norm, Expr.map, eval, canon_val]
  | var s => rfl
  | const c => rfl
  | func f i ih => simp only [norm, Expr.map, eval, ih]
  | pre o v ih => simp only [norm, Expr.map, eval, ih]
  | post o v ih => simp only [norm, Expr.map, eval, ih]
  | bin o l r p ihl ihr => simp only [norm, Expr.map, eval, ihl, ihr]

theorem eval_eq_of_norm_eq {e e' : Expr Dec} (h : norm e' = norm e) (S : Sem ℚ) :
    eval S (e'.map Dec.val) = eval S (e.map Dec.val) := by
  rw [← map_norm e', h, map_norm e]

end SV.C19
