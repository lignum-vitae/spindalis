import SV.Lemmas.RoundingC09
import SV.Lemmas.RoundingC09Plu
import SV.Lemmas.RoundingEx
/-!
Two concrete runs of `SV.C09.lu` / `SV.C09.plu` at `Fl M` in a model with `u > 0` whose rounding is
not the identity (`rnd t = t·(1 + 1/16)`, `u = 1/8`): the support of the non-vacuity examples of
`SV.Props.C09Rounding`.  In both the computed `L U` really differs from `A` resp. `P A`, so the
backward-error theorems are not statements about exact arithmetic, and in the second one the pivot
search really swaps the rows.
-/
namespace SV.C09.Ex
open SV SV.C09 Finset

/-- `[[1, 1], [1, 2]]` -/
noncomputable def Aex : Mat (Fl M8) := ⟨2, 2, #[1, 1, 1, ⟨2⟩]⟩

noncomputable def epsx : Fl M8 := ⟨1 / 4⟩

theorem epsx_pos : 0 < epsx.val := one_div_pos.mpr four_pos

theorem lu_ex_ok : ∃ L U, lu epsx Aex = .ok (L, U) := by
  have hg : ¬ (0 + 1 < 2 ∧ sabs ((luUpper 2 Aex (Mat.tab 2 2 fun _ _ => 0)
      (Mat.tab 2 2 fun _ _ => 0) 0).get 0 0) < epsx) := by
    rw [luUpper_get 2 _ _ _ 0 (by omega) (by omega), if_pos ⟨rfl, le_refl 0⟩]
    simp only [sabs, Fl.lt_iff, sumFrom, List.range', List.foldl, Nat.sub_self, Aex, epsx,
      Mat.get_two, Fl.sub_val, Fl.zero_val, Fl.one_val]
    norm_num [M8_rnd]
  refine Exists.intro ?_ (Exists.intro ?_ ?_)
  pick_goal 3
  unfold lu
  rw [if_neg (by decide)]
  simp only [show Aex.h = 2 from rfl, iter, luStep]
  rw [if_neg hg]
  dsimp only
  rw [if_neg (fun h => absurd h.1 (by decide))]

/-- … and whatever it returns, `(L U)₁₁ ≠ a₁₁`: with `r = 17/16`, `u₀₀ = u₀₁ = l₁₀ = r`,
`u₁₁ = (2 − r⁴)·r` and `(L U)₁₁ = r² + (2 − r⁴)·r ≠ 2` -/
theorem lu_ex_differs {L U : Mat (Fl M8)} (h : lu epsx Aex = .ok (L, U)) :
    ∑ k ∈ range Aex.h, (L.get 1 k).val * (U.get k 1).val ≠ (Aex.get 1 1).val := by
  obtain ⟨_, inv⟩ := lu_ok_ent h
  have e00 := inv.Ueq 0 0 (by decide) (le_refl 0) (by decide)
  have e01 := inv.Ueq 0 1 (by decide) (by decide) (by decide)
  have e11 := inv.Ueq 1 1 (by decide) (le_refl 1) (by decide)
  have l10 := inv.Leq 1 0 (by decide) (by decide) (by decide)
  have l11 := inv.Ld 1 (by decide) (by decide)
  simp only at e00 e01 e11 l10 l11
  show ∑ k ∈ range 2, (L.get 1 k).val * (U.get k 1).val ≠ (Aex.get 1 1).val
  rw [Finset.sum_range_succ, Finset.sum_range_one, l11, e11]
  simp only [sumFrom, List.range', List.foldl]
  rw [l10, e01, e00]
  simp only [sumFrom, List.range', List.foldl, Nat.reduceSub, Aex, Mat.get_two, Fl.sub_val,
    Fl.div_val, Fl.mul_val, Fl.add_val, Fl.zero_val, Fl.one_val, Fl.mk_val, M8_rnd]
  norm_num

/-- `[[1, 1], [2, 1]]`: the pivot search swaps the two rows -/
noncomputable def Bex : Mat (Fl M8) := ⟨2, 2, #[1, 1, ⟨2⟩, 1]⟩

theorem piv0 : pivotRow Bex 2 0 = 1 := by
  simp only [pivotRow, List.range', List.foldl, Nat.reduceSub, Nat.reduceAdd, sabs, Fl.lt_iff, Bex,
    Mat.get_two, Fl.zero_val, Fl.one_val]
  norm_num

theorem swap0 :
    pluSwap 2 (Bex, Mat.ident 2) 0 = (Bex.swapRows 1 0, (Mat.ident 2).swapRows 1 0) := by
  unfold pluSwap
  simp only [piv0]
  rw [if_neg (by decide)]

theorem piv1 (X : Mat (Fl M8)) : pivotRow X 2 1 = 1 := by
  simp [pivotRow]

theorem swap1 (X Y : Mat (Fl M8)) : pluSwap 2 (X, Y) 1 = (X, Y) := by
  unfold pluSwap
  simp only [piv1, if_true]

theorem Wget : (Bex.swapRows 1 0).get 0 0 = ⟨2⟩ ∧ (Bex.swapRows 1 0).get 0 1 = 1 ∧
    (Bex.swapRows 1 0).get 1 0 = 1 ∧ (Bex.swapRows 1 0).get 1 1 = 1 := by
  refine ⟨?_, ?_, ?_, ?_⟩ <;>
  · rw [Mat.get_swapRows Bex 1 0 (show _ < 2 by decide) (show _ < 2 by decide)]
    simp only [Equiv.swap_apply_left, Equiv.swap_apply_right, Bex, Mat.get_two]

/-- the packed array and the permutation the run on `Bex` ends with -/
noncomputable def Wfin : Mat (Fl M8) := pluElim 2 (pluElim 2 (Bex.swapRows 1 0) 0) 1
noncomputable def Pfin : Mat (Fl M8) := (Mat.ident 2).swapRows 1 0

theorem plu_ex_ok : plu epsx Bex = .ok (splitL 2 Wfin, splitU 2 Wfin, Pfin) := by
  have g0 : ¬ (sabs ((Bex.swapRows 1 0).get 0 0) < epsx) := by
    rw [Wget.1]
    norm_num [sabs, Fl.lt_iff, epsx]
  have g1 : ¬ (sabs ((pluElim 2 (Bex.swapRows 1 0) 0).get 1 1) < epsx) := by
    rw [pluElim_get 2 _ 0 (by decide) (by decide), if_pos (by decide), if_neg (by decide),
      if_pos (by decide), Wget.1, Wget.2.1, Wget.2.2.1, Wget.2.2.2]
    simp only [sabs, Fl.lt_iff, epsx, Fl.sub_val, Fl.div_val, Fl.mul_val, Fl.zero_val, Fl.one_val]
    norm_num [M8_rnd]
  unfold plu
  rw [if_neg (by decide)]
  simp only [show Bex.h = 2 from rfl, iter, pluStep]
  rw [swap0]
  dsimp only
  rw [if_neg g0]
  dsimp only
  rw [swap1]
  dsimp only
  rw [if_neg g1]
  rfl

/-- `(L U)₁₀ = l₁₀·u₀₀ = (r/2)·2 = r ≠ 1 = (P A)₁₀` -/
theorem plu_ex_differs :
    ∑ k ∈ range Bex.h, ((splitL 2 Wfin).get 1 k).val * ((splitU 2 Wfin).get k 0).val
      ≠ ∑ k ∈ range Bex.h, (Pfin.get 1 k).val * (Bex.get k 0).val := by
  have l10 : (splitL 2 Wfin).get 1 0 = (1 : Fl M8) / ⟨2⟩ := by
    rw [splitL_get 2 _ (by decide) (by decide), if_neg (by decide), if_pos (by decide), Wfin,
      pluElim_get 2 _ 1 (by decide) (by decide), if_neg (by decide),
      pluElim_get 2 _ 0 (by decide) (by decide), if_pos (by decide), if_pos rfl, Wget.1,
      Wget.2.2.1]
  have l11 : (splitL 2 Wfin).get 1 1 = 1 := by
    rw [splitL_get 2 _ (by decide) (by decide), if_pos rfl]
  have u00 : (splitU 2 Wfin).get 0 0 = ⟨2⟩ := by
    rw [splitU_get 2 _ (by decide) (by decide), if_pos (le_refl 0), Wfin,
      pluElim_get 2 _ 1 (by decide) (by decide), if_neg (by decide),
      pluElim_get 2 _ 0 (by decide) (by decide), if_neg (by decide), Wget.1]
  have u10 : (splitU 2 Wfin).get 1 0 = 0 := by
    rw [splitU_get 2 _ (by decide) (by decide), if_neg (by decide)]
  have p10 : Pfin.get 1 0 = 1 := by
    rw [Pfin, Mat.get_swapRows _ 1 0 (show _ < 2 by decide) (show _ < 2 by decide)]
    simp [Mat.get_ident]
  have p11 : Pfin.get 1 1 = 0 := by
    rw [Pfin, Mat.get_swapRows _ 1 0 (show _ < 2 by decide) (show _ < 2 by decide)]
    simp [Mat.get_ident]
  show ∑ k ∈ range 2, ((splitL 2 Wfin).get 1 k).val * ((splitU 2 Wfin).get k 0).val
      ≠ ∑ k ∈ range 2, (Pfin.get 1 k).val * (Bex.get k 0).val
  rw [Finset.sum_range_succ, Finset.sum_range_one, Finset.sum_range_succ, Finset.sum_range_one,
    l10, l11, u00, u10, p10, p11]
  simp only [Bex, Mat.get_two, Fl.div_val, Fl.zero_val, Fl.one_val, Fl.mk_val, M8_rnd]
  norm_num

end SV.C09.Ex
