import SV.Lemmas.RoundingC09Plu
import SV.Lemmas.Elim
/-!
The multiplier bound of partial pivoting at the rounding scalar `Fl M`.

Over a field the pivot search makes every multiplier `|l_ij| ≤ 1` (`SV.C09.PluInv.mult`).  At `Fl M`
the search compares the values `sabs x = if x < 0 then −x else x`, and the model charges the negation
one rounding (it assumes nothing about `rnd` but its relative accuracy), so
`|x|·(1 − u) ≤ sabs x ≤ |x|·(1 + u)`; the comparisons themselves are exact.  Hence after the swap
`|w_ki|·(1 − u) ≤ |w_ii|·(1 + u)` for every `k ≥ i`, and the multiplier `fl(w_ki / w_ii)` is at most

    (1 + u)² / (1 − u)      (`= 1` for `u = 0`; `≤ 1 + 4u` for `u ≤ 1/5`)

in size.  (In IEEE arithmetic negation is exact and rounding is monotone, so there `|l_ij| ≤ 1`
exactly; the model does not know that.)  `PluMult` is the corresponding loop invariant, carried next
to `PluEnt`.
-/

namespace SV.C09
open SV Finset

variable {M : FlModel}

noncomputable def multBound (M : FlModel) : ℝ := (1 + M.u) ^ 2 / (1 - M.u)

theorem multBound_ideal : multBound FlModel.ideal = 1 := by
  simp [multBound, FlModel.ideal]

theorem pivotRow_max (lu : Mat (Fl M)) (n i : ℕ) :
    ∀ k, i ≤ k → k < n →
      (sabs (lu.get k i)).val ≤ (sabs (lu.get (pivotRow lu n i) i)).val :=
  (argmaxFrom_max Fl.val Fl.lt_iff (fun k => sabs (lu.get k i)) n i).2

/-- the multipliers stored so far are at most `(1+u)²/(1−u)` in size -/
def PluMult (n i : ℕ) (W : Mat (Fl M)) : Prop :=
  ∀ r c, r < n → c < min r i → |(W.get r c).val| ≤ multBound M

theorem pluMult_init (n : ℕ) (W : Mat (Fl M)) : PluMult n 0 W := by
  intro r c _ hc
  simp at hc

theorem abs_div_rnd_le {u x y δ : ℝ} (hu : 0 ≤ u) (hu1 : u < 1) (hy : y ≠ 0) (hδ : |δ| ≤ u)
    (h : |x| * (1 - u) ≤ |y| * (1 + u)) : |x / y * (1 + δ)| ≤ (1 + u) ^ 2 / (1 - u) := by
  have h1u : 0 < 1 - u := by linarith
  have hq : |x| / |y| ≤ (1 + u) / (1 - u) := by
    rw [div_le_div_iff₀ (abs_pos.mpr hy) h1u, mul_comm (1 + u)]
    exact h
  have hδ' : |1 + δ| ≤ 1 + u := by
    obtain ⟨h1, h2⟩ := abs_le.mp hδ
    exact abs_le.mpr ⟨by linarith, by linarith⟩
  rw [abs_mul, abs_div, pow_two, ← div_mul_eq_mul_div]
  exact mul_le_mul hq hδ' (abs_nonneg _) (div_nonneg (by linarith) h1u.le)

theorem pluStep_ent_mult {n : ℕ} {A : Mat (Fl M)} {eps : Fl M} (heps : 0 < eps.val) {i : ℕ}
    {st st' : Mat (Fl M) × Mat (Fl M)} (hi : i < n)
    (h : (∃ σ, PluEnt n A eps i st σ) ∧ PluMult n i st.1)
    (hs : pluStep eps n st i = some st') :
    (∃ σ, PluEnt n A eps (i+1) st' σ) ∧ PluMult n (i+1) st'.1 := by
  refine ⟨pluStep_ent hi h.1 hs, ?_⟩
  obtain ⟨⟨σ, hσ⟩, hm⟩ := h
  -- after the swap the diagonal entry dominates its column: `|w_ki|·(1 − u) ≤ |w_ii|·(1 + u)`
  obtain ⟨hm', hmax⟩ := pluSwap_below (P := fun x : Fl M => |x.val| ≤ multBound M)
    (R := fun a b : Fl M => |a.val| * (1 - M.u) ≤ |b.val| * (1 + M.u)) hi hσ.hh hσ.hw hσ.ph hσ.pw hm
    fun k hik hk => ((sabs_val_bounds _).1.trans (pivotRow_max st.1 n i k hik hk)).trans
      (sabs_val_bounds _).2
  unfold pluStep at hs
  dsimp only at hs
  split_ifs at hs with hg
  rw [← Option.some.inj hs]
  refine pluElim_below (P := fun x : Fl M => |x.val| ≤ multBound M) hm' fun r hir hr => ?_
  obtain ⟨δ, hδ, hr'⟩ := M.hrnd (((pluSwap n st i).1.get r i).val / ((pluSwap n st i).1.get i i).val)
  rw [Fl.div_val, hr']
  exact abs_div_rnd_le M.hu.1 M.hu.2 (ne_zero_of_not_sabs_lt heps hg) hδ (hmax r hir.le hr)

theorem plu_ok_mult {eps : Fl M} (heps : 0 < eps.val) {A L U P : Mat (Fl M)}
    (h : plu eps A = .ok (L, U, P)) : ∃ lu, PluMult A.h A.h lu ∧ L = splitL A.h lu := by
  obtain ⟨hsq, st, hit, hL, _, _⟩ := plu_ok_iter h
  have := iter_inv (pluStep eps A.h)
    (fun i st => (∃ σ, PluEnt A.h A eps i st σ) ∧ PluMult A.h i st.1) A.h
    (fun i s s' hi hI hs => pluStep_ent_mult heps hi hI hs) A.h 0 _ _ (by omega)
    ⟨⟨1, pluEnt_init A eps A.h rfl hsq.symm⟩, pluMult_init A.h A⟩ hit
  rw [Nat.zero_add] at this
  exact ⟨st.1, this.2, hL⟩

end SV.C09
