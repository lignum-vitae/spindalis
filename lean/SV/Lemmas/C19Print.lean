import SV.Lemmas.C19Yield
/-!
Lemmas for C19, display part (trees).

* `Wf`        the shape of the trees the parser returns (and folding keeps)
* `canon`, `norm`   canonical decimal of a literal; a tree with its `paren` flags cleared and its literals
              canonical — what "the same expression" means for `display_reparse`
-/
namespace SV.C19
open SV SV.Text

/-- a variable name the lexer can produce: one ASCII letter other than `e`/`E` (Euler's constant) -/
def VarName (s : String) : Prop := ∃ c : Char, s = String.singleton c ∧ isAsciiLetter c = true ∧ c ≠ 'e' ∧ c ≠ 'E'

/-- shape of parser results: literals are unsigned, variables single letters, prefix nodes are unary
minus, postfix nodes `!`, binary nodes never carry the temporary `·` nor `!` -/
inductive Wf : Expr Dec → Prop where
  | num {d : Dec} : d.neg = false → Wf (.num d)
  | var {s : String} : VarName s → Wf (.var s)
  | const (c : Const) : Wf (.const c)
  | func (f : Func) {i : Expr Dec} : Wf i → Wf (.func f i)
  | pre {v : Expr Dec} : Wf v → Wf (.pre .sub v)
  | post {v : Expr Dec} : Wf v → Wf (.post .fac v)
  | bin {o : Op} {l r : Expr Dec} (p : Bool) : o ≠ .cdot → o ≠ .fac → Wf l → Wf r → Wf (.bin o l r p)

/-- strip trailing fractional zeros: `1.50 ↦ 1.5`, `2.0 ↦ 2` (same value, the spelling `{}` prints) -/
def canonGo : Nat → Nat → Nat × Nat
  | m, 0 => (m, 0)
  | m, s + 1 => if m % 10 = 0 then canonGo (m / 10) s else (m, s + 1)

def canon (d : Dec) : Dec := ⟨d.neg, (canonGo d.mant d.scale).1, (canonGo d.mant d.scale).2⟩

/-- the tree without its `paren` flags and with canonical literals -/
def norm : Expr Dec → Expr Dec
  | .num x => .num (canon x)
  | .var s => .var s
  | .const c => .const c
  | .func f i => .func f (norm i)
  | .pre o v => .pre o (norm v)
  | .post o v => .post o (norm v)
  | .bin o l r _ => .bin o (norm l) (norm r) false

theorem norm_setParen (e : Expr Dec) : norm (setParen e) = norm e := by cases e <;> rfl

theorem canonGo_of_mod_eq {m : Nat} (h : m % 10 = 0) (s : Nat) : canonGo m (s + 1) = canonGo (m / 10) s := by
  rw [canonGo, if_pos h]

theorem canonGo_of_mod_ne {m : Nat} (h : m % 10 ≠ 0) (s : Nat) : canonGo m (s + 1) = (m, s + 1) := by
  rw [canonGo, if_neg h]

theorem canonGo_idem (m s : Nat) : canonGo (canonGo m s).1 (canonGo m s).2 = canonGo m s := by
  induction s generalizing m with
  | zero => rfl
  | succ n ih =>
    by_cases h : m % 10 = 0
    · rw [canonGo_of_mod_eq h]; exact ih _
    · rw [canonGo_of_mod_ne h]; exact canonGo_of_mod_ne h n

theorem canon_idem (d : Dec) : canon (canon d) = canon d := by
  simp only [canon, canonGo_idem]

theorem norm_num_canon (d : Dec) : norm (.num (canon d)) = norm (.num d) := by
  rw [norm, norm, canon_idem]

theorem norm_bin_congr (o : Op) {l l' r r' : Expr Dec} (p p' : Bool) (hl : norm l' = norm l)
    (hr : norm r' = norm r) : norm (.bin o l' r' p') = norm (.bin o l r p) := by
  rw [norm, norm, hl, hr]

/-- a printed token and whether the implied-multiplication pass will insert `·` after it -/
abbrev Item := Tok Dec × Bool

/-- the token stream after the implied-multiplication pass -/
def dot (is : List Item) : List (Tok Dec) := is.flatMap fun i => if i.2 then [i.1, .op .cdot] else [i.1]

@[simp] theorem dot_nil : dot [] = [] := rfl

def Chain {α : Type} (P : α → α → Prop) : List α → Prop
  | [] => True
  | [_] => True
  | a :: b :: l => P a b ∧ Chain P (b :: l)

theorem Chain.tail {α : Type} {P : α → α → Prop} {a : α} {l : List α} (h : Chain P (a :: l)) : Chain P l := by
  cases l with
  | nil => trivial
  | cons b l => exact h.2

end SV.C19
