/-!
Row-major layout, on plain lists: the offset `r * w + c`, and the concatenation of rows of equal length
`w`, where `take`/`drop` at a multiple of `w` act on the list of rows.  Core Lean only.
-/
namespace SV

theorem row_le {r a w : Nat} (h : r < a) : r * w + w ≤ a * w :=
  Nat.add_one_mul r w ▸ Nat.mul_le_mul_right w h

theorem idx_lt {r c h w : Nat} (hr : r < h) (hc : c < w) : r * w + c < h * w :=
  Nat.lt_of_lt_of_le (Nat.add_lt_add_left hc _) (row_le hr)

theorem idx_div {r c w : Nat} (hc : c < w) : (r * w + c) / w = r := by
  rw [Nat.mul_comm, Nat.mul_add_div (Nat.zero_lt_of_lt hc), Nat.div_eq_of_lt hc, Nat.add_zero]

theorem idx_mod {r c w : Nat} (hc : c < w) : (r * w + c) % w = c := by
  rw [Nat.mul_comm, Nat.mul_add_mod, Nat.mod_eq_of_lt hc]

theorem idx_inj {r c r' c' w : Nat} (hc : c < w) (hc' : c' < w) (e : r * w + c = r' * w + c') :
    r = r' ∧ c = c' :=
  ⟨by rw [← idx_div (r := r) hc, e, idx_div hc'], by rw [← idx_mod (r := r) hc, e, idx_mod hc']⟩

end SV

namespace SV.C12

variable {α : Type}

theorem getElem?_eq_some_getD {l : List α} {k : Nat} (hk : k < l.length) (d : α) :
    l[k]? = some (l[k]?.getD d) := by
  rw [List.getElem?_eq_getElem hk]; rfl

def Uniform (w : Nat) (rows : List (List α)) : Prop := ∀ row ∈ rows, row.length = w

variable {rows : List (List α)} {w : Nat}

theorem Uniform.getElem (hu : Uniform w rows) {r : Nat} (hr : r < rows.length) : rows[r].length = w :=
  hu _ (List.getElem_mem hr)

theorem Uniform.take (hu : Uniform w rows) (k : Nat) : Uniform w (rows.take k) :=
  fun row hr => hu row (List.mem_of_mem_take hr)

theorem Uniform.set (hu : Uniform w rows) (r : Nat) {vs : List α} (hv : vs.length = w) :
    Uniform w (rows.set r vs) := by
  intro row hrow
  rcases List.mem_or_eq_of_mem_set hrow with h | rfl
  · exact hu row h
  · exact hv

theorem length_flatten_uniform (hu : Uniform w rows) : rows.flatten.length = rows.length * w := by
  induction rows with
  | nil => simp
  | cons row rest ih =>
    obtain ⟨h1, h2⟩ := List.forall_mem_cons.mp hu
    rw [List.flatten_cons, List.length_append, List.length_cons, h1, ih h2, Nat.add_one_mul, Nat.add_comm]

theorem length_flatten_take {k : Nat} (hu : Uniform w rows) (hk : k ≤ rows.length) :
    (rows.take k).flatten.length = k * w := by
  rw [length_flatten_uniform (hu.take k), List.length_take_of_le hk]

theorem take_flatten_uniform {k : Nat} (hu : Uniform w rows) (hk : k ≤ rows.length) :
    rows.flatten.take (k * w) = (rows.take k).flatten := by
  rw [← List.take_append_drop k rows, List.flatten_append, List.take_left' (length_flatten_take hu hk),
    List.take_append_drop]

theorem drop_flatten_uniform {k : Nat} (hu : Uniform w rows) (hk : k ≤ rows.length) :
    rows.flatten.drop (k * w) = (rows.drop k).flatten := by
  rw [← List.take_append_drop k rows, List.flatten_append, List.drop_left' (length_flatten_take hu hk),
    List.take_append_drop]

theorem getElem?_flatten_uniform {r c : Nat} (hu : Uniform w rows) (hr : r < rows.length) (hc : c < w) :
    rows.flatten[r * w + c]? = rows[r][c]? := by
  rw [← List.getElem?_drop, drop_flatten_uniform hu (Nat.le_of_lt hr), List.drop_eq_getElem_cons hr,
    List.flatten_cons, List.getElem?_append_left (by rw [hu.getElem hr]; exact hc)]

theorem slice_flatten_uniform {r : Nat} (hu : Uniform w rows) (hr : r < rows.length) :
    (rows.flatten.take ((r + 1) * w)).drop (r * w) = rows[r] := by
  rw [take_flatten_uniform hu hr, List.take_succ_eq_append_getElem hr, List.flatten_append,
    List.drop_left' (length_flatten_take hu (Nat.le_of_lt hr)), List.flatten_singleton]

theorem set_flatten_uniform {r : Nat} (hu : Uniform w rows) (hr : r < rows.length) (vs : List α) :
    rows.flatten.take (r * w) ++ vs ++ rows.flatten.drop ((r + 1) * w) = (rows.set r vs).flatten := by
  rw [take_flatten_uniform hu (Nat.le_of_lt hr), drop_flatten_uniform hu hr,
    List.set_eq_take_append_cons_drop, if_pos hr, List.flatten_append, List.flatten_cons,
    List.append_assoc]

/-- the buffer `swap_rows` builds: split at row `hi`, then the first slice of the right part and slice
`lo` of the left part change places -/
theorem swap_flatten_uniform {lo hi : Nat} (hu : Uniform w rows) (hlt : lo < hi)
    (hhi : hi < rows.length) :
    (rows.flatten.take (hi * w)).take (lo * w) ++ (rows.flatten.drop (hi * w)).take w
        ++ (rows.flatten.take (hi * w)).drop ((lo + 1) * w)
        ++ ((rows.flatten.take (hi * w)).take ((lo + 1) * w)).drop (lo * w)
        ++ (rows.flatten.drop (hi * w)).drop w =
      ((rows.set lo rows[hi]).set hi (rows[lo]'(Nat.lt_trans hlt hhi))).flatten := by
  have hl : lo < (rows.take hi).length := by rw [List.length_take_of_le (Nat.le_of_lt hhi)]; exact hlt
  rw [take_flatten_uniform hu (Nat.le_of_lt hhi), drop_flatten_uniform hu (Nat.le_of_lt hhi),
    List.drop_eq_getElem_cons hhi, List.flatten_cons, List.take_left' (hu.getElem hhi),
    List.drop_left' (hu.getElem hhi), set_flatten_uniform (hu.take hi) hl,
    slice_flatten_uniform (hu.take hi) hl, List.getElem_take,
    List.set_eq_take_append_cons_drop (i := hi), if_pos (by rw [List.length_set]; exact hhi),
    List.take_set, List.drop_set_of_lt (Nat.lt_succ_of_lt hlt), List.flatten_append, List.flatten_cons,
    List.append_assoc]

end SV.C12
