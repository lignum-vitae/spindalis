import SV.Model.C17
import SV.Lemmas.Text
import SV.Lemmas.C01
import Mathlib.Tactic.NormNum
/-!
Lemmas for the print / parse round trips of C17, part 1: numbers.

How Rust spells one `f64` is a parameter of the printer models.  What is assumed of such a text is
`IsSpelling`: a plain decimal `digits[.digits]` with an integer digit; `textValue` is the number the
parsers read from it.  The zero trimming of the precision formatters maps a spelling to a spelling of
the same value (`trimU`).  `Close digits` says "reads back as": equal under default formatting, within
half a unit of the last decimal under a precision.
-/
namespace SV.C17
open SV SV.Text SV.C01

theorem natText_eq (n : Nat) : natText n = Nat.toDigits 10 n := toString_toList_nat n

theorem natText_ne_nil (n : Nat) : natText n ≠ [] := by
  rw [natText_eq]; exact Nat.toDigits_ne_nil

theorem natText_digits (n : Nat) : ∀ c ∈ natText n, isAsciiDigit c = true :=
  natText_eq n ▸ toDigits_digits n

theorem digitsVal_natText (n : Nat) : digitsVal (natText n) = n :=
  natText_eq n ▸ digitsVal_toDigits n

/-- **`usize` printing reads back**: the exponent parser accepts `toString n` and returns `n`, for every
`n` up to the cap. -/
theorem parseUsizeCapped_natText {cap n : Nat} (h : n ≤ cap) :
    parseUsizeCapped cap (natText n) = some n := by
  rw [parseUsizeCapped_eq_some]
  exact ⟨natText_ne_nil n, natText_digits n, by rw [digitsVal_natText]; exact h,
    (digitsVal_natText n).symm⟩

theorem trimEnd_snoc_self (c : Char) (s : List Char) : trimEnd c (s ++ [c]) = trimEnd c s := by
  simp [trimEnd]

theorem trimEnd_snoc_ne {c d : Char} (h : d ≠ c) (s : List Char) : trimEnd c (s ++ [d]) = s ++ [d] := by
  simp [trimEnd, h]

theorem trimEnd_nil (c : Char) : trimEnd c [] = [] := rfl

/-- what is trimmed is a block of `c`s, and what is left does not end in `c` -/
theorem trimEnd_spec (c : Char) (s : List Char) :
    (trimEnd c s).getLast? ≠ some c ∧ ∃ k, s = trimEnd c s ++ List.replicate k c := by
  induction s using List.reverseRecOn with
  | nil => exact ⟨nofun, 0, rfl⟩
  | append_singleton s d ih =>
    by_cases hd : d = c
    · subst hd
      obtain ⟨h1, k, hk⟩ := ih
      rw [trimEnd_snoc_self]
      exact ⟨h1, k + 1, by rw [List.replicate_succ', ← List.append_assoc, ← hk]⟩
    · rw [trimEnd_snoc_ne hd, List.getLast?_concat]
      exact ⟨fun e => hd (Option.some.inj e), 0, (List.append_nil _).symm⟩

/-- conversely, a text that does not end in `c`, followed by `c`s, is trimmed to that text -/
theorem trimEnd_eval {c : Char} {a : List Char} (h : a.getLast? ≠ some c) (k : Nat) :
    trimEnd c (a ++ List.replicate k c) = a := by
  induction k with
  | zero =>
    rw [List.replicate_zero, List.append_nil]
    induction a using List.reverseRecOn with
    | nil => rfl
    | append_singleton s d _ =>
      exact trimEnd_snoc_ne (fun e => h (by rw [List.getLast?_concat, e])) s
  | succ k ih => rw [List.replicate_succ', ← List.append_assoc, trimEnd_snoc_self, ih]

theorem mem_of_mem_trimEnd {c d : Char} {s : List Char} (h : d ∈ trimEnd c s) : d ∈ s := by
  obtain ⟨k, hk⟩ := (trimEnd_spec c s).2
  rw [hk]; exact List.mem_append_left _ h

theorem getLast?_digits {s : List Char} (hs : ∀ c ∈ s, isAsciiDigit c = true) : s.getLast? ≠ some '.' :=
  fun e => digit_ne_dot (hs _ (List.mem_of_getLast? e)) rfl

/-- the spelling left by trimming: trailing zeros of the fraction go, and the point with them if no
fraction digit is left -/
def trimU (u : UDec) : UDec :=
  if u.dot then ⟨u.ip, trimEnd '0' u.fp, !(trimEnd '0' u.fp).isEmpty⟩ else u

theorem render_contains_dot {u : UDec} (hu : u.WF) : u.render.contains '.' = u.dot := by
  have hip : '.' ∉ u.ip := fun h => digit_ne_dot (hu.ip_digits _ h) rfl
  unfold UDec.render
  cases hd : u.dot with
  | false => simpa [List.contains_eq_mem] using hip
  | true => simp [List.contains_eq_mem]

theorem trimFraction_render {u : UDec} (hu : u.WF) :
    trimFraction u.render = (trimU u).render := by
  unfold trimFraction trimU
  rw [render_contains_dot hu]
  cases hd : u.dot with
  | false => simp
  | true =>
    simp only [if_true]
    obtain ⟨hl, k, hk⟩ := trimEnd_spec '0' u.fp
    have hrender : u.render = (u.ip ++ '.' :: trimEnd '0' u.fp) ++ List.replicate k '0' := by
      unfold UDec.render
      rw [hd, if_pos rfl, List.append_assoc, List.cons_append, ← hk]
    rw [hrender]
    unfold UDec.render
    cases hf : trimEnd '0' u.fp with
    | nil =>
      -- nothing but zeros after the point: the point goes too
      rw [trimEnd_eval (by simp) k]
      exact (trimEnd_eval (getLast?_digits hu.ip_digits) 1).trans (by simp)
    | cons d f =>
      have hdig : (d :: f).getLast? ≠ some '.' :=
        getLast?_digits fun c hc => hu.fp_digits c (mem_of_mem_trimEnd (c := '0') (hf ▸ hc))
      rw [hf] at hl
      rw [trimEnd_eval (by simpa [List.getLast?_append] using hl) k]
      have := trimEnd_eval (c := '.') (a := u.ip ++ '.' :: d :: f)
        (by simpa [List.getLast?_append] using hdig) 0
      rw [List.replicate_zero, List.append_nil] at this
      rw [this]
      rfl

theorem trimU_ip (u : UDec) : (trimU u).ip = u.ip := by
  unfold trimU; split <;> rfl

theorem trimU_wf {u : UDec} (hu : u.WF) (hip : u.ip ≠ []) : (trimU u).WF := by
  unfold trimU
  split
  · exact ⟨hu.ip_digits, fun c hc => hu.fp_digits c (mem_of_mem_trimEnd hc), Or.inl hip,
      fun h => by simpa using h⟩
  · exact hu

theorem trimU_value (u : UDec) : (trimU u).value = u.value := by
  unfold trimU
  split
  · obtain ⟨k, hk⟩ := (trimEnd_spec '0' u.fp).2
    have h10 : ((10 : ℚ) ^ k) ≠ 0 := pow_ne_zero _ (by norm_num)
    have hm : u.mant = digitsVal (u.ip ++ trimEnd '0' u.fp) * 10 ^ k := by
      unfold UDec.mant
      rw (occs := [1]) [hk]
      rw [← List.append_assoc, digitsVal_append, digitsVal_zeros, List.length_replicate,
        Nat.add_zero]
    have hl : u.fp.length = (trimEnd '0' u.fp).length + k := by
      rw (occs := [1]) [hk]
      rw [List.length_append, List.length_replicate]
    unfold UDec.value
    rw [hm, hl]
    simp only [UDec.mant]
    push_cast
    rw [pow_add, mul_div_mul_right _ _ h10]
  · rfl

/-- the spelling a text is read as: cut at the first `.` -/
def udecOf (t : List Char) : UDec :=
  match splitAtChar '.' t with
  | some (ip, fp) => ⟨ip, fp, true⟩
  | none => ⟨t, [], false⟩

theorem udecOf_render {u : UDec} (hu : u.WF) : udecOf u.render = u := by
  have hip : '.' ∉ u.ip := fun h => digit_ne_dot (hu.ip_digits _ h) rfl
  rcases u with ⟨ip, fp, dot⟩
  unfold udecOf UDec.render
  cases dot with
  | false =>
    have := hu.no_dot rfl
    simp only at this hip
    subst this
    simp [splitAtChar_of_not_mem hip]
  | true =>
    simp only at hip
    simp [splitAtChar_append _ hip]

/-- **the formatter hypothesis**: the text is a plain decimal spelling `digits[.digits]` with at least
one integer digit (what `{}` and `{:.p}` of a finite non-negative `f64` print) -/
def IsSpelling (t : List Char) : Prop := ∃ u : UDec, u.WF ∧ u.ip ≠ [] ∧ t = u.render

def textValue (t : List Char) : ℚ := (udecOf t).value

theorem IsSpelling.udecOf {t : List Char} (h : IsSpelling t) :
    (udecOf t).WF ∧ (udecOf t).ip ≠ [] ∧ (udecOf t).render = t := by
  obtain ⟨u, hu, hip, rfl⟩ := h
  rw [udecOf_render hu]
  exact ⟨hu, hip, rfl⟩

/-- **one notion of spelling**: a text the number reader accepts and that does not begin with the point -/
theorem isSpelling_iff {t : List Char} :
    IsSpelling t ↔ (parseUDec t).isSome = true ∧ t.head? ≠ some '.' := by
  constructor
  · rintro ⟨u, hu, hip, rfl⟩
    refine ⟨by rw [parseUDec_render hu]; rfl, fun h => ?_⟩
    obtain ⟨c, cs, hi⟩ := List.exists_cons_of_ne_nil hip
    rw [UDec.render, hi, List.cons_append, List.head?_cons] at h
    exact digit_ne_dot (hu.ip_digits c (by rw [hi]; exact List.mem_cons_self)) (Option.some.inj h)
  · rintro ⟨hp, hd⟩
    obtain ⟨⟨m, sc⟩, h⟩ := Option.isSome_iff_exists.1 hp
    obtain ⟨u, hu, rfl, -, -⟩ := parseUDec_some h
    refine ⟨u, hu, fun e => hd ?_, rfl⟩
    -- no integer digit: there is a fraction digit, so the point is written, and written first
    have hdot : u.dot = true := by
      cases hdt : u.dot with
      | true => rfl
      | false => exact absurd (hu.no_dot hdt) (hu.some_digit.resolve_left fun h => h e)
    rw [UDec.render, e, hdot]
    rfl

instance (t : List Char) : Decidable (IsSpelling t) := decidable_of_iff _ isSpelling_iff.symm

theorem UDec.render_head {u : UDec} (hu : u.WF) : u.render.head? ≠ some '-' := by
  intro h
  have hmem : '-' ∈ u.render := List.mem_of_mem_head? h
  rcases UDec.mem_render hu hmem with h | h
  · exact digit_ne_dash h rfl
  · revert h; decide

theorem parseDec_spelling {t : List Char} (h : IsSpelling t) (neg : Bool) :
    ∃ d, parseDec ((if neg then ['-'] else []) ++ t) = some d ∧
      d.val = (if neg then -1 else 1) * textValue t := by
  obtain ⟨hu, _, hr⟩ := h.udecOf
  refine ⟨_, ?_, Dec.val_mk neg (udecOf t)⟩
  rw (occs := [1]) [← hr]
  exact parseDec_render hu neg

theorem IsSpelling.trim {t : List Char} (h : IsSpelling t) : IsSpelling (trimFraction t) := by
  obtain ⟨u, hu, hip, rfl⟩ := h
  exact ⟨trimU u, trimU_wf hu hip, by rw [trimU_ip]; exact hip, trimFraction_render hu⟩

theorem textValue_trim {t : List Char} (h : IsSpelling t) : textValue (trimFraction t) = textValue t := by
  obtain ⟨u, hu, hip, rfl⟩ := h
  unfold textValue
  rw [trimFraction_render hu, udecOf_render (trimU_wf hu hip), udecOf_render hu, trimU_value]

theorem IsSpelling.numText {t : List Char} (h : IsSpelling t) (prec : Bool) :
    IsSpelling (numText prec t) := by
  unfold C17.numText; split
  · exact h.trim
  · exact h

theorem textValue_numText {t : List Char} (h : IsSpelling t) (prec : Bool) :
    textValue (numText prec t) = textValue t := by
  unfold C17.numText; split
  · exact textValue_trim h
  · rfl

theorem textValue_nonneg (t : List Char) : 0 ≤ textValue t := by
  unfold textValue UDec.value
  exact div_nonneg (Nat.cast_nonneg _) (pow_nonneg (by norm_num) _)

theorem trimEnd_prefix {c : Char} {s : List Char} (h : trimEnd c s ≠ []) (pre : List Char) :
    trimEnd c (pre ++ s) = pre ++ trimEnd c s := by
  obtain ⟨hl, k, hk⟩ := trimEnd_spec c s
  rw (occs := [1]) [hk]
  rw [← List.append_assoc]
  exact trimEnd_eval (by rwa [List.getLast?_append_of_ne_nil _ h]) k

/-- a prefix without a point (`^`, `^-`) does not disturb the trimming of a spelling -/
theorem trimFraction_prefix {pre b : List Char} (hpre : '.' ∉ pre) (hb : IsSpelling b) :
    trimFraction (pre ++ b) = pre ++ trimFraction b := by
  obtain ⟨u, hu, hip, rfl⟩ := hb
  have hne : trimFraction u.render ≠ [] := by
    rw [trimFraction_render hu]
    exact UDec.render_ne_nil (trimU_wf hu hip)
  have hc : (pre ++ u.render).contains '.' = u.render.contains '.' := by
    have : ('.' ∈ pre ++ u.render) ↔ ('.' ∈ u.render) := by simp [hpre]
    cases h1 : (pre ++ u.render).contains '.' <;> cases h2 : u.render.contains '.' <;>
      simp_all [List.contains_eq_mem]
  unfold trimFraction at hne ⊢
  rw [hc]
  by_cases hd : u.render.contains '.' = true
  · rw [if_pos hd] at hne ⊢
    have h0 : trimEnd '0' u.render ≠ [] := by
      intro h0; rw [h0] at hne; exact hne rfl
    rw [trimEnd_prefix h0, trimEnd_prefix hne, if_pos hd]
  · rw [if_neg hd, if_neg hd]

/-- equal (default formatting, `digits = none`) resp. within half a unit of the `d`-th decimal
(`digits = some d`, `{:.d}`) -/
def Close (digits : Option Nat) (x y : ℚ) : Prop :=
  match digits with
  | none => x = y
  | some d => |x - y| ≤ 1 / 2 * (1 / 10 : ℚ) ^ d

instance Close.decidable : ∀ (digits : Option Nat) (x y : ℚ), Decidable (Close digits x y)
  | none, x, y => inferInstanceAs (Decidable (x = y))
  | some d, x, y => inferInstanceAs (Decidable (|x - y| ≤ 1 / 2 * (1 / 10 : ℚ) ^ d))

theorem Close.rfl' (digits : Option Nat) (x : ℚ) : Close digits x x := by
  cases digits with
  | none => exact rfl
  | some d =>
    show |x - x| ≤ _
    rw [sub_self, abs_zero]
    exact mul_nonneg (by norm_num) (pow_nonneg (by norm_num) _)

theorem Close.neg {digits : Option Nat} {x y : ℚ} (h : Close digits x y) : Close digits (-x) (-y) := by
  cases digits with
  | none => exact congrArg Neg.neg h
  | some d =>
    show |-x - -y| ≤ _
    rw [neg_sub_neg, abs_sub_comm]
    exact h

theorem Close.neg_abs {digits : Option Nat} {m c : ℚ} (h : Close digits m |c|) (hc : c < 0) :
    Close digits (-m) c := by
  rw [abs_of_neg hc] at h
  simpa using h.neg

theorem Close.of_abs {digits : Option Nat} {m c : ℚ} (h : Close digits m |c|) (hc : 0 ≤ c) :
    Close digits m c := by
  rwa [abs_of_nonneg hc] at h

theorem stripWs_operator {cc : CharClass} (hcc : cc.Sane) (hsp : cc.isWs ' ' = true) (neg : Bool)
    {b : List Char} (hb : stripWs cc b = b) :
    stripWs cc ((if neg then [' ', '-', ' '] else [' ', '+', ' ']) ++ b) =
      (if neg then '-' else '+') :: b := by
  rw [stripWs_append, hb]
  cases neg
  · simp [stripWs, hsp, hcc.sym_not_ws.2.1]
  · simp [stripWs, hsp, hcc.sym_not_ws.2.2.1]

end SV.C17
