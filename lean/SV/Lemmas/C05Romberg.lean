import SV.Model.C05
import Mathlib.Algebra.Order.Field.Basic
import Mathlib.Tactic.FieldSimp
import Mathlib.Tactic.Ring
/-!
Lemmas about `romberg_definite` behind `SV.Props.C05` (the model is `SV.Model.C05`):

* `Table.*`            reads and writes of the Romberg table; `Table.Sq dim` = "is `dim × dim`"
* `romberg_allowed`    index bookkeeping: with a table of side 3 … 33 no access is out of range and no
                       integer power overflows, for any scalar type and any evaluation function
* `rombergLoop_fuel`   the recursion bound of the model's loop is never what stops it
* `romberg_tableau`    the table holds the Richardson tableau `rich t` of the trapezoid sums `t`, and
                       a value returned is an entry of its first row; `romberg_exact`: for sums
                       `I + C/n²` that entry is `I`
-/
namespace SV.C05
open SV SV.Poly

namespace Table
variable {S : Type}

/-- square of side `dim` (what `vec![vec![0.0; dim]; dim]` builds and element assignment keeps) -/
def Sq (dim : Nat) (T : Table S) : Prop :=
  T.size = dim ∧ ∀ (i : Nat) (row : Array S), T[i]? = some row → row.size = dim

theorem zeros_sq [OfNat S 0] (dim : Nat) : Sq dim (zeros dim : Table S) := by
  refine ⟨by simp [zeros], ?_⟩
  intro i row h
  simp only [zeros, Array.getElem?_replicate] at h
  split at h
  · cases h; simp
  · cases h

theorem get?_of_sq {dim : Nat} {T : Table S} (h : Sq dim T) {i j : Nat} (hi : i < dim)
    (hj : j < dim) : ∃ v, T.get? i j = some v := by
  have hi' : i < T.size := h.1 ▸ hi
  have hrow := h.2 i _ (Array.getElem?_eq_getElem hi')
  unfold get?
  rw [Array.getElem?_eq_getElem hi']
  exact ⟨_, Array.getElem?_eq_getElem (hrow ▸ hj)⟩

theorem set?_spec {T T' : Table S} {i j : Nat} {v : S} (h : T.set? i j v = some T') :
    T'.get? i j = some v ∧ ∀ i' j', (i' ≠ i ∨ j' ≠ j) → T'.get? i' j' = T.get? i' j' := by
  unfold set? at h
  split at h
  · cases h
  · rename_i row hrow
    split at h
    · rename_i hj
      cases h
      have hi : i < T.size := by
        rcases Array.getElem?_eq_some_iff.mp hrow with ⟨hi, _⟩
        exact hi
      constructor
      · unfold get?
        rw [Array.getElem?_setIfInBounds_self, if_pos hi]
        simp only
        rw [Array.getElem?_setIfInBounds_self, if_pos hj]
      · intro i' j' hne
        unfold get?
        by_cases hii : i' = i
        · subst hii
          have hjj : j' ≠ j := by
            rcases hne with h | h
            · exact absurd rfl h
            · exact h
          rw [Array.getElem?_setIfInBounds_self, if_pos hi, hrow]
          simp only
          rw [Array.getElem?_setIfInBounds_ne (Ne.symm hjj)]
        · rw [Array.getElem?_setIfInBounds_ne (Ne.symm hii)]
    · cases h

theorem set?_of_sq {dim : Nat} {T : Table S} (h : Sq dim T) {i j : Nat} (hi : i < dim)
    (hj : j < dim) (v : S) : ∃ T', T.set? i j v = some T' ∧ Sq dim T' := by
  have hi' : i < T.size := h.1 ▸ hi
  have hrow := h.2 i _ (Array.getElem?_eq_getElem hi')
  unfold set?
  rw [Array.getElem?_eq_getElem hi']
  simp only
  rw [if_pos (hrow ▸ hj)]
  refine ⟨_, rfl, ?_, ?_⟩
  · rw [Array.size_setIfInBounds]; exact h.1
  · intro i' row' hr
    rw [Array.getElem?_setIfInBounds] at hr
    split at hr
    · cases hr
      rw [Array.size_setIfInBounds]; exact hrow
    · exact h.2 i' row' hr

theorem set?_some_of_get? {T : Table S} {i j : Nat} {x : S} (h : T.get? i j = some x)
    (v : S) : ∃ T', T.set? i j v = some T' := by
  unfold get? at h
  unfold set?
  cases hr : T[i]? with
  | none => rw [hr] at h; cases h
  | some row =>
    rw [hr] at h
    simp only at h ⊢
    have : j < row.size := (Array.getElem?_eq_some_iff.mp h).1
    rw [if_pos this]
    exact ⟨_, rfl⟩

theorem set?_none_of_get? {T : Table S} {i j : Nat} (h : T.get? i j = none)
    (v : S) : T.set? i j v = none := by
  unfold get? at h
  unfold set?
  cases hr : T[i]? with
  | none => rfl
  | some row =>
    rw [hr] at h
    simp only at h ⊢
    have : ¬ j < row.size := by
      have := Array.getElem?_eq_none_iff.mp h
      omega
    rw [if_neg this]

end Table

section nopanic

section
variable {S : Type} [Add S] [Mul S] [NatCast S]

theorem trapLoop_error (f : S → Except PErr S) (h : S) (e : PErr) :
    ∀ (n : Nat) (xi sum : S), trapLoop f h n xi sum = .error e → ∃ x, f x = .error e := by
  intro n
  induction n with
  | zero => intro xi sum hh; simp [trapLoop] at hh
  | succ n ih =>
    intro xi sum hh
    unfold trapLoop at hh
    simp only at hh
    split at hh
    · rename_i e' he; cases hh; exact ⟨_, he⟩
    · exact ih _ _ hh

variable [Sub S] [Div S]

theorem trapezoid_error (f : S → Except PErr S) (a b : S) (n : Nat) (e : PErr)
    (hh : trapezoid f a b n = .error e) : ∃ x, f x = .error e := by
  unfold trapezoid at hh
  simp only at hh
  split at hh
  · rename_i e' he; cases hh; exact ⟨_, he⟩
  · split at hh
    · rename_i e' he; cases hh; exact trapLoop_error f _ e _ _ _ he
    · split at hh
      · rename_i e' he; cases hh; exact ⟨_, he⟩
      · cases hh

end

variable {S : Type} [Sub S] [Mul S] [Div S] [NatCast S]

theorem rombergRow_sq {dim iter : Nat} (hit : iter + 1 < dim) (h32 : iter < 32) :
    ∀ (n k : Nat) (T : Table S), Table.Sq dim T → 2 ≤ k → k + n = iter + 2 →
      ∃ T', rombergRow iter n k T = some T' ∧ Table.Sq dim T' := by
  intro n
  induction n with
  | zero => intro k T hsq _ _; exact ⟨T, rfl, hsq⟩
  | succ n ih =>
    intro k T hsq hk hkn
    unfold rombergRow
    rw [if_neg (by omega)]
    obtain ⟨u, hu⟩ := Table.get?_of_sq hsq (i := 2 + iter - k + 1) (j := k - 1) (by omega) (by omega)
    obtain ⟨v, hv⟩ := Table.get?_of_sq hsq (i := 2 + iter - k) (j := k - 1) (by omega) (by omega)
    simp only [hu, hv]
    obtain ⟨T', hT', hsq'⟩ := Table.set?_of_sq hsq (i := 2 + iter - k) (j := k) (by omega) (by omega)
      ((((4 ^ (k - 1) : Nat) : S) * u - v) / (((4 ^ (k - 1) : Nat) : S) - lit 1))
    simp only [hT']
    exact ih (k + 1) T' hsq' (by omega) (by omega)

/-- the outcomes `romberg_definite` may have: a value, its non-convergence error, or an evaluation
error that the integrand really produced — not a panic -/
def Allowed (f : S → Except PErr S) : Outcome IErr S → Prop
  | .ok _ => True
  | .err .maxIterationsReached => True
  | .err (.functionError e) => ∃ x, f x = .error e
  | .panic => False

/-- what a pass may lead to when nothing goes wrong -/
def Pass.Safe (f : S → Except PErr S) (dim cap iter : Nat) : Pass S → Prop
  | .done o => Allowed f o
  | .more T' => Table.Sq dim T' ∧ iter < cap

variable [Neg S] [OfNat S 0] [LT S] [DecidableRel (α := S) (· < ·)] [LE S] [DecidableRel (α := S) (· ≤ ·)]

theorem rombergStop_safe {dim : Nat} (f : S → Except PErr S) (tol : S) (cap iter : Nat)
    (T : Table S) (hsq : Table.Sq dim T) (h3 : 3 ≤ dim) (hit : iter + 1 < dim) :
    Pass.Safe f dim cap iter (rombergStop tol cap iter T) := by
  obtain ⟨x, hx⟩ := Table.get?_of_sq hsq (i := 1) (j := iter + 1) (by omega) hit
  obtain ⟨y, hy⟩ := Table.get?_of_sq hsq (i := 2) (j := iter) (by omega) (by omega)
  unfold rombergStop
  simp only [hx, hy]
  split
  · split
    · simp [Pass.Safe, Allowed]
    · simp [Pass.Safe, Allowed]
  · rename_i hne
    refine ⟨hsq, ?_⟩
    have : ¬ iter ≥ cap := fun h => hne (Or.inl h)
    omega

theorem rombergStop_more (tol : S) (cap iter : Nat) (T T' : Table S)
    (h : rombergStop tol cap iter T = .more T') : T' = T ∧ iter < cap := by
  unfold rombergStop at h
  split at h
  · simp only at h
    split at h
    · split at h <;> cases h
    · rename_i hne
      cases h
      exact ⟨rfl, by omega⟩
  · cases h

variable [Add S]

theorem rombergPass_safe {dim : Nat} (f : S → Except PErr S) (a b tol : S) (cap iter : Nat)
    (T : Table S) (hsq : Table.Sq dim T) (h3 : 3 ≤ dim) (h1 : 1 ≤ iter) (hit : iter + 1 < dim)
    (h32 : iter < 32) : Pass.Safe f dim cap iter (rombergPass f a b tol cap iter T) := by
  unfold rombergPass
  rw [if_neg (by omega)]
  split
  · rename_i e he
    exact trapezoid_error f a b _ e he
  · rename_i t _
    obtain ⟨T1, hT1, hsq1⟩ := Table.set?_of_sq hsq (i := iter + 1) (j := 1) hit (by omega) t
    simp only [hT1]
    obtain ⟨T2, hT2, hsq2⟩ := rombergRow_sq hit h32 iter 2 T1 hsq1 (by omega) (by omega)
    simp only [hT2]
    exact rombergStop_safe f tol cap iter T2 hsq2 h3 hit

theorem rombergLoop_induct (f : S → Except PErr S) (a b tol : S) (cap : Nat)
    (Inv : Nat → Table S → Prop) (Q : Outcome IErr S → Prop) (hQ : Q (.err .maxIterationsReached))
    (step : ∀ it T, Inv it T →
      (∀ o, rombergPass f a b tol cap (it + 1) T = .done o → Q o) ∧
      (∀ T', rombergPass f a b tol cap (it + 1) T = .more T' → Inv (it + 1) T')) :
    ∀ (fuel it : Nat) (T : Table S), Inv it T → Q (rombergLoop f a b tol cap fuel it T) := by
  intro fuel
  induction fuel with
  | zero =>
    intro it T hI
    unfold rombergLoop
    cases hp : rombergPass f a b tol cap (it + 1) T with
    | done o => exact (step it T hI).1 o hp
    | more T' => exact hQ
  | succ fuel ih =>
    intro it T hI
    unfold rombergLoop
    cases hp : rombergPass f a b tol cap (it + 1) T with
    | done o => exact (step it T hI).1 o hp
    | more T' => exact ih (it + 1) T' ((step it T hI).2 T' hp)

theorem rombergLoop_allowed {dim : Nat} (f : S → Except PErr S) (a b tol : S) (cap : Nat)
    (h3 : 3 ≤ dim) (h33 : dim ≤ 33) (hcap : cap ≤ dim - 2) (fuel : Nat) (T : Table S)
    (hsq : Table.Sq dim T) : Allowed f (rombergLoop f a b tol cap fuel 0 T) := by
  refine rombergLoop_induct f a b tol cap (fun it T => Table.Sq dim T ∧ (it = 0 ∨ it < cap))
    (Allowed f) trivial (fun it T hI => ?_) fuel 0 T ⟨hsq, Or.inl rfl⟩
  have hs := rombergPass_safe f a b tol cap (it + 1) T hI.1 h3 (by omega) (by omega) (by omega)
  constructor
  · intro o ho
    rwa [ho] at hs
  · intro T' hT'
    rw [hT'] at hs
    exact ⟨hs.1, Or.inr hs.2⟩

/-- `romberg_definite` with a table of side 3 … 33 never panics: whatever the scalar type, evaluation
function, interval, cap and tolerance are, every table index stays below the dimension, `2^iter` fits
`u32` and `4^(k−1)` fits `usize`; and an error it returns is `MaxIterationsReached` or an evaluation
error of the integrand. -/
theorem romberg_allowed {dim : Nat} (h3 : 3 ≤ dim) (h33 : dim ≤ 33) (f : S → Except PErr S)
    (a b : S) (maxiter : Nat) (tol : S) : Allowed f (romberg dim f a b maxiter tol) := by
  unfold romberg
  rw [if_neg (by omega)]
  split
  · rename_i e he
    exact trapezoid_error f a b _ e he
  · rename_i t _
    obtain ⟨T, hT, hsq⟩ := Table.set?_of_sq (Table.zeros_sq (S := S) dim) (i := 1) (j := 1)
      (by omega) (by omega) t
    simp only [hT]
    exact rombergLoop_allowed f a b tol _ h3 h33 (Nat.min_le_right _ _) _ T hsq

theorem rombergPass_more_lt (f : S → Except PErr S) (a b tol : S) (cap iter : Nat) (T T' : Table S)
    (h : rombergPass f a b tol cap iter T = .more T') : iter < cap := by
  unfold rombergPass at h
  split at h
  · cases h
  · split at h
    · cases h
    · split at h
      · cases h
      · split at h
        · cases h
        · exact (rombergStop_more tol cap iter _ T' h).2

/-- the loop goes round again only while `iter < cap`, so a recursion bound of at least
`cap − iter` passes is never what ends it: the answer does not depend on the bound -/
theorem rombergLoop_fuel (f : S → Except PErr S) (a b tol : S) (cap : Nat) :
    ∀ (fuel fuel' iter0 : Nat) (T : Table S), cap ≤ fuel + iter0 → cap ≤ fuel' + iter0 →
      rombergLoop f a b tol cap fuel iter0 T = rombergLoop f a b tol cap fuel' iter0 T := by
  intro fuel
  induction fuel with
  | zero =>
    intro fuel' iter0 T h1 h2
    unfold rombergLoop
    cases hp : rombergPass f a b tol cap (iter0 + 1) T with
    | done o => rfl
    | more T' =>
      have := rombergPass_more_lt f a b tol cap (iter0 + 1) T T' hp
      omega
  | succ fuel ih =>
    intro fuel' iter0 T h1 h2
    unfold rombergLoop
    cases hp : rombergPass f a b tol cap (iter0 + 1) T with
    | done o => rfl
    | more T' =>
      have hlt := rombergPass_more_lt f a b tol cap (iter0 + 1) T T' hp
      cases fuel' with
      | zero => omega
      | succ fuel' =>
        simp only
        exact ih fuel' (iter0 + 1) T' (by omega) (by omega)

end nopanic

section scaling
variable {K : Type} [Field K]

/-- every entry of the Romberg table multiplied by `c` -/
def smulT (c : K) (T : Table K) : Table K := T.map fun row => row.map (c * ·)

theorem get?_smulT (c : K) (T : Table K) (i j : Nat) :
    (smulT c T).get? i j = (T.get? i j).map (c * ·) := by
  unfold Table.get? smulT
  rw [Array.getElem?_map]
  cases T[i]? with
  | none => rfl
  | some row => simp [Array.getElem?_map]

theorem set?_smulT (c : K) (T : Table K) (i j : Nat) (v : K) :
    (smulT c T).set? i j (c * v) = (T.set? i j v).map (smulT c) := by
  unfold Table.set? smulT
  rw [Array.getElem?_map]
  cases T[i]? with
  | none => rfl
  | some row =>
    simp only [Option.map_some, Array.size_map]
    split
    · simp [Array.map_setIfInBounds]
    · rfl

theorem zeros_smulT (c : K) (dim : Nat) : smulT c (Table.zeros dim : Table K) = Table.zeros dim := by
  simp [smulT, Table.zeros, Array.map_replicate]

theorem rombergRow_smulT (c : K) (iter : Nat) :
    ∀ (n k : Nat) (T : Table K),
      rombergRow iter n k (smulT c T) = (rombergRow iter n k T).map (smulT c) := by
  intro n
  induction n with
  | zero => intro k T; rfl
  | succ n ih =>
    intro k T
    unfold rombergRow
    split
    · rfl
    · simp only [get?_smulT]
      cases hu : T.get? (2 + iter - k + 1) (k - 1) with
      | none => simp
      | some u =>
        cases hv : T.get? (2 + iter - k) (k - 1) with
        | none => simp
        | some v =>
          simp only [Option.map_some]
          have e : (((4 ^ (k - 1) : ℕ) : K) * (c * u) - c * v) / (((4 ^ (k - 1) : ℕ) : K) - lit 1)
              = c * ((((4 ^ (k - 1) : ℕ) : K) * u - v) / (((4 ^ (k - 1) : ℕ) : K) - lit 1)) := by
            ring
          rw [e, set?_smulT]
          cases T.set? (2 + iter - k) k
              ((((4 ^ (k - 1) : ℕ) : K) * u - v) / (((4 ^ (k - 1) : ℕ) : K) - lit 1)) with
          | none => rfl
          | some T' => simp only [Option.map_some]; exact ih (k + 1) T'

end scaling

section romberg_exact
variable {K : Type} [Field K]

/-- the Richardson tableau of a sequence `t` (`t m`: the trapezoid sum with `2^m` segments):
`rich t c j` is what `romberg_definite` stores in `table[j + 1][c + 1]` -/
def rich (t : ℕ → K) : ℕ → ℕ → K
  | 0, j => t j
  | c + 1, j =>
    (((4 ^ (c + 1) : ℕ) : K) * rich t c (j + 1) - rich t c j) / (((4 ^ (c + 1) : ℕ) : K) - 1)

/-- state of the table while pass `iter` fills column `k`: every entry written so far is the
tableau's -/
def TInv (t : ℕ → K) (iter k : Nat) (T : Table K) : Prop :=
  ∀ j k', 1 ≤ j → 1 ≤ k' → (j + k' ≤ iter + 1 ∨ (j + k' = iter + 2 ∧ k' < k)) →
    T.get? j k' = some (rich t (k' - 1) (j - 1))

theorem TInv.set {t : ℕ → K} {iter k iter' k' jw kw : Nat} {T T1 : Table K}
    (hinv : TInv t iter k T) (hset : T.set? jw kw (rich t (kw - 1) (jw - 1)) = some T1)
    (h : ∀ j c, 1 ≤ j → 1 ≤ c → (j + c ≤ iter' + 1 ∨ (j + c = iter' + 2 ∧ c < k')) →
      (j ≠ jw ∨ c ≠ kw) → (j + c ≤ iter + 1 ∨ (j + c = iter + 2 ∧ c < k))) :
    TInv t iter' k' T1 := by
  obtain ⟨hnew, hold⟩ := Table.set?_spec hset
  intro j c hj hc hfill
  by_cases hsame : j = jw ∧ c = kw
  · rw [hsame.1, hsame.2]
    exact hnew
  · have hne : j ≠ jw ∨ c ≠ kw := by omega
    rw [hold j c hne]
    exact hinv j c hj hc (h j c hj hc hfill hne)

theorem rombergRow_tableau (t : ℕ → K) (iter : Nat) :
    ∀ (n k : Nat) (T T' : Table K), TInv t iter k T → 2 ≤ k → k + n = iter + 2 →
      rombergRow iter n k T = some T' → TInv t iter (iter + 2) T' := by
  intro n
  induction n with
  | zero =>
    intro k T T' hinv hk hkn hrow
    simp only [rombergRow, Option.some.injEq] at hrow
    obtain rfl : k = iter + 2 := by omega
    exact hrow ▸ hinv
  | succ n ih =>
    intro k T T' hinv hk hkn hrow
    obtain ⟨c, rfl⟩ : ∃ c, k = c + 2 := ⟨k - 2, by omega⟩
    obtain rfl : iter = c + n + 1 := by omega
    have hj : 2 + (c + n + 1) - (c + 2) = n + 1 := by omega
    have hc : c + 2 - 1 = c + 1 := rfl
    have hu := hinv (n + 1 + 1) (c + 1) (by omega) (by omega) (Or.inr (by omega))
    have hv := hinv (n + 1) (c + 1) (by omega) (by omega) (Or.inl (by omega))
    unfold rombergRow at hrow
    simp only [hj, hc, hu, hv, lit, Nat.cast_one, Nat.add_sub_cancel] at hrow
    -- the entry written is the next column of the tableau, by definition
    have e : (((4 ^ (c + 1) : ℕ) : K) * rich t c (n + 1) - rich t c n)
        / (((4 ^ (c + 1) : ℕ) : K) - 1) = rich t (c + 1) n := rfl
    rw [e] at hrow
    split at hrow
    · cases hrow
    · cases hset : T.set? (n + 1) (c + 2) (rich t (c + 1) n) with
      | none => rw [hset] at hrow; cases hrow
      | some T1 =>
        rw [hset] at hrow
        exact ih (c + 2 + 1) T1 T' (hinv.set (jw := n + 1) (kw := c + 2) hset
          fun j c' hj' hc' hfill hne => by omega) (by omega) (by omega) hrow

theorem richardson_higher (I p : K) (hp : p ≠ 1) : (p * I - I) / (p - 1) = I := by
  have : p - 1 ≠ 0 := sub_ne_zero.mpr hp
  field_simp

variable [LinearOrder K]

theorem eqZero_eq (x : K) : eqZero x = decide (x = 0) := by
  unfold eqZero
  rcases lt_trichotomy x 0 with h | h | h
  · simp [h, h.ne]
  · simp [h]
  · simp [h, h.ne']

theorem rombergStop_tableau (t : ℕ → K) (tol : K) (cap iter : Nat) (T : Table K)
    (hinv : TInv t iter (iter + 2) T) (v : K)
    (h : rombergStop tol cap iter T = .done (.ok v)) : v = rich t iter 0 := by
  have hx := hinv 1 (iter + 1) le_rfl (by omega) (Or.inr (by omega))
  unfold rombergStop at h
  rw [hx] at h
  cases hy : T.get? 2 iter with
  | none => rw [hy] at h; cases h
  | some y =>
    rw [hy] at h
    simp only at h
    split at h
    · split at h
      · cases h
      · cases h; rfl
    · cases h

theorem rombergPass_tableau (t : ℕ → K) (f : K → Except PErr K) (a b tol : K) (cap it : Nat)
    (htrap : ∀ m, trapezoid f a b (2 ^ m) = .ok (t m)) (T : Table K)
    (hinv : TInv t it (it + 2) T) :
    (∀ v, rombergPass f a b tol cap (it + 1) T = .done (.ok v) → v = rich t (it + 1) 0) ∧
    (∀ T', rombergPass f a b tol cap (it + 1) T = .more T' → TInv t (it + 1) (it + 1 + 2) T') := by
  unfold rombergPass
  split
  · exact ⟨fun v h => (by cases h), fun T' h => (by cases h)⟩
  · rw [htrap (it + 1)]
    simp only
    cases hset : T.set? (it + 1 + 1) 1 (t (it + 1)) with
    | none => simp only; exact ⟨fun v h => (by cases h), fun T' h => (by cases h)⟩
    | some T1 =>
      simp only
      have hinv1 : TInv t (it + 1) 2 T1 :=
        hinv.set (jw := it + 1 + 1) (kw := 1) hset fun j c hj hc hfill hne => by omega
      cases hrow : rombergRow (it + 1) (it + 1) 2 T1 with
      | none => simp only; exact ⟨fun v h => (by cases h), fun T' h => (by cases h)⟩
      | some T2 =>
        simp only
        have hinv2 :=
          rombergRow_tableau t (it + 1) (it + 1) 2 T1 T2 hinv1 (by omega) (by omega) hrow
        refine ⟨fun v h => rombergStop_tableau t tol cap (it + 1) T2 hinv2 v h, ?_⟩
        intro T' h
        rw [(rombergStop_more tol cap (it + 1) T2 T' h).1]
        exact hinv2

/-- **What Romberg returns.**  Whatever the integrand, table size, cap and tolerance: a value that
`romberg_definite` returns is the last extrapolated entry `rich t m 0`, `m ≥ 1`, of the Richardson
tableau of the trapezoid sums `t m` (`2^m` segments) -/
theorem romberg_tableau (t : ℕ → K) (dim : Nat) (f : K → Except PErr K) (a b tol : K)
    (maxiter : Nat) (htrap : ∀ m, trapezoid f a b (2 ^ m) = .ok (t m)) (v : K)
    (h : romberg dim f a b maxiter tol = .ok v) : ∃ m, v = rich t (m + 1) 0 := by
  unfold romberg at h
  split at h
  · cases h
  · have h0 := htrap 0
    rw [pow_zero] at h0
    rw [h0] at h
    simp only at h
    cases hset : (Table.zeros dim : Table K).set? 1 1 (t 0) with
    | none => rw [hset] at h; cases h
    | some T0 =>
      rw [hset] at h
      simp only at h
      obtain ⟨hnew, _⟩ := Table.set?_spec hset
      refine rombergLoop_induct f a b tol _ (fun it T => TInv t it (it + 2) T)
        (fun o => ∀ v, o = .ok v → ∃ m, v = rich t (m + 1) 0) (fun v hv => by cases hv)
        (fun it T hinv => ?_) _ 0 T0 ?_ v h
      · obtain ⟨hdone, hmore⟩ := rombergPass_tableau t f a b tol _ it htrap T hinv
        exact ⟨fun o ho v hv => ⟨it, hdone v (hv ▸ ho)⟩, hmore⟩
      · intro j k' hj hk' hc
        obtain ⟨rfl, rfl⟩ : j = 1 ∧ k' = 1 := by omega
        exact hnew

variable [IsStrictOrderedRing K]

theorem richardson_first (I C : K) (m : ℕ) :
    ((4 : K) * (I + C / 4 ^ (m + 1)) - (I + C / 4 ^ m)) / (4 - 1) = I := by
  field_simp
  ring

/-- for sums `I + C/n²` every extrapolated column of the tableau is `I` -/
theorem rich_exact (I C : K) (t : ℕ → K) (ht : ∀ m, t m = I + C / 4 ^ m) (c j : ℕ) :
    rich t (c + 1) j = I := by
  induction c generalizing j with
  | zero =>
    rw [rich, rich, rich, ht, ht]
    simpa using richardson_first I C j
  | succ c ih =>
    rw [rich, ih, ih]
    refine richardson_higher I _ fun h => ?_
    have h1 := Nat.one_lt_pow (n := c + 1 + 1) (a := 4) (by omega) (by omega)
    have h2 : (4 ^ (c + 1 + 1) : ℕ) = 1 := by exact_mod_cast h
    omega

/-- the stopping test compares a nonnegative quantity with the tolerance: with a negative tolerance
`romberg_definite` never returns a value -/
theorem rombergStop_ok {tol : K} {cap iter : Nat} {T : Table K} {v : K}
    (h : rombergStop tol cap iter T = .done (.ok v)) : 0 ≤ tol := by
  have hs : ∀ x : K, 0 ≤ sabs x := fun x => by
    unfold sabs
    split
    · rename_i hx; exact (neg_pos.mpr hx).le
    · rename_i hx; exact not_lt.mp hx
  unfold rombergStop at h
  split at h
  · simp only at h
    split at h
    · rename_i hc
      split at h
      · cases h
      · rename_i hcap
        have := hc.resolve_left hcap
        simp only [Bool.and_eq_true, decide_eq_true_eq] at this
        exact (mul_nonneg (hs _) (Nat.cast_nonneg 100)).trans this.2
    · cases h
  · cases h

theorem romberg_ok {dim maxiter : Nat} {f : K → Except PErr K} {a b tol v : K}
    (h : romberg dim f a b maxiter tol = .ok v) : 0 ≤ tol := by
  unfold romberg at h
  split at h
  · cases h
  · split at h
    · cases h
    · split at h
      · cases h
      · refine rombergLoop_induct f a b tol _ (fun _ _ => True) (fun o => ∀ v, o = .ok v → 0 ≤ tol)
          (fun v hv => by cases hv) (fun it T _ => ⟨fun o ho v hv => ?_, fun _ _ => trivial⟩)
          _ 0 _ trivial v h
        subst hv
        unfold rombergPass at ho
        split at ho
        · cases ho
        · split at ho
          · cases ho
          · split at ho
            · cases ho
            · split at ho
              · cases ho
              · exact rombergStop_ok ho

/-- Romberg in exact arithmetic: if the trapezoid sums are `I + C/n²` (which is what they are for
a polynomial of degree ≤ 3), every value the function can return is `I` — for every table size,
cap and tolerance -/
theorem romberg_exact (I C : K) (dim : Nat) (f : K → Except PErr K) (a b tol : K) (maxiter : Nat)
    (htrap : ∀ m, trapezoid f a b (2 ^ m) = .ok (I + C / 4 ^ m)) (v : K)
    (h : romberg dim f a b maxiter tol = .ok v) : v = I := by
  obtain ⟨m, rfl⟩ := romberg_tableau (fun m => I + C / 4 ^ m) dim f a b tol maxiter htrap v h
  exact rich_exact I C _ (fun _ => rfl) m 0

end romberg_exact
end SV.C05
