import SV.Model.C15
import SV.Lemmas.C18
import SV.Lemmas.Mat
import Mathlib.Algebra.BigOperators.Intervals
import Mathlib.Algebra.BigOperators.Ring.Finset
import Mathlib.Tactic.LinearCombination
/-!
Vocabulary and helper lemmas for C15.

The first section fixes the words the property theorems of `SV.Props.C15` are stated in (sum of
squared residuals, normal equations, the textbook statistics); the rest are the algebraic lemmas
behind them.
-/
namespace SV.C15
open SV SV.C18 Finset

section vocabulary
variable {K : Type} [Field K]

/-- sum of squared residuals of the coefficient list `c` on the data `(xᵢ, yᵢ)` -/
def sse (c : List K) (x y : List K) : K :=
  ((x.zip y).map fun p => (p.2 - predict c p.1) ^ 2).sum

/-- the normal equations: the residual is orthogonal to `1, x, …, x^m` (`m + 1 = c.length`) -/
def NormalEqs (c : List K) (x y : List K) : Prop :=
  ∀ j, j < c.length → ((x.zip y).map fun p => (p.2 - predict c p.1) * p.1 ^ j).sum = 0

/-- total sum of squares about the mean response -/
def sst (y : List K) : K := (y.map fun yi => (yi - y.sum / (y.length : K)) ^ 2).sum

/-- textbook `r² = (SST − SSE)/SST` of a coefficient list (undefined when `SST = 0`) -/
def r2Spec [DecidableEq K] (c : List K) (x y : List K) : Option K :=
  if sst y = 0 then none else some ((sst y - sse c x y) / sst y)

/-- what the code reports as standard error: `sqrt (SSE/(n − 2))` (undefined when `n = 2`) -/
def stdErrSpec (sqrt : K → K) (c : List K) (x y : List K) : Option K :=
  if y.length = 2 then none else some (sqrt (sse c x y / ((y.length : K) - 2)))

/-- what is assumed of the linear solver used by the polynomial fit: an answer solves the system
(`M c = r`, with one unknown per column).  `SV.Props.C08.gauss_sound` has this shape for the model of
`gaussian_elimination` (on `Array`s, for `0 < tol`); it is not instantiated here. -/
def SolveSound [Inhabited K] (solve : Mat K → List K → Option (List K)) : Prop :=
  ∀ M r c, solve M r = some c →
    c.length = M.w ∧ ∀ i, i < M.h → ∑ j ∈ range M.w, M.get i j * c.getD j 0 = r.getD i 0

/-- closed forms of the line fit: `D = n Σx² − (Σx)²`, slope and intercept -/
def lsD (x : List K) : K := (x.length : K) * (x.map fun xi => xi ^ 2).sum - x.sum * x.sum

def lsSlope (x y : List K) : K :=
  ((x.length : K) * ((x.zip y).map fun p => p.1 * p.2).sum - x.sum * y.sum) / lsD x

def lsIntercept (x y : List K) : K :=
  y.sum / (x.length : K) - lsSlope x y * (x.sum / (x.length : K))

/-- error energy of gradient descent: `eᵀ H e`, `H = [[1, mx], [mx, q]]` (`mx` = mean x,
`q` = mean x²) -/
def energy (mx q : K) (e : K × K) : K := e.1 ^ 2 + 2 * mx * e.1 * e.2 + q * e.2 ^ 2

/-- the error map of one gradient step: `e ↦ (I − αH) e` -/
def stepErr (α mx q : K) (e : K × K) : K × K :=
  (e.1 - α * (e.1 + mx * e.2), e.2 - α * (mx * e.1 + q * e.2))

/-- the `LinearModel` the three `fit`s attach to coefficients `c`: `c` with its textbook statistics -/
def fitOf [DecidableEq K] (sqrt : K → K) (c x y : List K) : Fit K :=
  { coeffs := c, stdErr := stdErrSpec sqrt c x y, r2 := r2Spec c x y }

end vocabulary

section ring
variable {R : Type} [CommRing R]

theorem terms_succ_sum (t : R) (k : Nat) (c : List R) :
    (terms t (k + 1) c).sum = t * (terms t k c).sum := by
  induction c generalizing k with
  | nil => simp [terms]
  | cons a cs ih =>
    rw [terms, terms, List.sum_cons, List.sum_cons, ih, powi_eq_pow, powi_eq_pow]
    ring

theorem predict_nil (t : R) : predict [] t = 0 := by
  rw [predict, terms, fsum_eq, List.sum_nil]

theorem predict_cons (a : R) (c : List R) (t : R) : predict (a :: c) t = a + t * predict c t := by
  rw [predict, predict, terms, fsum_eq, fsum_eq, List.sum_cons, terms_succ_sum, powi_eq_pow,
    pow_zero, mul_one]

theorem predict_pair (a b t : R) : predict [a, b] t = a + b * t := by
  rw [predict_cons, predict_cons, predict_nil, mul_zero, add_zero, mul_comm]

theorem predict_map_mul (c : R) (bs : List R) (q : R) :
    predict (bs.map fun b => c * b) q = c * predict bs q := by
  induction bs with
  | nil => rw [List.map_nil, predict_nil, mul_zero]
  | cons b bs ih => rw [List.map_cons, predict_cons, ih, predict_cons]; ring

theorem predict_eq_eval (c : List R) (t : R) :
    predict c t = ∑ j ∈ range c.length, c.getD j 0 * t ^ j := by
  induction c with
  | nil => rw [predict_nil, List.length_nil, Finset.sum_range_zero]
  | cons a c ih =>
    rw [predict_cons, ih, List.length_cons, Finset.sum_range_succ', Finset.mul_sum, add_comm]
    simp only [List.getD_cons_succ, List.getD_cons_zero, pow_zero, mul_one, pow_succ]
    congr 1
    exact Finset.sum_congr rfl fun j _ => by ring

theorem predict_append_zeros (c : List R) (m : Nat) (t : R) :
    predict (c ++ List.replicate m 0) t = predict c t := by
  induction c with
  | nil =>
    induction m with
    | zero => rfl
    | succ m ih =>
      rw [List.nil_append] at ih ⊢
      rw [List.replicate_succ, predict_cons, ih, predict_nil, mul_zero, add_zero]
  | cons a c ih => rw [List.cons_append, predict_cons, ih, predict_cons]

theorem sum_map_mul_right' {ι : Type} (l : List ι) (f : ι → R) (k : R) :
    (l.map fun p => f p * k).sum = (l.map f).sum * k :=
  List.sum_map_mul_right l f k

theorem sum_map_eq_mul {ι : Type} (l : List ι) (f g : ι → R) (k : R) (h : ∀ p, f p = k * g p) :
    (l.map f).sum = k * (l.map g).sum := by
  rw [funext h, List.sum_map_mul_left]

theorem sum_map_sq_sub {ι : Type} (l : List ι) (r d : ι → R) :
    (l.map fun p => (r p - d p) ^ 2).sum
      = (l.map fun p => r p ^ 2).sum - 2 * (l.map fun p => r p * d p).sum
        + (l.map fun p => d p ^ 2).sum := by
  induction l with
  | nil => simp
  | cons a l ih => simp only [List.map_cons, List.sum_cons, ih]; ring

theorem sum_map_mul_finsum {ι : Type} (l : List ι) (s : Finset Nat) (r : ι → R) (e : Nat → R)
    (g : Nat → ι → R) :
    (l.map fun p => r p * ∑ k ∈ s, e k * g k p).sum
      = ∑ k ∈ s, e k * (l.map fun p => r p * g k p).sum := by
  induction l with
  | nil => simp
  | cons a l ih =>
    rw [List.map_cons, List.sum_cons, ih, Finset.mul_sum, ← Finset.sum_add_distrib]
    apply Finset.sum_congr rfl
    intro k _
    rw [List.map_cons, List.sum_cons]
    ring

/-- The five moments `n, Σx, Σx², Σy, Σxy` of the data: a sum over the pairs of a polynomial of
degree at most 2 in `x` and at most 1 in `y` is the same combination of them.  Everything the line
fits compute from the data is of this form. -/
theorem sum_map_moments (l : List (R × R)) (f : R × R → R) (c₀ c₁ c₂ d₀ d₁ : R)
    (hf : ∀ p, f p = c₀ + c₁ * p.1 + c₂ * p.1 ^ 2 + d₀ * p.2 + d₁ * (p.1 * p.2)) :
    (l.map f).sum = (l.length : R) * c₀ + c₁ * (l.map Prod.fst).sum
      + c₂ * (l.map fun p => p.1 ^ 2).sum + d₀ * (l.map Prod.snd).sum
      + d₁ * (l.map fun p => p.1 * p.2).sum := by
  induction l with
  | nil => simp
  | cons a l ih =>
    simp only [List.map_cons, List.sum_cons, List.length_cons, Nat.cast_succ, ih, hf a]
    ring

theorem map_zip_fst {α β γ : Type} (x : List α) (y : List β) (f : α → γ) (h : x.length ≤ y.length) :
    (x.zip y).map (fun p => f p.1) = x.map f :=
  (List.map_map (g := f) (f := Prod.fst)).symm.trans (congrArg _ (List.map_fst_zip h))

theorem sum_zip_moments (x y : List R) (hxy : x.length = y.length) (f : R × R → R)
    (c₀ c₁ c₂ d₀ d₁ : R)
    (hf : ∀ p, f p = c₀ + c₁ * p.1 + c₂ * p.1 ^ 2 + d₀ * p.2 + d₁ * (p.1 * p.2)) :
    ((x.zip y).map f).sum = (y.length : R) * c₀ + c₁ * x.sum + c₂ * (x.map fun xi => xi ^ 2).sum
      + d₀ * y.sum + d₁ * ((x.zip y).map fun p => p.1 * p.2).sum := by
  rw [sum_map_moments _ f c₀ c₁ c₂ d₀ d₁ hf, List.map_fst_zip hxy.le, List.map_snd_zip hxy.ge,
    map_zip_fst x y (· ^ 2) hxy.le, List.length_zip, hxy, min_self]

theorem map_zip_swap {α β γ : Type} (x : List α) (y : List β) (f : β → α → γ) :
    (y.zip x).map (fun p => f p.1 p.2) = (x.zip y).map (fun p => f p.2 p.1) := by
  rw [← List.zip_swap x y, List.map_map]
  rfl

/-- the triple zip of gradient descent, flattened -/
theorem zip_zip_map {α β γ : Type} (x : List α) (y : List β) (f : α → γ) :
    ((x.map f).zip y).zip x = (x.zip y).map (fun p => ((f p.1, p.2), p.1)) := by
  induction x generalizing y with
  | nil => simp
  | cons a as ih =>
    cases y with
    | nil => simp
    | cons b bs => simp [ih]

end ring

section field
variable {K : Type} [Field K]

theorem predict_single (a t : K) : predict [a] t = a := by
  rw [predict_cons, predict_nil, mul_zero, add_zero]

theorem predict_sub_eq (c c' : List K) (h : c'.length = c.length) (t : K) :
    predict c' t - predict c t = ∑ k ∈ range c.length, (c'.getD k 0 - c.getD k 0) * t ^ k := by
  rw [predict_eq_eval, predict_eq_eval, h, ← Finset.sum_sub_distrib]
  exact Finset.sum_congr rfl fun k _ => by ring

theorem cross_term_zero (c c' : List K) (x y : List K) (hne : NormalEqs c x y)
    (h : c'.length = c.length) :
    ((x.zip y).map fun p => (p.2 - predict c p.1) * (predict c' p.1 - predict c p.1)).sum = 0 := by
  simp only [predict_sub_eq c c' h]
  rw [sum_map_mul_finsum (x.zip y) (range c.length) (fun p => p.2 - predict c p.1)
    (fun k => c'.getD k 0 - c.getD k 0) (fun k p => p.1 ^ k)]
  apply Finset.sum_eq_zero
  intro k hk
  rw [hne k (Finset.mem_range.mp hk), mul_zero]

/-- Pythagoras for least squares -/
theorem sse_decomp (c c' : List K) (x y : List K) (hne : NormalEqs c x y)
    (h : c'.length = c.length) :
    sse c' x y = sse c x y
      + ((x.zip y).map fun p => (predict c' p.1 - predict c p.1) ^ 2).sum := by
  have e : sse c' x y = ((x.zip y).map fun p =>
      ((p.2 - predict c p.1) - (predict c' p.1 - predict c p.1)) ^ 2).sum := by
    simp only [sse, sub_sub_sub_cancel_right]
  rw [e, sum_map_sq_sub, cross_term_zero c c' x y hne h, mul_zero, sub_zero, sse]

theorem moment_row (c : List K) (x y : List K) (hxy : x.length = y.length) (i : Nat) :
    ∑ j ∈ range c.length, (x.map fun xi => xi ^ (i + j)).sum * c.getD j 0
      = ((x.zip y).map fun p => predict c p.1 * p.1 ^ i).sum := by
  simp only [predict_eq_eval, mul_comm _ (_ ^ i)]
  rw [sum_map_mul_finsum (x.zip y) (range c.length) (fun p => p.1 ^ i)
    (fun j => c.getD j 0) (fun j p => p.1 ^ j)]
  apply Finset.sum_congr rfl
  intro j _
  simp only [← pow_add]
  rw [map_zip_fst x y (· ^ (i + j)) hxy.le, mul_comm]

theorem momentMatrix_get [Inhabited K] (order : Nat) (x : List K) {i j : Nat}
    (hi : i < order + 1) (hj : j < order + 1) :
    (momentMatrix order x).get i j = (x.map fun xi => xi ^ (i + j)).sum := by
  unfold momentMatrix
  simp only [Mat.get_tab _ hi hj, fsum_eq, powi_eq_pow]

theorem momentRhs_getD (order : Nat) (x y : List K) {i : Nat} (hi : i < order + 1) :
    (momentRhs order x y).getD i 0 = ((x.zip y).map fun p => p.2 * p.1 ^ i).sum := by
  unfold momentRhs
  rw [List.getD_eq_getElem?_getD, List.getElem?_map, List.getElem?_range hi]
  simp only [Option.map_some, Option.getD_some, fsum_eq, powi_eq_pow]
  rw [map_zip_swap x y (fun a b => a * b ^ i)]

theorem normalEqs_of_moment_solution [Inhabited K] (order : Nat) (x y c : List K)
    (hxy : x.length = y.length) (hlen : c.length = order + 1)
    (hsol : ∀ i, i < order + 1 →
      ∑ j ∈ range (order + 1), (momentMatrix order x).get i j * c.getD j 0
        = (momentRhs order x y).getD i 0) :
    NormalEqs c x y := by
  intro i hi
  rw [hlen] at hi
  have h1 := hsol i hi
  rw [momentRhs_getD order x y hi,
    Finset.sum_congr rfl fun j hj => by rw [momentMatrix_get order x hi (Finset.mem_range.mp hj)],
    ← hlen, moment_row c x y hxy i] at h1
  simp only [sub_mul]
  rw [sum_map_sub, h1, sub_self]

theorem normalEqs_pair (a b : K) (x y : List K) :
    NormalEqs [a, b] x y ↔
      ((x.zip y).map fun p => p.2 - (a + b * p.1)).sum = 0 ∧
      ((x.zip y).map fun p => (p.2 - (a + b * p.1)) * p.1).sum = 0 := by
  constructor
  · intro h
    have h0 := h 0 Nat.two_pos
    have h1 := h 1 Nat.one_lt_two
    simp only [predict_pair, pow_zero, mul_one, pow_one] at h0 h1
    exact ⟨h0, h1⟩
  · rintro ⟨h0, h1⟩ j hj
    have hj' : j = 0 ∨ j = 1 := by
      rw [List.length_cons, List.length_singleton] at hj
      omega
    rcases hj' with rfl | rfl
    · simpa only [predict_pair, pow_zero, mul_one] using h0
    · simpa only [predict_pair, pow_one] using h1

theorem res_sums (x y : List K) (hxy : x.length = y.length) (a b : K) :
    ((x.zip y).map fun p => p.2 - (a + b * p.1)).sum = y.sum - (y.length : K) * a - b * x.sum ∧
    ((x.zip y).map fun p => (p.2 - (a + b * p.1)) * p.1).sum
      = ((x.zip y).map fun p => p.1 * p.2).sum - a * x.sum - b * (x.map fun xi => xi ^ 2).sum := by
  constructor
  · rw [sum_zip_moments x y hxy _ (-a) (-b) 0 1 0 fun p => by ring]
    ring
  · rw [sum_zip_moments x y hxy _ 0 (-a) (-b) 0 1 fun p => by ring]
    ring

/-- the 2×2 system `N a + X b = Y`, `X a + XX b = XY` with determinant `N·XX − X² ≠ 0` has exactly
the solution of Cramer's rule, written the way `least_squares.rs` computes it -/
theorem line_system_iff (N X XX Y XY a b : K) (hN : N ≠ 0) (hD : N * XX - X * X ≠ 0) :
    Y - N * a - b * X = 0 ∧ XY - a * X - b * XX = 0 ↔
      a = Y / N - (N * XY - X * Y) / (N * XX - X * X) * (X / N) ∧
      b = (N * XY - X * Y) / (N * XX - X * X) := by
  have hb (e0 : Y - N * a - b * X = 0) :
      XY - a * X - b * XX = 0 ↔ b = (N * XY - X * Y) / (N * XX - X * X) := by
    rw [eq_div_iff hD, ← mul_right_inj' hN, mul_zero]
    constructor <;> intro e <;> linear_combination -e + X * e0
  have ha (hb : b = (N * XY - X * Y) / (N * XX - X * X)) :
      Y - N * a - b * X = 0 ↔ a = Y / N - (N * XY - X * Y) / (N * XX - X * X) * (X / N) := by
    have : Y / N - b * (X / N) = (Y - b * X) / N := by ring
    rw [← hb, this, eq_div_iff hN]
    constructor <;> intro e <;> linear_combination -e
  constructor
  · rintro ⟨e0, e1⟩
    have := (hb e0).mp e1
    exact ⟨(ha this).mp e0, this⟩
  · rintro ⟨e0, e1⟩
    have := (ha e1).mpr e0
    exact ⟨this, (hb this).mpr e1⟩

theorem normalEqs_line_iff [CharZero K] (x y : List K) (hxy : x.length = y.length) (hn : x.length ≠ 0)
    (hD : lsD x ≠ 0) (a b : K) :
    NormalEqs [a, b] x y ↔ a = lsIntercept x y ∧ b = lsSlope x y := by
  obtain ⟨r0, r1⟩ := res_sums x y hxy a b
  rw [normalEqs_pair, r0, r1, ← hxy]
  exact line_system_iff _ _ _ _ _ a b (Nat.cast_ne_zero.mpr hn) hD

theorem normalEqs_ls [CharZero K] (x y : List K) (hxy : x.length = y.length) (hn : x.length ≠ 0)
    (hD : lsD x ≠ 0) : NormalEqs [lsIntercept x y, lsSlope x y] x y :=
  (normalEqs_line_iff x y hxy hn hD _ _).mpr ⟨rfl, rfl⟩

end field

section unfold
variable {K : Type} [Field K] [DecidableEq K]

/-- the statistics the three fits attach to their coefficients are the textbook functions of the
coefficients, provided the prediction function used is the coefficient polynomial -/
theorem mkFit_spec (sqrt : K → K) (c : List K) (pred : K → K) (x y : List K)
    (hp : ∀ t, pred t = predict c t) :
    mkFit sqrt c pred x y (y.sum / (y.length : K)) y.length = fitOf sqrt c x y := by
  simp only [mkFit, sqTotal, sqResidual, stdErrOf, r2Of, fsum_eq, powi_eq_pow, hp, beq_iff_eq,
    Nat.cast_ofNat]
  rfl

theorem lsFit_eq (sqrt : K → K) (x y : List K) :
    lsFit sqrt x y =
      if x.length = 0 then none
      else if lsD x = 0 then none
      else some (mkFit sqrt [lsIntercept x y, lsSlope x y]
        (fun xi => lsIntercept x y + lsSlope x y * xi) x y (y.sum / (x.length : K)) x.length) := by
  simp only [lsFit, fsum_eq, powi_eq_pow, beq_iff_eq]
  rfl

theorem lsFit_fitOf (sqrt : K → K) (x y : List K) (hxy : x.length = y.length) :
    lsFit sqrt x y =
      if x.length = 0 then none
      else if lsD x = 0 then none
      else some (fitOf sqrt [lsIntercept x y, lsSlope x y] x y) := by
  rw [lsFit_eq, hxy, mkFit_spec sqrt _ _ x y fun t => (predict_pair _ _ t).symm]

/-- where `n ≠ 0` and `D ≠ 0` the line fit returns the one solution of the normal equations, so a
pair known to solve them is what it returns: a symmetry of the data is carried to the fit by showing
it on the normal equations, where it is linear, and never on the quotients of Cramer's rule -/
theorem lsFit_of_normalEqs [CharZero K] (sqrt : K → K) (x y : List K) (hxy : x.length = y.length)
    (hn : x.length ≠ 0) (hD : lsD x ≠ 0) {a b : K} (h : NormalEqs [a, b] x y) :
    lsFit sqrt x y = some (fitOf sqrt [a, b] x y) := by
  obtain ⟨rfl, rfl⟩ := (normalEqs_line_iff x y hxy hn hD a b).mp h
  rw [lsFit_fitOf sqrt x y hxy, if_neg hn, if_neg hD]

theorem polyFit_eq (sqrt : K → K) (solve : Mat K → List K → Option (List K)) (order : Nat)
    (x y : List K) :
    polyFit sqrt solve order x y =
      match solve (momentMatrix order x) (momentRhs order x y) with
      | none => .panic
      | some c => .ok (fitOf sqrt c x y) := by
  unfold polyFit
  cases solve (momentMatrix order x) (momentRhs order x y) with
  | none => rfl
  | some c => simp only [fsum_eq, mkFit_spec sqrt c (predict c) x y fun _ => rfl]

theorem gdFit_eq (sqrt : K → K) (steps : Nat) (α : K) (x y : List K) :
    gdFit sqrt steps α x y =
      if y.length = 0 then none
      else
        let w := gdLoop α x y steps (y.sum / (y.length : K), 0)
        some (fitOf sqrt [w.1, w.2] x y) := by
  simp only [gdFit, fsum_eq, mkFit_spec sqrt _ _ x y fun t => (predict_pair _ _ t).symm]

end unfold

theorem gdLoop_eq_iterate {S : Type} [Add S] [Sub S] [Mul S] [Div S] [Neg S] [OfNat S 0] [OfNat S 1]
    [NatCast S] (α : S) (x y : List S) (k : Nat) (w : S × S) :
    gdLoop α x y k w = (gdStep α x y)^[k] w := by
  induction k generalizing w with
  | zero => rfl
  | succ k ih => rw [gdLoop, ih, Function.iterate_succ_apply]

section gd
variable {K : Type} [Field K]

theorem gdStep_eq (α : K) (x y : List K) (w : K × K) :
    gdStep α x y w =
      (w.1 - α * (((x.zip y).map fun p => w.1 + w.2 * p.1 - p.2).sum / (y.length : K)),
       w.2 - α * (((x.zip y).map fun p => (w.1 + w.2 * p.1 - p.2) * p.1).sum / (y.length : K))) := by
  unfold gdStep
  simp only [fsum_eq]
  rw [zip_zip_map, List.zip_map_left, List.map_map, List.map_map]
  rfl

theorem grad_sums (x y : List K) (hxy : x.length = y.length) (w : K × K) :
    ((x.zip y).map fun p => w.1 + w.2 * p.1 - p.2).sum
        = (y.length : K) * w.1 + w.2 * x.sum - y.sum ∧
    ((x.zip y).map fun p => (w.1 + w.2 * p.1 - p.2) * p.1).sum
        = w.1 * x.sum + w.2 * (x.map fun xi => xi ^ 2).sum
          - ((x.zip y).map fun p => p.1 * p.2).sum := by
  constructor
  · rw [sum_zip_moments x y hxy _ w.1 w.2 0 (-1) 0 fun p => by ring]
    ring
  · rw [sum_zip_moments x y hxy _ 0 w.1 w.2 0 (-1) fun p => by ring]
    ring

end gd

section gdorder
variable {K : Type} [Field K] [LinearOrder K] [IsStrictOrderedRing K]

theorem psd2 (a b c u v : K) (ha : 0 ≤ a) (hc : 0 ≤ c) (hdet : b ^ 2 ≤ a * c) :
    0 ≤ a * u ^ 2 + 2 * b * u * v + c * v ^ 2 := by
  rcases ha.eq_or_lt with rfl | hapos
  · have hb : b = 0 := by
      rw [zero_mul] at hdet
      exact pow_eq_zero_iff two_ne_zero |>.mp (le_antisymm hdet (sq_nonneg b))
    rw [hb]
    linear_combination mul_nonneg hc (sq_nonneg v)
  · refine nonneg_of_mul_nonneg_right ?_ hapos
    linear_combination sq_nonneg (a * u + b * v) + mul_nonneg (sub_nonneg.mpr hdet) (sq_nonneg v)

omit [LinearOrder K] [IsStrictOrderedRing K] in
/-- energy after one step: `E(e') = E(e) − 2α |g|² + α² gᵀHg`, `g = He` -/
theorem energy_step (α mx q : K) (e : K × K) :
    energy mx q (stepErr α mx q e)
      = energy mx q e
        - 2 * α * ((e.1 + mx * e.2) ^ 2 + (mx * e.1 + q * e.2) ^ 2)
        + α ^ 2 * energy mx q (e.1 + mx * e.2, mx * e.1 + q * e.2) := by
  unfold energy stepErr
  ring

/-- `H ≤ L·I`: `gᵀHg ≤ L |g|²` -/
theorem energy_le (mx q L : K) (hL : 1 ≤ L) (hLq : q ≤ L) (hdet : mx ^ 2 ≤ (L - 1) * (L - q))
    (g : K × K) : energy mx q g ≤ L * (g.1 ^ 2 + g.2 ^ 2) := by
  have h := psd2 (L - 1) (-mx) (L - q) g.1 g.2 (sub_nonneg.mpr hL) (sub_nonneg.mpr hLq)
    (by rwa [neg_sq])
  unfold energy
  linear_combination h

/-- `H ≥ μ·I` gives `|He|² ≥ μ eᵀHe`: with `M = H − μI ≥ 0`, `|He|² − μ eᵀHe = |Me|² + μ eᵀMe` -/
theorem grad_ge (mx q μ : K) (h0 : 0 ≤ μ) (h1 : μ ≤ 1) (hq : μ ≤ q)
    (hdet : mx ^ 2 ≤ (1 - μ) * (q - μ)) (e : K × K) :
    μ * energy mx q e ≤ (e.1 + mx * e.2) ^ 2 + (mx * e.1 + q * e.2) ^ 2 := by
  have h := psd2 (1 - μ) mx (q - μ) e.1 e.2 (sub_nonneg.mpr h1) (sub_nonneg.mpr hq) hdet
  unfold energy
  linear_combination mul_nonneg h0 h + sq_nonneg ((1 - μ) * e.1 + mx * e.2)
    + sq_nonneg (mx * e.1 + (q - μ) * e.2)

theorem descent_contracts (α L μ E G Q : K) (hQ : Q ≤ L * G) (hG : μ * E ≤ G) (hα : 0 ≤ α)
    (hαL : α * L ≤ 2) : E - 2 * α * G + α ^ 2 * Q ≤ (1 - α * μ * (2 - α * L)) * E := by
  have s1 : α ^ 2 * Q ≤ α ^ 2 * (L * G) := mul_le_mul_of_nonneg_left hQ (sq_nonneg α)
  have s2 : α * (2 - α * L) * (μ * E) ≤ α * (2 - α * L) * G :=
    mul_le_mul_of_nonneg_left hG (mul_nonneg hα (sub_nonneg.mpr hαL))
  linear_combination s1 + s2

theorem gdLoop_le_pow (α : K) (x y : List K) (E : K × K → K) (τ : K) (hτ : 0 ≤ τ)
    (hstep : ∀ w, E (gdStep α x y w) ≤ τ * E w) (k : Nat) (w : K × K) :
    E (gdLoop α x y k w) ≤ τ ^ k * E w := by
  induction k generalizing w with
  | zero => rw [gdLoop, pow_zero, one_mul]
  | succ k ih =>
    rw [gdLoop, pow_succ, mul_assoc]
    exact (ih _).trans (mul_le_mul_of_nonneg_left (hstep w) (pow_nonneg hτ k))

theorem tau_nonneg (α L μ : K) (hL : 1 ≤ L) (_h0 : 0 ≤ μ) (h1 : μ ≤ 1) (hα : 0 ≤ α)
    (hαL : α * L ≤ 2) : 0 ≤ 1 - α * μ * (2 - α * L) := by
  have h : α * μ * (2 - α * L) ≤ α * L * (2 - α * L) :=
    mul_le_mul_of_nonneg_right (mul_le_mul_of_nonneg_left (le_trans h1 hL) hα) (sub_nonneg.mpr hαL)
  linear_combination h + sq_nonneg (1 - α * L)

end gdorder

end SV.C15
