import SV.Lemmas.Rounding
import Mathlib.Data.Int.Log
import Mathlib.Algebra.Order.Round
import Mathlib.Algebra.Order.Archimedean.Real.Basic
import Mathlib.Tactic.FieldSimp
/-!
The standard model is satisfied by a genuine round-to-nearest: `FlModel.nearest p` rounds every
real to a nearest number of the form `m·2^e` with a `p`-bit significand `|m| ≤ 2^p` and
**unbounded exponent** `e`; its unit roundoff is `u = 2⁻ᵖ`.  `FlModel.binary64 = nearest 53` is
IEEE binary64 round-to-nearest without its exponent limits (`u = 2⁻⁵³`): for every real whose
magnitude lies in the normal range (at least `2⁻¹⁰²²`, below the overflow threshold) it returns a
binary64 number nearest to it.  Ties are resolved by Mathlib's `round` (half-way cases of the scaled
significand go up), not to even as in IEEE; no bound depends on the tie rule.  `rn_fixed`:
representable numbers are fixed points, so `0 + x`, `1 * x`, `n as f64` (`n < 2⁵³`) are exact in this
model as they are in IEEE.  Every rounding theorem of this layer therefore applies to `f64`
computations whose intermediate results all stay in the normal range.
-/
namespace SV.FlModel

noncomputable def ofAbsBound (u : ℝ) (hu : 0 ≤ u ∧ u < 1) (rnd : ℝ → ℝ)
    (h : ∀ x, |rnd x - x| ≤ u * |x|) : FlModel where
  u := u
  hu := hu
  rnd := rnd
  hrnd := by
    intro x
    by_cases hx : x = 0
    · subst hx
      have h0 := h 0
      rw [abs_zero, mul_zero, sub_zero] at h0
      exact ⟨0, by simpa using hu.1, by rw [abs_nonpos_iff.mp h0]; ring⟩
    · refine ⟨(rnd x - x) / x, ?_, by field_simp; ring⟩
      rw [abs_div, div_le_iff₀ (abs_pos.mpr hx)]
      exact h x

/-- spacing of the `p`-bit numbers around `x`: `2^(e − p + 1)` with `2^e ≤ |x| < 2^(e+1)` -/
noncomputable def ulp (p : ℕ) (x : ℝ) : ℝ := (2 : ℝ) ^ (Int.log 2 |x| - (p : ℤ) + 1)

noncomputable def rn (p : ℕ) (x : ℝ) : ℝ := (round (x / ulp p x) : ℝ) * ulp p x

theorem ulp_pos (p : ℕ) (x : ℝ) : 0 < ulp p x := zpow_pos (by norm_num) _

theorem half_ulp_le (p : ℕ) {x : ℝ} (hx : x ≠ 0) : ulp p x / 2 ≤ (2⁻¹ : ℝ) ^ p * |x| := by
  have hlog : ((2 : ℕ) : ℝ) ^ Int.log 2 |x| ≤ |x| :=
    Int.zpow_log_le_self (by norm_num) (abs_pos.mpr hx)
  rw [Nat.cast_ofNat] at hlog
  have h2 : (2 : ℝ) ≠ 0 := two_ne_zero
  have e : ulp p x / 2 = (2⁻¹ : ℝ) ^ p * (2 : ℝ) ^ Int.log 2 |x| := by
    rw [ulp, zpow_add₀ h2, zpow_sub₀ h2, zpow_one, zpow_natCast, mul_div_cancel_right₀ _ h2,
      div_eq_inv_mul, inv_pow]
  rw [e]
  exact mul_le_mul_of_nonneg_left hlog (by positivity)

theorem abs_rn_sub_le (p : ℕ) (x : ℝ) : |rn p x - x| ≤ (2⁻¹ : ℝ) ^ p * |x| := by
  by_cases hx : x = 0
  · rw [hx, rn, zero_div, round_zero, Int.cast_zero, zero_mul, sub_zero, abs_zero, mul_zero]
  · have hq := ulp_pos p x
    have h1 : rn p x - x = ((round (x / ulp p x) : ℝ) - x / ulp p x) * ulp p x := by
      rw [rn, sub_mul, div_mul_cancel₀ _ hq.ne']
    rw [h1, abs_mul, abs_of_pos hq, abs_sub_comm]
    calc |x / ulp p x - round (x / ulp p x)| * ulp p x
        ≤ 1 / 2 * ulp p x := mul_le_mul_of_nonneg_right (abs_sub_round _) hq.le
      _ = ulp p x / 2 := one_div_mul_eq_div 2 _
      _ ≤ _ := half_ulp_le p hx

/-- round to nearest with a `p`-bit significand (`p ≥ 1`) and unbounded exponent: a model with
`u = 2⁻ᵖ` -/
noncomputable def nearest (p : ℕ) (hp : 0 < p) : FlModel :=
  ofAbsBound ((2⁻¹ : ℝ) ^ p)
    ⟨by positivity, pow_lt_one₀ (by norm_num) (by norm_num) (Nat.pos_iff_ne_zero.mp hp)⟩
    (rn p) (abs_rn_sub_le p)

/-- binary64 round-to-nearest without exponent limits -/
noncomputable def binary64 : FlModel := nearest 53 (by norm_num)

theorem binary64_u : binary64.u = (2⁻¹ : ℝ) ^ 53 := rfl

/-- the `p`-bit numbers `m·2^e` (binary64: `p = 53`, `2⁵² ≤ |m| < 2⁵³`) are fixed points of `rn p`;
`0` is fixed by `FlModel.rnd_zero`.  That every value of `rn p` is such a number holds by
construction and is not stated as a theorem. -/
theorem rn_fixed (p : ℕ) (m : ℤ) (e : ℤ) (hm : (2 : ℝ) ^ (p - 1 : ℤ) ≤ |(m : ℝ)|)
    (hm' : |(m : ℝ)| < (2 : ℝ) ^ (p : ℤ)) :
    rn p ((m : ℝ) * (2 : ℝ) ^ e) = (m : ℝ) * (2 : ℝ) ^ e := by
  have h2 : (2 : ℝ) ≠ 0 := by norm_num
  have hpos : (0 : ℝ) < (2 : ℝ) ^ e := zpow_pos (by norm_num) _
  have habs : |(m : ℝ) * (2 : ℝ) ^ e| = |(m : ℝ)| * (2 : ℝ) ^ e := by
    rw [abs_mul, abs_of_pos hpos]
  -- the binade of `m·2^e` is `e + p − 1`
  have hlog : Int.log 2 |(m : ℝ) * (2 : ℝ) ^ e| = e + p - 1 := by
    have hx0 : 0 < |(m : ℝ) * (2 : ℝ) ^ e| := by
      rw [habs]
      exact mul_pos (lt_of_lt_of_le (zpow_pos (by norm_num) _) hm) hpos
    apply le_antisymm
    · have := (Int.lt_zpow_iff_log_lt (b := 2) (by norm_num) hx0 (x := e + p)).mp (by
        rw [habs, Nat.cast_ofNat, add_comm, zpow_add₀ h2]
        exact mul_lt_mul_of_pos_right hm' hpos)
      omega
    · apply (Int.zpow_le_iff_le_log (b := 2) (by norm_num) hx0).mp
      rw [habs, Nat.cast_ofNat, show e + (p : ℤ) - 1 = ((p : ℤ) - 1) + e by ring, zpow_add₀ h2]
      exact mul_le_mul_of_nonneg_right hm hpos.le
  unfold rn ulp
  rw [hlog, show e + (p : ℤ) - 1 - p + 1 = e by ring, mul_div_assoc, div_self hpos.ne', mul_one,
    round_intCast]

theorem mul_two_inv_pow_le_one {n : ℕ} (hn : n ≤ 2 ^ 52) : (n : ℝ) * (2⁻¹ : ℝ) ^ 52 ≤ 1 := by
  rw [inv_pow, ← div_eq_mul_inv, div_le_one (by positivity)]
  exact_mod_cast hn

theorem binary64_gamma_le {n : ℕ} (hn : n ≤ 2 ^ 52) :
    (n : ℝ) * binary64.u < 1 ∧ binary64.gamma n ≤ (n : ℝ) * (2⁻¹ : ℝ) ^ 52 := by
  -- `n·u = (n·2⁻⁵²)/2` and `n·2⁻⁵² ≤ 1`
  have hu : (n : ℝ) * binary64.u = (n : ℝ) * (2⁻¹ : ℝ) ^ 52 / 2 := by
    rw [binary64_u, pow_succ, ← mul_assoc, div_eq_mul_inv]
  have hhalf : (n : ℝ) * binary64.u ≤ 1 / 2 := by
    rw [hu]
    exact div_le_div_of_nonneg_right (mul_two_inv_pow_le_one hn) zero_le_two
  refine ⟨hhalf.trans_lt one_half_lt_one, (binary64.gamma_le_two_mul hhalf).trans_eq ?_⟩
  rw [hu, mul_div_cancel₀ _ two_ne_zero]

/-- a bound `|x| ≤ k·W` with its coefficient enlarged to `K`; that `0 ≤ W` follows from the bound
itself when `k > 0`, and for `k = 0` both sides vanish -/
theorem abs_le_mul_of_coeff_le {x k K W : ℝ} (h : |x| ≤ k * W) (hk : 0 ≤ k) (hkK : k ≤ K)
    (h0 : k = 0 → K = 0) : |x| ≤ K * W := by
  rcases hk.eq_or_lt with hz | hpos
  · rwa [h0 hz.symm, hz]
  · exact h.trans (mul_le_mul_of_nonneg_right hkK
      (nonneg_of_mul_nonneg_right ((abs_nonneg x).trans h) hpos))

theorem binary64_gamma_eq_zero {n : ℕ} (hu : (n : ℝ) * binary64.u < 1)
    (h0 : binary64.gamma n = 0) : (n : ℝ) = 0 := by
  have hnu : (n : ℝ) * binary64.u = 0 :=
    le_antisymm (h0 ▸ binary64.mul_u_le_gamma hu) (binary64.mul_u_nonneg n)
  exact (mul_eq_zero.mp hnu).resolve_right (by rw [binary64_u]; positivity)

/-- a bound `|x| ≤ γ_n·W` at binary64, numerically -/
theorem abs_le_binary64 {n : ℕ} (hn : n ≤ 2 ^ 52) {x W : ℝ}
    (h : (n : ℝ) * binary64.u < 1 → |x| ≤ binary64.gamma n * W) :
    |x| ≤ (n : ℝ) * (2⁻¹ : ℝ) ^ 52 * W := by
  obtain ⟨hu, hg⟩ := binary64_gamma_le hn
  exact abs_le_mul_of_coeff_le (h hu) (binary64.gamma_nonneg hu) hg fun h0 => by
    rw [binary64_gamma_eq_zero hu h0, zero_mul]

/-- the same for a bound `(c·γ_n + γ_n²)·W`: `γ_n² ≤ γ_n ≤ n·2⁻⁵² ≤ 1` -/
theorem abs_le_binary64_sq {n : ℕ} (hn : n ≤ 2 ^ 52) {c d x W : ℝ} (hc : 0 ≤ c)
    (hd : c + 1 ≤ d)
    (h : (n : ℝ) * binary64.u < 1 → |x| ≤ (c * binary64.gamma n + binary64.gamma n ^ 2) * W) :
    |x| ≤ d * (n : ℝ) * (2⁻¹ : ℝ) ^ 52 * W := by
  obtain ⟨hu, hg⟩ := binary64_gamma_le hn
  have hg0 := binary64.gamma_nonneg hu
  have he0 : 0 ≤ (n : ℝ) * (2⁻¹ : ℝ) ^ 52 := hg0.trans hg
  have hle1 := mul_two_inv_pow_le_one hn
  have h1 := mul_le_mul_of_nonneg_left hg hc
  have h2 : binary64.gamma n ^ 2 ≤ (n : ℝ) * (2⁻¹ : ℝ) ^ 52 := by
    rw [pow_two]
    exact (mul_le_mul hg (hg.trans hle1) hg0 he0).trans (mul_one _).le
  have h3 := mul_le_mul_of_nonneg_right hd he0
  rw [mul_assoc d]
  refine abs_le_mul_of_coeff_le (h hu) (add_nonneg (mul_nonneg hc hg0) (sq_nonneg _))
    ((add_le_add h1 h2).trans ((add_one_mul c _).symm.le.trans h3)) fun h0 => ?_
  -- both summands are non-negative, so `γ_n² = 0`
  have hsq : binary64.gamma n ^ 2 = 0 :=
    le_antisymm (h0 ▸ le_add_of_nonneg_left (mul_nonneg hc hg0)) (sq_nonneg _)
  rw [binary64_gamma_eq_zero hu (pow_eq_zero_iff two_ne_zero |>.mp hsq), zero_mul, mul_zero]

end SV.FlModel
