import SV.Lemmas.Subst
import SV.Lemmas.Rounding
/-!
The test problems on which the rounding theorems are shown not to be statements about exact
arithmetic: the model `M8` (`rnd t = t·(1 + 1/16)`, `u = 1/8`, so `k·u < 1` up to `k = 7`), the
triangular matrices `L2`, `U2` of order 2 with the facts the theorems ask of them, and the two
assignments a sweep of order 2 performs, for every scalar type.  A non-vacuity example then names
its data, reads the run off `backCore_two` / `fwdCore_two` and evaluates rationals.
-/
namespace SV
open Finset

theorem Mat.get_two {S : Type} [Inhabited S] (a b c d : S) :
    (⟨2, 2, #[a, b, c, d]⟩ : Mat S).get 0 0 = a ∧ (⟨2, 2, #[a, b, c, d]⟩ : Mat S).get 0 1 = b ∧
    (⟨2, 2, #[a, b, c, d]⟩ : Mat S).get 1 0 = c ∧ (⟨2, 2, #[a, b, c, d]⟩ : Mat S).get 1 1 = d :=
  ⟨rfl, rfl, rfl, rfl⟩

theorem vget_two {S : Type} [Inhabited S] (a b : S) : vget #[a, b] 0 = a ∧ vget #[a, b] 1 = b :=
  ⟨rfl, rfl⟩

section
variable {M : FlModel}

theorem Mat.two_diag {a d : Fl M} (b c : Fl M) (ha : a.val ≠ 0) (hd : d.val ≠ 0) :
    ∀ i, i < 2 → ((⟨2, 2, #[a, b, c, d]⟩ : Mat (Fl M)).get i i).val ≠ 0 := by
  intro i hi
  obtain rfl | rfl : i = 0 ∨ i = 1 := by omega
  exacts [ha, hd]

theorem Mat.two_upper (a c d : Fl M) {b : Fl M} (hb : b.val = 0) :
    ∀ i j, i < 2 → i < j → j < 2 → ((⟨2, 2, #[a, b, c, d]⟩ : Mat (Fl M)).get i j).val = 0 := by
  intro i j hi hij hj
  obtain ⟨rfl, rfl⟩ : i = 0 ∧ j = 1 := by omega
  exact hb

theorem Mat.two_lower (a b d : Fl M) {c : Fl M} (hc : c.val = 0) :
    ∀ i j, i < 2 → j < i → ((⟨2, 2, #[a, b, c, d]⟩ : Mat (Fl M)).get i j).val = 0 := by
  intro i j hi hji
  obtain ⟨rfl, rfl⟩ : i = 1 ∧ j = 0 := by omega
  exact hc

end

namespace Subst
variable {S : Type} [Inhabited S] [Add S] [Sub S] [Mul S] [Div S] [OfNat S 0]

/-- the two assignments of the backward sweep of order 2 (the last row has no subtraction) -/
theorem backCore_two (U : Mat S) (b sol : Array S) (hs : 2 ≤ sol.size) :
    vget (backCore U 2 b sol) 1 = vget b 1 / U.get 1 1 ∧
    vget (backCore U 2 b sol) 0
      = (vget b 0 - (0 + U.get 0 1 * (vget b 1 / U.get 1 1))) / U.get 0 0 := by
  obtain ⟨_, _, h1, h0⟩ := backCore_eqns U 2 b sol (by decide) hs
  have h1' : vget (backCore U 2 b sol) 1 = vget b 1 / U.get 1 1 := h1
  refine ⟨h1', (h0 0 (by decide)).trans ?_⟩
  show (vget b 0 - (0 + U.get 0 1 * vget (backCore U 2 b sol) 1)) / U.get 0 0 = _
  rw [h1']

/-- the two assignments of the forward sweep of order 2 (`b₀ − 0`: the empty sum is subtracted) -/
theorem fwdCore_two (L : Mat S) (b sol : Array S) (hs : 2 ≤ sol.size) :
    vget (fwdCore L 2 b sol) 0 = (vget b 0 - 0) / L.get 0 0 ∧
    vget (fwdCore L 2 b sol) 1
      = (vget b 1 - (0 + L.get 1 0 * ((vget b 0 - 0) / L.get 0 0))) / L.get 1 1 := by
  obtain ⟨_, _, h⟩ := fwdCore_eqns L b sol 2 hs
  have h0 : vget (fwdCore L 2 b sol) 0 = (vget b 0 - 0) / L.get 0 0 := h 0 (by decide)
  refine ⟨h0, (h 1 (by decide)).trans ?_⟩
  show (vget b 1 - (0 + L.get 1 0 * vget (fwdCore L 2 b sol) 0)) / L.get 1 1 = _
  rw [h0]

end Subst

namespace C09.Ex

theorem h8 : (0 : ℝ) ≤ 1 / 8 ∧ (1 / 8 : ℝ) < 1 := by norm_num

/-- `rnd t = t·(1 + 1/16)`, `u = 1/8` -/
noncomputable abbrev M8 : FlModel := FlModel.skew (1 / 8) h8

theorem M8_pos : 0 < M8.u := by
  rw [FlModel.skew_u]
  norm_num

theorem M8_hyp {n : ℕ} (hn : n ≤ 7) : (n : ℝ) * M8.u < 1 := by
  refine (M8.mul_u_mono hn).trans_lt ?_
  rw [FlModel.skew_u]
  norm_num

theorem M8_rnd (x : ℝ) : M8.rnd x = x * (17 / 16) := by
  rw [FlModel.skew_rnd]
  norm_num

/-- `[[1, 0], [1, 1]]` -/
noncomputable def L2 : Mat (Fl M8) := ⟨2, 2, #[1, 0, 1, 1]⟩

/-- `[[1, 1], [0, 1]]` -/
noncomputable def U2 : Mat (Fl M8) := ⟨2, 2, #[1, 1, 0, 1]⟩

noncomputable def I2 : Mat (Fl M8) := ⟨2, 2, #[1, 0, 0, 1]⟩

theorem L2_diag : ∀ i, i < 2 → (L2.get i i).val ≠ 0 := Mat.two_diag _ _ one_ne_zero one_ne_zero

theorem U2_diag : ∀ i, i < 2 → (U2.get i i).val ≠ 0 := Mat.two_diag _ _ one_ne_zero one_ne_zero

theorem L2_lower : ∀ i k, i < 2 → i < k → k < 2 → (L2.get i k).val = 0 := Mat.two_upper _ _ _ rfl

theorem U2_upper : ∀ i k, i < 2 → k < i → (U2.get i k).val = 0 := Mat.two_lower _ _ _ rfl

end C09.Ex

end SV
