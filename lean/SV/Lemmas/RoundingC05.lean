import SV.Model.C05
import SV.Lemmas.RoundingSum
import SV.Lemmas.RoundingPoly
import SV.Lemmas.C05
/-!
Helper lemmas for the rounding analysis of `SV.C05.definiteIntegral` (composite Simpson) at the
rounding scalar `Fl M`.

The computed values are followed with the calculus of rounded sums of `SV.Lemmas.RoundingSum`
(`M.Rounded m v s A`: exact sum `s`, mass `A`, at most `m` roundings per term; `M.Scaled k v c`: a
computed scalar), which yields the rounding envelope of the composite rule
(`definiteIntegral_rounded`) **and** the drift of the running abscissae `xi += 2h`
(`node13_rounded`, `mid13_rounded`, `node38_rounded`) from the same few lemmas.

## The rule at `Fl M`

`hFl a b n = (b − a)/n`, `node13 h a k` (`xi` after `k` passes of `xi += 2h` from `a`),
`mid13 h a k = node13 h a (k+1) − h`, `node38 h b j` (`b − h·3, b − h·2, b − h·1, b`) are the
abscissae the code really evaluates the integrand at — themselves results of rounded operations.
`simpsonSum` is the rule as a closed-form real expression in the sample values;
`simpsonSum_eq_panels` writes it for every `n ≥ 2` as `p` panels of the 1/3 rule and `e ≤ 1`
panels of the 3/8 rule, which is the form its properties are proved in; `simpsonSum_eq_rule`: at
the exact abscissae it is what `definite_integral` returns in exact arithmetic, so exactness for
cubics comes from `SV.Lemmas.C05`.
-/
namespace SV
open Finset

variable {M : FlModel}

namespace FlModel.Scaled

theorem lit (n : ℕ) : M.Scaled 1 (C05.lit n : Fl M).val n := Fl.natCast_fac n

end FlModel.Scaled

namespace C05
open SV.Poly

/-- the computed segment width `(end − start) / segments as f64` -/
noncomputable def hFl (a b : Fl M) (n : ℕ) : Fl M := (b - a) / (n : Fl M)

theorem hFl_scaled (a b : Fl M) (n : ℕ) :
    M.Scaled 3 (hFl a b n).val ((b.val - a.val) / (n : ℝ)) :=
  FlModel.Scaled.div_fl (Fl.sub_fac b a) (FlModel.Scaled.lit n)

/-- `xi` after `k` passes of `xi += 2_f64 * segment_width` from `s` -/
noncomputable def node13 (h s : Fl M) : ℕ → Fl M
  | 0 => s
  | k + 1 => node13 h s k + lit 2 * h

/-- the midpoint `xi − segment_width` of panel `k` (formed after `xi` has been advanced) -/
noncomputable def mid13 (h s : Fl M) (k : ℕ) : Fl M := node13 h s (k + 1) - h

/-- the four points of the 3/8 panel: `end − h·3, end − h·2, end − h·1, end` -/
noncomputable def node38 (h b : Fl M) (j : ℕ) : Fl M :=
  if j = 0 then b - h * lit 3 else if j = 1 then b - h * lit 2
  else if j = 2 then b - h * lit 1 else b

/-- the 1/3 part with `q + 1` panels as an expression in the sample values at the nodes (`F13 k`,
`k = 0 … q+1`) and at the midpoints (`Fmid k`, `k = 0 … q`), before the scaling by `H/3` -/
noncomputable def S13 (q : ℕ) (F13 Fmid : ℕ → ℝ) : ℝ :=
  F13 0 + ∑ k ∈ range q, (4 * Fmid k + 2 * F13 (k + 1)) + (4 * Fmid q + F13 (q + 1))

/-- the 3/8 panel, before the scaling by `3H/8` -/
noncomputable def S38 (F : ℕ → ℝ) : ℝ := F 0 + 3 * F 1 + 3 * F 2 + F 3

/-- **composite Simpson as `definite_integral` arranges it**, `n ≥ 2`, width `H`, in terms of the
sample values: even `n`: `n/2` panels of the 1/3 rule from the start; odd `n`: the 3/8 rule on the
last three segments and `(n−3)/2` panels of the 1/3 rule from the start (none for `n = 3`) -/
noncomputable def simpsonSum (n : ℕ) (H : ℝ) (F13 Fmid F38 : ℕ → ℝ) : ℝ :=
  if n % 2 = 0 then H / 3 * S13 (n / 2 - 1) F13 Fmid
  else 3 * H / 8 * S38 F38 + (if n = 3 then 0 else H / 3 * S13 ((n - 3) / 2 - 1) F13 Fmid)

theorem lit_mul {m : ℕ} {s A : ℝ} (k : ℕ) {x : Fl M} (hx : M.Rounded m x.val s A) :
    M.Rounded (m + 2) (lit k * x).val ((k : ℝ) * s) ((k : ℝ) * A) :=
  (hx.fl_mul (FlModel.Scaled.lit k)).of_eq rfl (by rw [Nat.abs_cast])

section rule
variable {f : Fl M → Except PErr (Fl M)} {g : Fl M → Fl M} {F A : Fl M → ℝ} {mf : ℕ}
  (hf : ∀ x, f x = .ok (g x)) (hg : ∀ x, M.Rounded mf (g x).val (F x) (A x))
include hf hg

/-- `cnt` passes from `xi = node j` add the panels `j, …, j+cnt−1`; every earlier term takes part
in `cnt` more additions -/
theorem s13Loop_rounded (h s : Fl M) :
    ∀ (cnt j : ℕ) (sum : Fl M) (m : ℕ) (σ α : ℝ), mf + 3 ≤ m → M.Rounded m sum.val σ α →
      ∃ sum', s13Loop f h cnt (node13 h s j) sum = .ok (node13 h s (j + cnt), sum') ∧
        M.Rounded (m + cnt) sum'.val
          (σ + ∑ k ∈ Ico j (j + cnt), (4 * F (mid13 h s k) + 2 * F (node13 h s (k + 1))))
          (α + ∑ k ∈ Ico j (j + cnt), (4 * A (mid13 h s k) + 2 * A (node13 h s (k + 1)))) := by
  intro cnt
  induction cnt with
  | zero =>
    intro j sum m σ α _ hL
    exact ⟨sum, rfl, hL.of_eq (by simp) (by simp)⟩
  | succ cnt ih =>
    intro j sum m σ α hm hL
    have hstep := (hL.add_fl ((lit_mul 4 (hg (mid13 h s j))).add_fl
      (lit_mul 2 (hg (node13 h s (j + 1)))))).mono (by omega : _ ≤ m + 1)
    simp only [Nat.cast_ofNat] at hstep
    obtain ⟨sum', h1, h2⟩ := ih (j + 1) _ (m + 1) _ _ (by omega) hstep
    have ej : j + 1 + cnt = j + (cnt + 1) := by omega
    rw [ej] at h1 h2
    refine ⟨sum', ?_, ?_⟩
    · rw [s13Loop]
      have e1 : node13 h s j + lit 2 * h = node13 h s (j + 1) := rfl
      have e2 : node13 h s (j + 1) - h = mid13 h s j := rfl
      simp only [e1, e2, hf]
      exact h1
    · have hj : j < j + (cnt + 1) := by omega
      refine (h2.mono (by omega)).of_eq ?_ ?_
      · rw [Finset.sum_eq_sum_Ico_succ_bot hj, add_assoc]
      · rw [Finset.sum_eq_sum_Ico_succ_bot hj, add_assoc]

/-- `simpson13` with `q + 1 = segments/2` panels and computed width `h` of exact value `H`: the
value is the rounded sum `(H/3)·S13`, each term with at most `mf + q + 10` roundings (`mf` of the
sample, 3 inside its panel, `q + 1` additions, and `h·sum/3` with the 3 of `h`). -/
theorem simpson13_rounded (h s : Fl M) (rem q : ℕ)
    (hq : rem / 2 = q + 1) (H : ℝ) (hh : M.Scaled 3 h.val H) :
    ∃ v, simpson13 f h s rem = .ok v ∧
      M.Rounded (mf + q + 10) v.val
        (H / 3 * S13 q (fun k => F (node13 h s k)) (fun k => F (mid13 h s k)))
        (|H| / 3 * S13 q (fun k => A (node13 h s k)) (fun k => A (mid13 h s k))) := by
  obtain ⟨sum', h1, h2⟩ := s13Loop_rounded hf hg h s q 0 (g (node13 h s 0)) (mf + 3) _ _ le_rfl
    ((hg (node13 h s 0)).mono (by omega))
  have hlast := h2.add_fl ((lit_mul 4 (hg (mid13 h s q))).add_fl (hg (node13 h s (q + 1))))
  have hv := (hlast.fl_mul hh).div_fl (FlModel.Scaled.lit 3)
  refine ⟨_, ?_, (hv.mono (by omega)).of_eq ?_ ?_⟩
  · rw [simpson13]
    have e0 : node13 h s 0 = s := rfl
    have e1 : node13 h s (0 + q) + lit 2 * h = node13 h s (q + 1) := by
      rw [Nat.zero_add]; rfl
    have e2 : node13 h s (q + 1) - h = mid13 h s q := rfl
    rw [e0] at h1
    simp only [hf, hq, Nat.add_sub_cancel, h1, e1, e2]
  · simp only [S13, Finset.range_eq_Ico, Nat.zero_add, Nat.cast_ofNat]
    ring
  · simp only [S13, Finset.range_eq_Ico, Nat.zero_add, Nat.cast_ofNat]
    ring

/-- `simpson38`: at most `mf + 13` roundings per term (`mf` of the sample, at most 5 in
`f0 + 3 f1 + 3 f2 + f3`, and `3·h·sum/8` with the 3 of `h` and the two literals) -/
theorem simpson38_rounded (h p0 p1 p2 p3 : Fl M) (H : ℝ)
    (hh : M.Scaled 3 h.val H) :
    ∃ v, simpson38 f h p0 p1 p2 p3 = .ok v ∧
      M.Rounded (mf + 13) v.val (3 * H / 8 * (F p0 + 3 * F p1 + 3 * F p2 + F p3))
        (3 * |H| / 8 * (A p0 + 3 * A p1 + 3 * A p2 + A p3)) := by
  have hsum := (((hg p0).add_fl (lit_mul 3 (hg p1))).add_fl (lit_mul 3 (hg p2))).add_fl (hg p3)
  have hv := (hsum.fl_mul ((FlModel.Scaled.lit 3).mul_fl hh)).div_fl (FlModel.Scaled.lit 8)
  refine ⟨_, ?_, (hv.mono (by omega)).of_eq ?_ ?_⟩
  · rw [simpson38]
    simp only [hf]
  · simp only [Nat.cast_ofNat]
    ring
  · simp only [Nat.cast_ofNat, abs_mul]
    ring

/-- the rule as the code computes it: exact width `H = (b − a)/n` in the coefficients, samples at
the computed abscissae, at most `mf + n/2 + 13` roundings per term -/
theorem definiteIntegral_rounded (a b : Fl M) (n : ℕ) (hn : 2 ≤ n) :
    ∃ v, definiteIntegral f a b n = .ok v ∧
      M.Rounded (mf + n / 2 + 13) v.val
        (simpsonSum n ((b.val - a.val) / n) (fun k => F (node13 (hFl a b n) a k))
          (fun k => F (mid13 (hFl a b n) a k)) (fun j => F (node38 (hFl a b n) b j)))
        (simpsonSum n |(b.val - a.val) / n| (fun k => A (node13 (hFl a b n) a k))
          (fun k => A (mid13 (hFl a b n) a k)) (fun j => A (node38 (hFl a b n) b j))) := by
  have hh := hFl_scaled a b n
  have h0 : M.Rounded 0 (0 : Fl M).val 0 0 := FlModel.Rounded.zero
  by_cases hpar : n % 2 = 0
  · obtain ⟨v, hv, hA⟩ := simpson13_rounded hf hg (hFl a b n) a n (n / 2 - 1) (by omega) _ hh
    exact ⟨_, definiteIntegral_eq_even f a b hpar hn hv, ((h0.add_fl hA).mono (by omega)).of_eq
      (by rw [simpsonSum, if_pos hpar, zero_add]) (by rw [simpsonSum, if_pos hpar, zero_add])⟩
  · obtain ⟨v8, hv8, hA8⟩ := simpson38_rounded hf hg (hFl a b n)
      (node38 (hFl a b n) b 0) (node38 (hFl a b n) b 1) (node38 (hFl a b n) b 2)
      (node38 (hFl a b n) b 3) _ hh
    have hs8 := h0.add_fl hA8
    by_cases h3 : n = 3
    · exact ⟨_, definiteIntegral_eq_three f a b hv8 h3, (hs8.mono (by omega)).of_eq
        (by rw [simpsonSum, if_neg hpar, if_pos h3, zero_add, add_zero, S38])
        (by rw [simpsonSum, if_neg hpar, if_pos h3, zero_add, add_zero, S38])⟩
    · obtain ⟨v, hv, hA⟩ := simpson13_rounded hf hg (hFl a b n) a (n - 3) ((n - 3) / 2 - 1)
        (by omega) _ hh
      exact ⟨_, definiteIntegral_eq_odd f a b hv8 (by omega) (by omega) hv,
        ((hs8.add_fl hA).mono (by omega)).of_eq
        (by rw [simpsonSum, if_neg hpar, if_neg h3, zero_add, S38])
        (by rw [simpsonSum, if_neg hpar, if_neg h3, zero_add, S38])⟩

end rule

theorem S13_succ (q : ℕ) (F13 Fmid : ℕ → ℝ) :
    S13 (q + 1) F13 Fmid = S13 q F13 Fmid + (F13 (q + 1) + 4 * Fmid (q + 1) + F13 (q + 2)) := by
  unfold S13
  rw [Finset.sum_range_succ]
  ring

/-- the weights `1, 4, 2, …, 4, 1` are `q + 1` panels of weights `1, 4, 1` -/
theorem S13_eq_panels (q : ℕ) (F G : ℕ → ℝ) :
    S13 q F G = ∑ k ∈ range (q + 1), (F k + 4 * G k + F (k + 1)) := by
  induction q with
  | zero => simp only [S13, range_zero, sum_empty, zero_add, range_one, sum_singleton]; ring
  | succ q ih => rw [S13_succ, ih, Finset.sum_range_succ _ (q + 1)]

/-- **the rule for every `n ≥ 2` in one formula**: `p` panels of the 1/3 rule from the start and
`e ∈ {0, 1}` panels of the 3/8 rule, `2p + 3e = n` -/
theorem simpsonSum_eq_panels (n : ℕ) (hn : 2 ≤ n) :
    ∃ p e : ℕ, 2 * p + 3 * e = n ∧ e = n % 2 ∧ ∀ (H : ℝ) (F G E : ℕ → ℝ),
      simpsonSum n H F G E
        = H / 3 * ∑ k ∈ range p, (F k + 4 * G k + F (k + 1)) + (e : ℝ) * (3 * H / 8 * S38 E) := by
  rcases Nat.mod_two_eq_zero_or_one n with h | h
  · refine ⟨n / 2 - 1 + 1, 0, by omega, h.symm, fun H F G E => ?_⟩
    rw [simpsonSum, if_pos h, S13_eq_panels, Nat.cast_zero, zero_mul, add_zero]
  · by_cases h3 : n = 3
    · refine ⟨0, 1, by omega, h.symm, fun H F G E => ?_⟩
      rw [simpsonSum, if_neg (by omega), if_pos h3, range_zero, sum_empty, Nat.cast_one]
      ring
    · refine ⟨(n - 3) / 2 - 1 + 1, 1, by omega, h.symm, fun H F G E => ?_⟩
      rw [simpsonSum, if_neg (by omega), if_neg h3, S13_eq_panels, Nat.cast_one]
      ring

theorem simpsonSum_sub (n : ℕ) (hn : 2 ≤ n) (H : ℝ) (F F' G G' E E' : ℕ → ℝ) :
    simpsonSum n H (fun k => F k - F' k) (fun k => G k - G' k) (fun j => E j - E' j)
      = simpsonSum n H F G E - simpsonSum n H F' G' E' := by
  obtain ⟨p, e, -, -, hS⟩ := simpsonSum_eq_panels n hn
  have : ∑ k ∈ range p, (F k - F' k + 4 * (G k - G' k) + (F (k + 1) - F' (k + 1)))
      = ∑ k ∈ range p, (F k + 4 * G k + F (k + 1))
        - ∑ k ∈ range p, (F' k + 4 * G' k + F' (k + 1)) := by
    rw [← Finset.sum_sub_distrib]
    exact Finset.sum_congr rfl fun k _ => by ring
  rw [hS, hS, hS, this, S38, S38, S38]
  ring

theorem abs_panel13_le {x y z C : ℝ} (hx : |x| ≤ C) (hy : |y| ≤ C) (hz : |z| ≤ C) :
    |x + 4 * y + z| ≤ 6 * C := by
  have h := abs_add_three x (4 * y) z
  rw [abs_mul, Nat.abs_ofNat] at h
  linarith

theorem S38_abs_le (F : ℕ → ℝ) (C : ℝ) (hF : ∀ j, j < 4 → |F j| ≤ C) : |S38 F| ≤ 8 * C := by
  have h := abs_add_three (F 0 + 3 * F 1) (3 * F 2) (F 3)
  have h' := abs_add_le (F 0) (3 * F 1)
  rw [abs_mul, Nat.abs_ofNat] at h h'
  rw [S38]
  linarith [hF 0 (by omega), hF 1 (by omega), hF 2 (by omega), hF 3 (by omega)]

/-- the weights of the rule add up to `n·|H| = |b − a|` -/
theorem simpsonSum_abs_le (n : ℕ) (hn : 2 ≤ n) (H : ℝ) (F G E : ℕ → ℝ) (C : ℝ)
    (hF : ∀ k, k ≤ n / 2 → |F k| ≤ C) (hG : ∀ k, k < n / 2 → |G k| ≤ C)
    (hE : n % 2 = 1 → ∀ j, j < 4 → |E j| ≤ C) :
    |simpsonSum n H F G E| ≤ C * ((n : ℝ) * |H|) := by
  obtain ⟨p, e, hpe, he, hS⟩ := simpsonSum_eq_panels n hn
  have h13 : |∑ k ∈ range p, (F k + 4 * G k + F (k + 1))| ≤ (p : ℝ) * (6 * C) :=
    calc |∑ k ∈ range p, (F k + 4 * G k + F (k + 1))|
        ≤ ∑ k ∈ range p, |F k + 4 * G k + F (k + 1)| := Finset.abs_sum_le_sum_abs _ _
      _ ≤ ∑ _k ∈ range p, 6 * C := Finset.sum_le_sum fun k hk => by
          rw [mem_range] at hk
          exact abs_panel13_le (hF k (by omega)) (hG k (by omega)) (hF (k + 1) (by omega))
      _ = (p : ℝ) * (6 * C) := by rw [sum_const, card_range, nsmul_eq_mul]
  have h38 : (e : ℝ) * |S38 E| ≤ (e : ℝ) * (8 * C) := by
    rcases Nat.mod_two_eq_zero_or_one n with h | h
    · rw [he, h, Nat.cast_zero, zero_mul, zero_mul]
    · exact mul_le_mul_of_nonneg_left (S38_abs_le E C (hE h)) (Nat.cast_nonneg e)
  have hcast : (2 : ℝ) * p + 3 * e = n := by exact_mod_cast hpe
  have hH := abs_nonneg H
  calc |simpsonSum n H F G E|
      ≤ |H| / 3 * |∑ k ∈ range p, (F k + 4 * G k + F (k + 1))| + 3 * |H| / 8 * (e * |S38 E|) := by
        rw [hS]
        refine (abs_add_le _ _).trans (le_of_eq ?_)
        rw [abs_mul, abs_mul, abs_mul, abs_div, abs_div, abs_mul, Nat.abs_cast, Nat.abs_ofNat,
          Nat.abs_ofNat]
        ring
    _ ≤ |H| / 3 * (p * (6 * C)) + 3 * |H| / 8 * (e * (8 * C)) :=
        add_le_add (mul_le_mul_of_nonneg_left h13 (by positivity))
          (mul_le_mul_of_nonneg_left h38 (by positivity))
    _ = C * (n * |H|) := by rw [← hcast]; ring

theorem simpsonSum_nonneg (n : ℕ) (hn : 2 ≤ n) (H : ℝ) (hH : 0 ≤ H) (F G E : ℕ → ℝ)
    (hF : ∀ k, 0 ≤ F k) (hG : ∀ k, 0 ≤ G k) (hE : ∀ j, 0 ≤ E j) : 0 ≤ simpsonSum n H F G E := by
  obtain ⟨p, e, -, -, hS⟩ := simpsonSum_eq_panels n hn
  have h13 : 0 ≤ ∑ k ∈ range p, (F k + 4 * G k + F (k + 1)) :=
    Finset.sum_nonneg fun k _ => by linarith [hF k, hG k, hF (k + 1)]
  have h38 : 0 ≤ S38 E := by rw [S38]; linarith [hE 0, hE 1, hE 2, hE 3]
  rw [hS]
  positivity

theorem nat_mul_abs_width (a b : ℝ) (n : ℕ) (hn : 0 < n) :
    (n : ℝ) * |(b - a) / (n : ℝ)| = |b - a| := by
  have hn0 : (0 : ℝ) < n := Nat.cast_pos.mpr hn
  rw [abs_div, Nat.abs_cast, mul_div_cancel₀ _ hn0.ne']

/-- **In exact arithmetic `definite_integral` returns `simpsonSum` of the samples at the exact
abscissae** `a + 2kH`, `a + (2k+1)H`, `b − (3−j)H`: the sample-value form of the rule and its panel
form (`definiteIntegral_even`, `definiteIntegral_odd`) are one rule -/
theorem simpsonSum_eq_rule {f : ℝ → Except PErr ℝ} {g : ℝ → ℝ} (hf : ∀ x, f x = .ok (g x))
    (a b : ℝ) (n : ℕ) (hn : 2 ≤ n) :
    definiteIntegral f a b n
      = .ok (simpsonSum n ((b - a) / n) (fun k => g (a + (k : ℝ) * (2 * ((b - a) / n))))
        (fun k => g (a + ((k : ℝ) + 1) * (2 * ((b - a) / n)) - (b - a) / n))
        (fun j => g (b - ((3 - j : ℕ) : ℝ) * ((b - a) / n)))) := by
  obtain ⟨p, e, hpe, he, hS⟩ := simpsonSum_eq_panels n hn
  have hd : definiteIntegral f a b n = .ok (∑ i ∈ range p,
      panel13 g ((b - a) / n) (a + i * (2 * ((b - a) / n)))
        + e * panel38 g ((b - a) / n) (b - 3 * ((b - a) / n))) := by
    rcases Nat.mod_two_eq_zero_or_one n with h | h
    · obtain rfl : e = 0 := by omega
      rw [definiteIntegral_even hf a b h, show n / 2 = p by omega, Nat.cast_zero, zero_mul,
        add_zero]
    · obtain rfl : e = 1 := by omega
      rw [definiteIntegral_odd hf a b h (by omega), show (n - 3) / 2 = p by omega, Nat.cast_one,
        one_mul, add_comm]
  rw [hd, hS]
  generalize (b - a) / (n : ℝ) = H
  rw [mul_sum, S38, panel38]
  congr 2
  · refine sum_congr rfl fun k _ => ?_
    rw [panel13, show a + ((k : ℝ) + 1) * (2 * H) - H = a + k * (2 * H) + H by ring,
      show a + ((k + 1 : ℕ) : ℝ) * (2 * H) = a + k * (2 * H) + 2 * H by push_cast; ring]
  · simp only [Nat.sub_zero, Nat.cast_ofNat, Nat.reduceSub, Nat.sub_self, Nat.cast_zero, zero_mul,
      sub_zero, Nat.cast_one, one_mul]
    rw [show b - 3 * H + H = b - 2 * H by ring, show b - 3 * H + 2 * H = b - H by ring,
      show b - 3 * H + 3 * H = b by ring]

theorem simpsonSum_exact_cubic (q P : Polynomial ℝ) (hP : Polynomial.derivative P = q)
    (hq : q.natDegree ≤ 3) (a b : ℝ) (n : ℕ) (hn : 2 ≤ n) :
    simpsonSum n ((b - a) / n) (fun k => q.eval (a + (k : ℝ) * (2 * ((b - a) / n))))
        (fun k => q.eval (a + ((k : ℝ) + 1) * (2 * ((b - a) / n)) - (b - a) / n))
        (fun j => q.eval (b - ((3 - j : ℕ) : ℝ) * ((b - a) / n)))
      = P.eval b - P.eval a :=
  Except.ok.inj ((simpsonSum_eq_rule (f := fun x => .ok (q.eval x)) (fun _ => rfl) a b n hn).symm.trans
    (definiteIntegral_exact_cubic q P hP hq (fun _ => rfl) a b n hn))

section drift
variable {h : Fl M} {H : ℝ} (hh : M.Scaled 3 h.val H)
include hh

theorem node13_rounded (s : Fl M) (k : ℕ) :
    M.Rounded (k + 5) (node13 h s k).val (s.val + (k : ℝ) * (2 * H))
      (|s.val| + (k : ℝ) * (2 * |H|)) := by
  induction k with
  | zero => exact ((FlModel.Rounded.single s.val).mono (by omega)).of_eq (by simp) (by simp)
  | succ k ih =>
    exact ((ih.add_fl (lit_mul 2 (FlModel.Rounded.of_scaled hh))).mono (by omega)).of_eq
      (by push_cast; ring) (by push_cast; ring)

theorem mid13_rounded (s : Fl M) (k : ℕ) :
    M.Rounded (k + 7) (mid13 h s k).val (s.val + ((k : ℝ) + 1) * (2 * H) - H)
      (|s.val| + ((k : ℝ) + 1) * (2 * |H|) + |H|) :=
  (((node13_rounded hh s (k + 1)).sub_fl (FlModel.Rounded.of_scaled hh)).mono (by omega)).of_eq
    (by push_cast; ring) (by push_cast; ring)

theorem node38_rounded (b : Fl M) (j : ℕ) :
    M.Rounded 6 (b - h * lit j).val (b.val - (j : ℝ) * H) (|b.val| + (j : ℝ) * |H|) :=
  ((FlModel.Rounded.single b.val).sub_fl
    (FlModel.Rounded.of_scaled (hh.mul_fl (FlModel.Scaled.lit j)))).of_eq
    (by ring) (by rw [abs_mul, Nat.abs_cast]; ring)

end drift

section realpoly

variable (c : ℕ → ℝ) (L : ℕ)

noncomputable def qv (x : ℝ) : ℝ := ∑ k ∈ range L, c k * x ^ k

noncomputable def B0 (Y : ℝ) : ℝ := ∑ k ∈ range L, |c k| * Y ^ k

/-- a bound of `|p'|` on `[−Y, Y]` -/
noncomputable def B1 (Y : ℝ) : ℝ := ∑ k ∈ range L, (k : ℝ) * |c k| * Y ^ (k - 1)

theorem qv_lipschitz (x y Y : ℝ) (hx : |x| ≤ Y) (hy : |y| ≤ Y) :
    |qv c L x - qv c L y| ≤ |x - y| * B1 c L Y := by
  unfold qv B1
  rw [← Finset.sum_sub_distrib, Finset.mul_sum]
  refine (Finset.abs_sum_le_sum_abs _ _).trans (Finset.sum_le_sum fun k _ => ?_)
  rw [← mul_sub, abs_mul]
  have := (abs_pow_sub_pow_le (a := x) (b := y) (n := k)).trans (mul_le_mul_of_nonneg_left
    (pow_le_pow_left₀ (le_max_of_le_left (abs_nonneg x)) (max_le hx hy) (k - 1)) (by positivity))
  calc |c k| * |x ^ k - y ^ k| ≤ |c k| * (|x - y| * k * Y ^ (k - 1)) :=
        mul_le_mul_of_nonneg_left this (abs_nonneg _)
    _ = |x - y| * ((k : ℝ) * |c k| * Y ^ (k - 1)) := by ring

theorem sum_abs_le_B0 (x Y : ℝ) (hx : |x| ≤ Y) :
    ∑ k ∈ range L, |c k * x ^ k| ≤ B0 c L Y := by
  unfold B0
  refine Finset.sum_le_sum fun k _ => ?_
  rw [abs_mul, abs_pow]
  exact mul_le_mul_of_nonneg_left (pow_le_pow_left₀ (abs_nonneg x) hx _) (abs_nonneg _)

theorem B0_nonneg (Y : ℝ) (hY : 0 ≤ Y) : 0 ≤ B0 c L Y :=
  Finset.sum_nonneg fun k _ => by positivity

theorem B1_nonneg (Y : ℝ) (hY : 0 ≤ Y) : 0 ≤ B1 c L Y :=
  Finset.sum_nonneg fun k _ => by positivity

theorem mul_B1 (Y : ℝ) : Y * B1 c L Y = ∑ k ∈ range L, (k : ℝ) * |c k| * Y ^ k := by
  unfold B1
  rw [Finset.mul_sum]
  refine Finset.sum_congr rfl fun k _ => ?_
  cases k with
  | zero => simp
  | succ k => simp only [Nat.add_sub_cancel]; ring

theorem B0_add_B1_le (Y γ D : ℝ) (hY : 0 ≤ Y) (hD : D ≤ 4 * γ * Y) :
    γ * B0 c L Y + D * B1 c L Y ≤ γ * ∑ k ∈ range L, (4 * (k : ℝ) + 1) * |c k| * Y ^ k := by
  have h1 : D * B1 c L Y ≤ 4 * γ * Y * B1 c L Y :=
    mul_le_mul_of_nonneg_right hD (B1_nonneg c L Y hY)
  rw [mul_assoc, mul_B1] at h1
  have h2 : ∑ k ∈ range L, (4 * (k : ℝ) + 1) * |c k| * Y ^ k
      = B0 c L Y + 4 * ∑ k ∈ range L, (k : ℝ) * |c k| * Y ^ k := by
    unfold B0
    rw [Finset.mul_sum, ← Finset.sum_add_distrib]
    exact Finset.sum_congr rfl fun k _ => by ring
  rw [h2]
  linarith

/-- inflating the argument by `r ≤ 9/8` costs a cubic at most `(9/8)³`, and `4k + 1 ≤ 4(k + 1)` -/
theorem sum_inflated_le (hL : L ≤ 4) (X r : ℝ) (hX : 0 ≤ X) (hr1 : 1 ≤ r) (hr : r ≤ 9 / 8) :
    ∑ k ∈ range L, (4 * (k : ℝ) + 1) * |c k| * (X * r) ^ k
      ≤ 4 * (729 / 512) * ∑ k ∈ range L, ((k : ℝ) + 1) * |c k| * X ^ k := by
  rw [Finset.mul_sum]
  refine Finset.sum_le_sum fun k hk => ?_
  rw [mem_range] at hk
  have hrk : r ^ k ≤ 729 / 512 :=
    calc r ^ k ≤ r ^ 3 := pow_le_pow_right₀ hr1 (by omega)
      _ ≤ (9 / 8) ^ 3 := pow_le_pow_left₀ (by linarith) hr 3
      _ = 729 / 512 := by norm_num
  have hk0 : (0 : ℝ) ≤ k := Nat.cast_nonneg k
  have hA : 0 ≤ |c k| * X ^ k := by positivity
  rw [mul_pow]
  calc (4 * (k : ℝ) + 1) * |c k| * (X ^ k * r ^ k)
      = (4 * (k : ℝ) + 1) * (|c k| * X ^ k) * r ^ k := by ring
    _ ≤ (4 * ((k : ℝ) + 1)) * (|c k| * X ^ k) * (729 / 512) :=
        mul_le_mul (mul_le_mul_of_nonneg_right (by linarith) hA) hrk (by positivity)
          (by positivity)
    _ = _ := by ring

theorem abs_node_le (a b : ℝ) (n : ℕ) (hn : 0 < n) (s : ℝ) (h0 : 0 ≤ s) (h1 : s ≤ n) :
    |a + s * ((b - a) / n)| ≤ max |a| |b| := by
  obtain ⟨h2, h3⟩ := node_mem a b n hn s h0 h1
  rcases le_total a b with h | h
  · rw [min_eq_left h] at h2
    rw [max_eq_right h] at h3
    exact abs_le_max_abs_abs h2 h3
  · rw [min_eq_right h] at h2
    rw [max_eq_left h] at h3
    rw [max_comm]
    exact abs_le_max_abs_abs h2 h3

theorem mul_abs_width_le (a b : ℝ) (n : ℕ) (hn : 0 < n) (s : ℝ) (h1 : s ≤ n) :
    s * |(b - a) / n| ≤ 2 * max |a| |b| :=
  calc s * |(b - a) / n| ≤ n * |(b - a) / n| := mul_le_mul_of_nonneg_right h1 (abs_nonneg _)
    _ = |b - a| := nat_mul_abs_width a b n hn
    _ ≤ |b| + |a| := abs_sub b a
    _ ≤ 2 * max |a| |b| := by linarith [le_max_left |a| |b|, le_max_right |a| |b|]

end realpoly

section assembly
open Polynomial

noncomputable def drift (M : FlModel) (n : ℕ) (X : ℝ) : ℝ := 4 * M.gamma (n / 2 + 6) * X

/-- every abscissa the code evaluates at is within `drift` of the exact abscissa, which lies
between `a` and `b`: each is a rounded sum of at most `n/2 + 6` roundings and mass at most
`|a| + n·|H| + |H| ≤ 4·max |a| |b|` -/
theorem nodes_near (a b : Fl M) (n : ℕ) (hn : 2 ≤ n) (hu6 : ((n / 2 + 6 : ℕ) : ℝ) * M.u < 1) :
    (∀ k, k ≤ n / 2 →
      |(node13 (hFl a b n) a k).val - (a.val + (k : ℝ) * (2 * ((b.val - a.val) / n)))|
        ≤ drift M n (max |a.val| |b.val|) ∧
      |a.val + (k : ℝ) * (2 * ((b.val - a.val) / n))| ≤ max |a.val| |b.val|) ∧
    (∀ k, k < n / 2 →
      |(mid13 (hFl a b n) a k).val
          - (a.val + ((k : ℝ) + 1) * (2 * ((b.val - a.val) / n)) - (b.val - a.val) / n)|
        ≤ drift M n (max |a.val| |b.val|) ∧
      |a.val + ((k : ℝ) + 1) * (2 * ((b.val - a.val) / n)) - (b.val - a.val) / n|
        ≤ max |a.val| |b.val|) ∧
    (n % 2 = 1 → ∀ j, j < 4 →
      |(node38 (hFl a b n) b j).val - (b.val - ((3 - j : ℕ) : ℝ) * ((b.val - a.val) / n))|
        ≤ drift M n (max |a.val| |b.val|) ∧
      |b.val - ((3 - j : ℕ) : ℝ) * ((b.val - a.val) / n)| ≤ max |a.val| |b.val|) := by
  have hh := hFl_scaled a b n
  have hn0 : 0 < n := by omega
  have hw := mul_abs_width_le a.val b.val n hn0
  have hm := abs_node_le a.val b.val n hn0
  have hnH : (n : ℝ) * ((b.val - a.val) / n) = b.val - a.val :=
    mul_div_cancel₀ _ (Nat.cast_ne_zero.mpr hn0.ne')
  have haX := le_max_left |a.val| |b.val|
  have hbX := le_max_right |a.val| |b.val|
  have hd : ∀ X, drift M n X = M.gamma (n / 2 + 6) * (4 * X) := fun X => by unfold drift; ring
  rw [hd]
  generalize (b.val - a.val) / (n : ℝ) = H at hh hw hm hnH ⊢
  generalize max |a.val| |b.val| = X at hw hm haX hbX ⊢
  have h1 := hw 2 (by exact_mod_cast hn)
  have hX0 : 0 ≤ X := (abs_nonneg _).trans haX
  refine ⟨fun k hk => ?_, fun k hk => ?_, fun hodd j hj => ?_⟩
  · have hk2 : (2 : ℝ) * k ≤ n := by exact_mod_cast (by omega : 2 * k ≤ n)
    have hk0 : (0 : ℝ) ≤ 2 * k := by positivity
    constructor
    · exact (node13_rounded hh a k).abs_sub_le (by omega) hu6 (by linarith only [hw _ hk2, haX, hX0])
    · rw [show a.val + (k : ℝ) * (2 * H) = a.val + 2 * (k : ℝ) * H by ring]
      exact hm _ hk0 hk2
  · have hk2 : (2 : ℝ) * k + 2 ≤ n := by exact_mod_cast (by omega : 2 * k + 2 ≤ n)
    have hk0 : (0 : ℝ) ≤ k := Nat.cast_nonneg k
    constructor
    · exact (mid13_rounded hh a k).abs_sub_le (by omega) hu6
        (by linarith only [hw _ hk2, haX, h1])
    · rw [show a.val + ((k : ℝ) + 1) * (2 * H) - H = a.val + (2 * (k : ℝ) + 1) * H by ring]
      exact hm _ (by linarith only [hk0]) (by linarith only [hk2])
  · have h38 : ∀ i : ℕ, i ≤ 3 →
        |(b - hFl a b n * lit i).val - (b.val - (i : ℝ) * H)| ≤ M.gamma (n / 2 + 6) * (4 * X) ∧
          |b.val - (i : ℝ) * H| ≤ X := fun i hi => by
      have hi' : (i : ℝ) ≤ n := by exact_mod_cast (by omega : i ≤ n)
      refine ⟨(node38_rounded hh b i).abs_sub_le (by omega) hu6
        (by linarith only [hw i hi', hbX, hX0]), ?_⟩
      rw [show b.val - (i : ℝ) * H = a.val + ((n : ℝ) - i) * H by linear_combination -hnH]
      exact hm _ (by linarith only [hi']) (by linarith only [Nat.cast_nonneg (α := ℝ) i])
    have hj' : j = 0 ∨ j = 1 ∨ j = 2 ∨ j = 3 := by omega
    rcases hj' with rfl | rfl | rfl | rfl
    · exact h38 3 (by omega)
    · exact h38 2 (by omega)
    · exact h38 1 (by omega)
    · refine ⟨?_, (h38 0 (by omega)).2⟩
      have e : node38 (hFl a b n) b 3 = b := rfl
      rw [e, Nat.sub_self, Nat.cast_zero, zero_mul, sub_zero, sub_self, abs_zero]
      exact mul_nonneg (M.gamma_nonneg hu6) (by linarith only [hX0])

theorem simpsonSum_move {a b : ℝ} {n : ℕ} (hn : 2 ≤ n) {F F' G G' E E' : ℕ → ℝ} {v B : ℝ}
    (hv : |v - simpsonSum n ((b - a) / n) F G E| ≤ B) {C : ℝ}
    (hF : ∀ k, k ≤ n / 2 → |F k - F' k| ≤ C) (hG : ∀ k, k < n / 2 → |G k - G' k| ≤ C)
    (hE : n % 2 = 1 → ∀ j, j < 4 → |E j - E' j| ≤ C) :
    |v - simpsonSum n ((b - a) / n) F' G' E'| ≤ B + C * |b - a| := by
  have hS := simpsonSum_abs_le n hn ((b - a) / n) _ _ _ C hF hG hE
  rw [simpsonSum_sub n hn, nat_mul_abs_width a b n (by omega)] at hS
  exact (abs_sub_le _ _ _).trans (add_le_add hv hS)

section exact
variable {f : Fl M → Except PErr (Fl M)} {g : Fl M → Fl M} {F A : Fl M → ℝ} {mf : ℕ}
  (hf : ∀ x, f x = .ok (g x)) (hg : ∀ x, M.Rounded mf (g x).val (F x) (A x))
include hf hg

/-- **The computed rule against the rule at the exact abscissae.**  The integrand returns rounded
sums `g x ≈ (F x, A x)`; if `F` at a computed abscissa is within `Λ` of `G` at the exact one
whenever the two are within the proved drift, the computed integral is within
`γ·rule(|H|; A) + Λ·|b − a|` of the rule applied to `G` at `a + i·H`. -/
theorem definiteIntegral_rounded_exact (G : ℝ → ℝ) (Λ : ℝ) (a b : Fl M) (n : ℕ)
    (hn : 2 ≤ n) (hu : ((mf + n / 2 + 13 : ℕ) : ℝ) * M.u < 1)
    (hG : ∀ (x : Fl M) (y : ℝ), |x.val - y| ≤ drift M n (max |a.val| |b.val|) →
      |y| ≤ max |a.val| |b.val| → |F x - G y| ≤ Λ) :
    ∃ v, definiteIntegral f a b n = .ok v ∧
      |v.val - simpsonSum n ((b.val - a.val) / n)
          (fun k => G (a.val + (k : ℝ) * (2 * ((b.val - a.val) / n))))
          (fun k => G (a.val + ((k : ℝ) + 1) * (2 * ((b.val - a.val) / n))
            - (b.val - a.val) / n))
          (fun j => G (b.val - ((3 - j : ℕ) : ℝ) * ((b.val - a.val) / n)))|
        ≤ M.gamma (mf + n / 2 + 13) * simpsonSum n |(b.val - a.val) / n|
            (fun k => A (node13 (hFl a b n) a k)) (fun k => A (mid13 (hFl a b n) a k))
            (fun j => A (node38 (hFl a b n) b j))
          + Λ * |b.val - a.val| := by
  obtain ⟨v, hv, hA⟩ := definiteIntegral_rounded hf hg a b n hn
  obtain ⟨N13, Nmid, N38⟩ := nodes_near a b n hn (M.hyp_mono (by omega) hu)
  exact ⟨v, hv, simpsonSum_move hn (hA.abs_sub_le le_rfl hu le_rfl)
    (fun k hk => hG _ _ (N13 k hk).1 (N13 k hk).2) (fun k hk => hG _ _ (Nmid k hk).1 (Nmid k hk).2)
    (fun hodd j hj => hG _ _ (N38 hodd j hj).1 (N38 hodd j hj).2)⟩

end exact

theorem abs_le_add_of_near {xh x X D : ℝ} (h1 : |xh - x| ≤ D) (h2 : |x| ≤ X) : |xh| ≤ X + D := by
  have := abs_add_le (xh - x) x
  rw [sub_add_cancel] at this
  linarith

variable (cs : List (Fl M))

def cf (k : ℕ) : ℝ := (cs.getD k 0).val

/-- at most `len + 1` roundings per term `c_k·x^k` -/
theorem evalSimple_rounded (x : Fl M) :
    M.Rounded (cs.length + 1) (evalSimple cs x).val (qv (cf cs) cs.length x.val)
      (∑ k ∈ range cs.length, |cf cs k * x.val ^ k|) := by
  obtain ⟨t, ht, hval⟩ := evalSimple_weights cs x
  exact (FlModel.Rounded.of_weights cs.length (fun k => cf cs k * x.val ^ k) t ht).of_val hval

theorem eval_ofCoeffs_val (x : ℝ) :
    (ofCoeffs (cs.map Fl.val)).eval x = qv (cf cs) cs.length x := by
  rw [eval_ofCoeffs, List.length_map]
  unfold qv cf
  refine Finset.sum_congr rfl fun k hk => ?_
  rw [getD_map_of_lt cs Fl.val 0 0 (by simpa using hk)]

/-- **Any coefficient list: the computed integral against the exact rule on the real polynomial.**
Everything is rounded — the width, the running abscissae, `evalSimple` (`powi` and the left-to-right
sum), the weighted sum — and the result is compared with the composite rule applied in exact
arithmetic to `Σ c_k x^k` at the exact abscissae.  `X = max |a| |b|`, `D = drift M n X`, `X̂ = X + D`:
the rounding of the rule and of the evaluations costs `γ·B0 X̂`, the drift of the abscissae
`D·B1 X̂` (`B1` bounds the derivative), per unit of `|b − a|`.  No bound on the degree: exactness
(degree ≤ 3) or a truncation bound is a separate matter of the exact rule. -/
theorem definiteIntegral_simple_rounded (a b : Fl M) (n : ℕ) (hn : 2 ≤ n)
    (hu : ((n / 2 + cs.length + 14 : ℕ) : ℝ) * M.u < 1) :
    ∃ v, definiteIntegral (fun x => Except.ok (evalSimple cs x)) a b n = .ok v ∧
      |v.val - simpsonSum n ((b.val - a.val) / n)
          (fun k => qv (cf cs) cs.length (a.val + (k : ℝ) * (2 * ((b.val - a.val) / n))))
          (fun k => qv (cf cs) cs.length (a.val + ((k : ℝ) + 1) * (2 * ((b.val - a.val) / n))
            - (b.val - a.val) / n))
          (fun j => qv (cf cs) cs.length (b.val - ((3 - j : ℕ) : ℝ) * ((b.val - a.val) / n)))|
        ≤ |b.val - a.val| *
          (M.gamma (n / 2 + cs.length + 14)
              * B0 (cf cs) cs.length (max |a.val| |b.val| + drift M n (max |a.val| |b.val|))
            + drift M n (max |a.val| |b.val|)
              * B1 (cf cs) cs.length (max |a.val| |b.val| + drift M n (max |a.val| |b.val|))) := by
  have hm : cs.length + 1 + n / 2 + 13 = n / 2 + cs.length + 14 := by omega
  have hu6 : ((n / 2 + 6 : ℕ) : ℝ) * M.u < 1 := M.hyp_mono (by omega) hu
  have hX0 : 0 ≤ max |a.val| |b.val| := (abs_nonneg _).trans (le_max_left _ _)
  have hD0 : 0 ≤ drift M n (max |a.val| |b.val|) :=
    mul_nonneg (mul_nonneg (by norm_num) (M.gamma_nonneg hu6)) hX0
  obtain ⟨v, hv, hB⟩ := definiteIntegral_rounded_exact (f := fun x => Except.ok (evalSimple cs x))
    (fun _ => rfl) (evalSimple_rounded cs) (qv (cf cs) cs.length) _ a b n hn (hm ▸ hu)
    fun x y h1 h2 =>
      (qv_lipschitz _ _ x.val y _ (abs_le_add_of_near h1 h2)
        (h2.trans (le_add_of_nonneg_right hD0))).trans
      (mul_le_mul_of_nonneg_right h1 (B1_nonneg _ _ _ (add_nonneg hX0 hD0)))
  refine ⟨v, hv, ?_⟩
  -- the mass of every sample is at most `B0 X̂`, and the weights of the rule add up to `|b − a|`
  obtain ⟨N13, Nmid, N38⟩ := nodes_near a b n hn hu6
  have mass : ∀ (x : Fl M) (y : ℝ), |x.val - y| ≤ drift M n (max |a.val| |b.val|) →
      |y| ≤ max |a.val| |b.val| →
      |(∑ k ∈ range cs.length, |cf cs k * x.val ^ k|)|
        ≤ B0 (cf cs) cs.length (max |a.val| |b.val| + drift M n (max |a.val| |b.val|)) :=
    fun x y h1 h2 => by
      rw [abs_of_nonneg (Finset.sum_nonneg fun i _ => abs_nonneg _)]
      exact sum_abs_le_B0 _ _ _ _ (abs_le_add_of_near h1 h2)
  have hR := simpsonSum_abs_le n hn |(b.val - a.val) / n| _ _ _ _
    (fun k hk => mass _ _ (N13 k hk).1 (N13 k hk).2)
    (fun k hk => mass _ _ (Nmid k hk).1 (Nmid k hk).2)
    (fun hodd j hj => mass _ _ (N38 hodd j hj).1 (N38 hodd j hj).2)
  rw [abs_abs, nat_mul_abs_width _ _ n (by omega)] at hR
  rw [hm] at hB
  refine hB.trans (le_of_le_of_eq (add_le_add
    (mul_le_mul_of_nonneg_left ((le_abs_self _).trans hR) (M.gamma_nonneg hu)) le_rfl) ?_)
  ring

theorem definiteIntegralP_simple (powf : Fl M → Fl M → Fl M) (var : Option Char) (a b : Fl M)
    (n : ℕ) :
    definiteIntegralP powf (.simple ⟨cs, var⟩) a b n
      = definiteIntegral (fun x => Except.ok (evalSimple cs x)) a b n := rfl

end assembly

end C05
end SV
