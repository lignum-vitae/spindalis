import SV.Model.Subst
import SV.Lemmas.Rounding
import Mathlib.Tactic.FieldSimp
/-!
The rounding analysis that the triangular solves and the LU factorisation share
(Higham, *Accuracy and Stability*, Lemma 8.4): the value `x = (a − Σ_{lo≤j<hi} f j·g j) / p`, computed
as the code computes it (`total = 0.0; total += f j * g j`, one subtraction, one division), satisfies

    a = Σ_{lo≤j<hi} f j·g j·t j + x·p·t i        exactly,

where the term `j` carries `hi − j + 1` roundings (its multiplication and the additions from its own
on, the model charging `0.0 + …` one rounding too) and `x·p` the two of the subtraction and the
division (one without the division).

From such an exact identity with weights, the componentwise bounds follow by arithmetic on real
sequences: `residual_of_weights`, `backward_of_weights`.
-/
namespace SV
open Finset

section rounding
variable {M : FlModel}

/-- the inner product as the code accumulates it: one multiplication more on every term -/
theorem dot_wsum (lo hi : ℕ) (f g : ℕ → Fl M) :
    M.WSum (Ico lo hi) (fun j => 1 + (hi - j)) (fun j => (f j).val * (g j).val)
      (sumFrom 0 lo hi fun j => f j * g j).val :=
  (sumFrom_wsum lo hi _).terms fun j _ => Fl.mul_fac (f j) (g j)

/-- `y = a − Σ_{lo≤j<hi} f j·g j` as computed, when `y = z·e` with `e` a product of `k` further rounding
factors: `a = Σ f j·g j·t j + z·t i` exactly, with `k + 1` roundings on `z`.  `i` is the column at
which the caller's row carries the term `z` — the diagonal: `hi` in the forward sweep and in LU,
`lo − 1` in the backward sweep — so that one function `t` weighs the whole row. -/
theorem sub_dot_weights_of (lo hi i k : ℕ) (hi' : i < lo ∨ hi ≤ i) (a : Fl M) (f g : ℕ → Fl M)
    {z e : ℝ} (he : M.Fac k e) (hz : (a - sumFrom 0 lo hi fun j => f j * g j).val = z * e) :
    ∃ t : ℕ → ℝ, M.Fac (k + 1) (t i) ∧ (∀ j, lo ≤ j → j < hi → M.Fac (hi - j + 1) (t j)) ∧
      a.val = ∑ j ∈ Ico lo hi, (f j).val * (g j).val * t j + z * t i := by
  obtain ⟨t, ht, hsum⟩ := dot_wsum lo hi f g
  obtain ⟨d, hd, hsub⟩ := Fl.sub_fac a (sumFrom 0 lo hi fun j => f j * g j)
  have hd0 : d ≠ 0 := hd.pos.ne'
  refine ⟨Function.update t i (e * d⁻¹), ?_, fun j hlo hhi => ?_, ?_⟩
  · rw [Function.update_self]
    exact he.mul hd.inv
  · rw [Function.update_of_ne (by omega)]
    exact Nat.add_comm 1 _ ▸ ht j (mem_Ico.2 ⟨hlo, hhi⟩)
  · have hs : ∑ j ∈ Ico lo hi, (f j).val * (g j).val * Function.update t i (e * d⁻¹) j
        = ∑ j ∈ Ico lo hi, (f j).val * (g j).val * t j :=
      Finset.sum_congr rfl fun j hj => by
        rw [Function.update_of_ne (by have := Finset.mem_Ico.1 hj; omega)]
    rw [hs, ← hsum, Function.update_self, ← mul_assoc, ← hz, hsub]
    field_simp
    ring

theorem sub_dot_weights (lo hi i : ℕ) (hi' : i < lo ∨ hi ≤ i) (a x : Fl M) (f g : ℕ → Fl M)
    (hx : x = a - sumFrom 0 lo hi fun j => f j * g j) :
    ∃ t : ℕ → ℝ, M.Fac 1 (t i) ∧ (∀ j, lo ≤ j → j < hi → M.Fac (hi - j + 1) (t j)) ∧
      a.val = ∑ j ∈ Ico lo hi, (f j).val * (g j).val * t j + x.val * t i :=
  sub_dot_weights_of lo hi i 0 hi' a f g FlModel.fac_zero_one (by rw [← hx, mul_one])

theorem sub_dot_div_weights (lo hi i : ℕ) (hi' : i < lo ∨ hi ≤ i) (a x p : Fl M) (f g : ℕ → Fl M)
    (hp : p.val ≠ 0) (hx : x = (a - sumFrom 0 lo hi fun j => f j * g j) / p) :
    ∃ t : ℕ → ℝ, M.Fac 2 (t i) ∧ (∀ j, lo ≤ j → j < hi → M.Fac (hi - j + 1) (t j)) ∧
      a.val = ∑ j ∈ Ico lo hi, (f j).val * (g j).val * t j + x.val * p.val * t i := by
  obtain ⟨d, hd, hdiv⟩ := Fl.div_fac (a - sumFrom 0 lo hi fun j => f j * g j) p
  have hd0 : d ≠ 0 := hd.pos.ne'
  refine sub_dot_weights_of lo hi i 1 hi' a f g hd.inv ?_
  rw [hx, hdiv]
  field_simp


theorem residual_of_weights (s : Finset ℕ) (m : ℕ) (a x t : ℕ → ℝ) (b : ℝ)
    (ht : ∀ j ∈ s, M.Fac m (t j)) (hm : m * M.u < 1) (hb : b = ∑ j ∈ s, a j * x j * t j) :
    |b - ∑ j ∈ s, a j * x j| ≤ M.gamma m * ∑ j ∈ s, |a j| * |x j| := by
  have h := weighted_finset_bound s m (fun j => a j * x j) t ht hm
  rw [← hb] at h
  simpa only [abs_mul] using h

theorem residual_of_weights_subset {s r : Finset ℕ} (hs : s ⊆ r) (m : ℕ) (a x t : ℕ → ℝ) (b : ℝ)
    (hz : ∀ j ∈ r, j ∉ s → a j = 0 ∨ x j = 0) (ht : ∀ j ∈ s, M.Fac m (t j)) (hm : m * M.u < 1)
    (hb : b = ∑ j ∈ s, a j * x j * t j) :
    |b - ∑ j ∈ r, a j * x j| ≤ M.gamma m * ∑ j ∈ r, |a j| * |x j| := by
  rw [← Finset.sum_subset hs fun j hj hjs => mul_eq_zero.2 (hz j hj hjs),
    ← Finset.sum_subset hs fun j hj hjs => by
      rw [← abs_mul, mul_eq_zero.2 (hz j hj hjs), abs_zero]]
  exact residual_of_weights s m a x t b ht hm hb

/-- If every row `i < n` of `T` holds exactly with weights on its support
`s i ⊆ [0, n)`, `b_i = Σ_{j∈s i} T_ij·x_j·t_ij`, then `(T + ΔT)·x = b` exactly for a perturbation with
`|ΔT_ij| ≤ γ_m·|T_ij|` that vanishes outside the supports. -/
theorem backward_of_weights (n m : ℕ) (s : ℕ → Finset ℕ) (hs : ∀ i, i < n → s i ⊆ range n)
    (T t : ℕ → ℕ → ℝ) (x b : ℕ → ℝ) (hz : ∀ i, i < n → ∀ j ∈ range n, j ∉ s i → T i j = 0)
    (ht : ∀ i, i < n → ∀ j ∈ s i, M.Fac m (t i j)) (hm : m * M.u < 1)
    (hb : ∀ i, i < n → b i = ∑ j ∈ s i, T i j * x j * t i j) :
    ∃ Δ : ℕ → ℕ → ℝ, (∀ i j, |Δ i j| ≤ M.gamma m * |T i j|) ∧ (∀ i j, j ∉ s i → Δ i j = 0) ∧
      ∀ i, i < n → ∑ j ∈ range n, (T i j + Δ i j) * x j = b i := by
  refine ⟨fun i j => if i < n ∧ j ∈ s i then T i j * (t i j - 1) else 0, fun i j => ?_,
    fun i j hj => if_neg fun h => hj h.2, fun i hi => ?_⟩
  · dsimp only
    split_ifs with h
    · rw [abs_mul, mul_comm]
      exact mul_le_mul_of_nonneg_right ((ht i h.1 j h.2).abs_sub_one_le hm) (abs_nonneg _)
    · rw [abs_zero]
      exact mul_nonneg (M.gamma_nonneg hm) (abs_nonneg _)
  · rw [hb i hi]
    refine (Finset.sum_subset_zero_on_sdiff (hs i hi) (fun j hj => ?_) fun j hj => ?_).symm
    · rw [Finset.mem_sdiff] at hj
      dsimp only
      rw [hz i hi j hj.1 hj.2, if_neg fun h => hj.2 h.2, zero_add, zero_mul]
    · dsimp only
      rw [if_pos ⟨hi, hj⟩]
      ring

theorem sum_mul_sum_assoc (n : ℕ) (a c : ℕ → ℝ) (b : ℕ → ℕ → ℝ) :
    ∑ k ∈ range n, a k * ∑ m ∈ range n, b k m * c m
      = ∑ m ∈ range n, (∑ k ∈ range n, a k * b k m) * c m := by
  simp only [Finset.mul_sum, Finset.sum_mul]
  rw [Finset.sum_comm]
  exact Finset.sum_congr rfl fun m _ => Finset.sum_congr rfl fun k _ => (mul_assoc _ _ _).symm

/-- **Two solves in a row.**  If `p` is reproduced by `Σ l_k·y_k` up to `γ·Σ|l_k||y_k|` and every
`y_k` by `s_k` up to `γ·a_k`, where `|s_k| ≤ a_k`, then `p` is reproduced by `Σ l_k·s_k` up to
`(2γ + γ²)·Σ|l_k|·a_k`. -/
theorem residual_comp (n : ℕ) (l y s a : ℕ → ℝ) (p γ : ℝ) (hγ : 0 ≤ γ)
    (h1 : |p - ∑ k ∈ range n, l k * y k| ≤ γ * ∑ k ∈ range n, |l k| * |y k|)
    (h2 : ∀ k, k < n → |y k - s k| ≤ γ * a k) (hs : ∀ k, k < n → |s k| ≤ a k) :
    |p - ∑ k ∈ range n, l k * s k| ≤ (2 * γ + γ ^ 2) * ∑ k ∈ range n, |l k| * a k := by
  have hy : ∀ k ∈ range n, |l k| * |y k| ≤ (1 + γ) * (|l k| * a k) := fun k hk => by
    have hk' := mem_range.1 hk
    have := abs_sub_abs_le_abs_sub (y k) (s k)
    calc |l k| * |y k| ≤ |l k| * ((1 + γ) * a k) :=
          mul_le_mul_of_nonneg_left (by linarith [h2 k hk', hs k hk']) (abs_nonneg _)
      _ = _ := by ring
  have t1 : |p - ∑ k ∈ range n, l k * y k| ≤ γ * ((1 + γ) * ∑ k ∈ range n, |l k| * a k) := by
    rw [Finset.mul_sum (a := 1 + γ)]
    exact h1.trans (mul_le_mul_of_nonneg_left (Finset.sum_le_sum hy) hγ)
  have t2 : |∑ k ∈ range n, l k * (y k - s k)| ≤ γ * ∑ k ∈ range n, |l k| * a k := by
    rw [Finset.mul_sum]
    refine (Finset.abs_sum_le_sum_abs _ _).trans (Finset.sum_le_sum fun k hk => ?_)
    rw [abs_mul, mul_left_comm]
    exact mul_le_mul_of_nonneg_left (h2 k (mem_range.1 hk)) (abs_nonneg _)
  have e : p - ∑ k ∈ range n, l k * s k
      = (p - ∑ k ∈ range n, l k * y k) + ∑ k ∈ range n, l k * (y k - s k) := by
    simp only [mul_sub, Finset.sum_sub_distrib]
    ring
  rw [e]
  refine (abs_add_le _ _).trans ((add_le_add t1 t2).trans (le_of_eq ?_))
  ring

/-- **A perturbed matrix row.**  If `p` is reproduced by `Σ c_m·x_m` up to `ε·W` and every `c_m` by
`c'_m` up to `δ·w_m`, `W = Σ w_m·|x_m|`, then `p` is reproduced by `Σ c'_m·x_m` up to `(ε + δ)·W`. -/
theorem residual_perturb (n : ℕ) (c c' x w : ℕ → ℝ) (p ε δ : ℝ)
    (h1 : |p - ∑ m ∈ range n, c m * x m| ≤ ε * ∑ m ∈ range n, w m * |x m|)
    (h2 : ∀ m, m < n → |c m - c' m| ≤ δ * w m) :
    |p - ∑ m ∈ range n, c' m * x m| ≤ (ε + δ) * ∑ m ∈ range n, w m * |x m| := by
  have t2 : |∑ m ∈ range n, (c m - c' m) * x m| ≤ δ * ∑ m ∈ range n, w m * |x m| := by
    rw [Finset.mul_sum]
    refine (Finset.abs_sum_le_sum_abs _ _).trans (Finset.sum_le_sum fun m hm => ?_)
    rw [abs_mul, ← mul_assoc]
    exact mul_le_mul_of_nonneg_right (h2 m (mem_range.1 hm)) (abs_nonneg _)
  have e : p - ∑ m ∈ range n, c' m * x m
      = (p - ∑ m ∈ range n, c m * x m) + ∑ m ∈ range n, (c m - c' m) * x m := by
    simp only [sub_mul, Finset.sum_sub_distrib]
    ring
  rw [e, add_mul]
  exact (abs_add_le _ _).trans (add_le_add h1 t2)

end rounding

end SV
