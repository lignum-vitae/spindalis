import SV.Lemmas.C19Fold
import SV.Lemmas.Text
import Mathlib.Algebra.Order.Field.Basic
import Mathlib.Tactic.Linarith
/-!
An evaluator for expression trees over an ordered field (`none` = not finite) and `foldStep_eval`: a fold
step keeps the value of a node.  `TestsAgree` carries the value tests of another literal type (the
driver's decimals) to those of the field, so that soundness transfers along `Expr.map` (`fold_map`).
-/
namespace SV.C19
open SV SV.Text

/-- What a tree is evaluated against.  `none` stands for "not finite" (a division by zero, a power
or a function outside its domain).  Variables, named constants, the functions, `!`, `%` and the power
are parameters: the crate has no evaluator, so nothing about them is fixed except the two facts about
`pow` that folding uses (`Sem.PowLaws`). -/
structure Sem (K : Type) where
  var : String → K
  const : Const → K
  fn : Func → K → Option K
  fac : K → Option K
  rem : K → K → Option K
  pow : K → K → Option K

/-- the two facts about the power that `fold_operations` relies on: `x^0 = 1` for every `x`
(as `f64::powf`, including `0^0`), and `0^y = 0` for positive `y` -/
structure Sem.PowLaws {K : Type} [Zero K] [One K] [LT K] (S : Sem K) : Prop where
  pow_zero : ∀ x, S.pow x 0 = some 1
  zero_pow : ∀ y, 0 < y → S.pow 0 y = some 0

section
variable {K : Type} [Field K] [LinearOrder K]

def binop (S : Sem K) : Op → K → K → Option K
  | .add, a, b => some (a + b)
  | .sub, a, b => some (a - b)
  | .mul, a, b => some (a * b)
  | .cdot, a, b => some (a * b)
  | .div, a, b => if b = 0 then none else some (a / b)
  | .rem, a, b => S.rem a b
  | .caret, a, b => S.pow a b
  | .fac, _, _ => none

/-- evaluator: every subterm must be defined for the whole to be defined; the `paren` flag is ignored -/
def eval (S : Sem K) : Expr K → Option K
  | .num x => some x
  | .var s => some (S.var s)
  | .const c => some (S.const c)
  | .func f i => (eval S i).bind (S.fn f)
  | .pre o v => if o = .sub then (eval S v).map (fun a => -a) else none
  | .post o v => if o = .fac then (eval S v).bind S.fac else none
  | .bin o l r _ => (eval S l).bind fun a => (eval S r).bind fun b => binop S o a b

/-- the value tests of `fold_operations` (`== 0.`, `== 1.`, `> 0.`) at the field -/
def fieldTests (K : Type) [Field K] [LinearOrder K] : NumTests K where
  isZero x := decide (x = 0)
  isOne x := decide (x = 1)
  isPos x := decide (0 < x)
  zero := 0
  one := 1

theorem isNumZero_field {e : Expr K} (h : isNumZero (fieldTests K) e = true) : e = .num 0 := by
  cases e <;> simp_all [isNumZero, fieldTests]

theorem isNumOne_field {e : Expr K} (h : isNumOne (fieldTests K) e = true) : e = .num 1 := by
  cases e <;> simp_all [isNumOne, fieldTests]

theorem isNumPos_field {e : Expr K} (h : isNumPos (fieldTests K) e = true) : ∃ x, e = .num x ∧ 0 < x := by
  cases e <;> simp_all [isNumPos, fieldTests]

theorem eval_bin_some {S : Sem K} {o : Op} {l r : Expr K} {p : Bool} {v : K}
    (h : eval S (.bin o l r p) = some v) :
    ∃ a b, eval S l = some a ∧ eval S r = some b ∧ binop S o a b = some v := by
  simpa only [eval, Option.bind_eq_some_iff, exists_and_left] using h

theorem eval_bin_of {S : Sem K} {o : Op} {l r : Expr K} {p : Bool} {a b : K}
    (hl : eval S l = some a) (hr : eval S r = some b) : eval S (.bin o l r p) = binop S o a b := by
  rw [eval, hl, hr]; rfl

/-- a fold step keeps the value of the node: each rule is an identity of the field or one of the two power laws -/
theorem foldStep_eval (S : Sem K) (hS : S.PowLaws) {o : Op} {l r : Expr K} {p : Bool} {a b : K}
    (hl : eval S l = some a) (hr : eval S r = some b) :
    eval S (foldStep (fieldTests K) o l r p) = binop S o a b := by
  apply foldStep_rules (P := fun e => eval S e = binop S o a b) (fieldTests K) o l r p
  case mulL =>
    rintro rfl hz
    cases isNumZero_field hz; cases hl
    exact congrArg some (zero_mul b).symm
  case mulR =>
    rintro rfl hz
    cases isNumZero_field hz; cases hr
    exact congrArg some (mul_zero a).symm
  case powR =>
    rintro rfl hz
    cases isNumZero_field hz; cases hr
    exact (hS.pow_zero a).symm
  case powL =>
    rintro rfl hz hp
    cases isNumZero_field hz; cases hl
    obtain ⟨x, rfl, hx⟩ := isNumPos_field hp
    cases hr
    exact (hS.zero_pow b hx).symm
  case addL =>
    rintro rfl hz
    cases isNumZero_field hz; cases hl
    exact hr.trans (congrArg some (zero_add b).symm)
  case addR =>
    rintro rfl hz
    cases isNumZero_field hz; cases hr
    exact hl.trans (congrArg some (add_zero a).symm)
  case subR =>
    rintro rfl hz
    cases isNumZero_field hz; cases hr
    exact hl.trans (congrArg some (sub_zero a).symm)
  case subL =>
    rintro rfl hz
    cases isNumZero_field hz; cases hl
    rw [eval, if_pos rfl, hr]
    exact congrArg some (zero_sub b).symm
  case divR =>
    rintro rfl ho
    cases isNumOne_field ho; cases hr
    rw [hl, binop, if_neg one_ne_zero, div_one]
  case keep => exact fun _ => eval_bin_of hl hr

end

def Expr.map {N M : Type} (f : N → M) : Expr N → Expr M
  | .num x => .num (f x)
  | .var s => .var s
  | .const c => .const c
  | .func g i => .func g (i.map f)
  | .pre o v => .pre o (v.map f)
  | .post o v => .post o (v.map f)
  | .bin o l r p => .bin o (l.map f) (r.map f) p

/-- `val` carries the value tests of `nt` to those of the field -/
structure TestsAgree {N K : Type} [Field K] [LinearOrder K] (nt : NumTests N) (val : N → K) : Prop where
  isZero : ∀ x, nt.isZero x = true ↔ val x = 0
  isOne : ∀ x, nt.isOne x = true ↔ val x = 1
  isPos : ∀ x, nt.isPos x = true ↔ 0 < val x
  zero : val nt.zero = 0
  one : val nt.one = 1

section
variable {N K : Type} [Field K] [LinearOrder K] {nt : NumTests N} {val : N → K}

theorem isNumZero_map (h : TestsAgree nt val) (e : Expr N) :
    isNumZero (fieldTests K) (e.map val) = isNumZero nt e := by
  cases e <;> simp only [Expr.map, isNumZero]
  rw [Bool.eq_iff_iff, h.isZero]; simp [fieldTests]

theorem isNumOne_map (h : TestsAgree nt val) (e : Expr N) :
    isNumOne (fieldTests K) (e.map val) = isNumOne nt e := by
  cases e <;> simp only [Expr.map, isNumOne]
  rw [Bool.eq_iff_iff, h.isOne]; simp [fieldTests]

theorem isNumPos_map (h : TestsAgree nt val) (e : Expr N) :
    isNumPos (fieldTests K) (e.map val) = isNumPos nt e := by
  cases e <;> simp only [Expr.map, isNumPos]
  rw [Bool.eq_iff_iff, h.isPos]; simp [fieldTests]

theorem foldStep_map (h : TestsAgree nt val) (o : Op) (l r : Expr N) (p : Bool) :
    (foldStep nt o l r p).map val = foldStep (fieldTests K) o (l.map val) (r.map val) p := by
  simp only [foldStep, apply_ite (Expr.map val), Expr.map, isNumZero_map h, isNumOne_map h, isNumPos_map h,
    h.zero, h.one]
  rfl

theorem fold_map (h : TestsAgree nt val) (e : Expr N) :
    (fold nt e).map val = fold (fieldTests K) (e.map val) := by
  induction e with
  | num | var | const | func | pre | post =>
    simp only [fold_num, fold_var, fold_const, fold_func, fold_pre, fold_post, Expr.map]
  | bin o l r p ihl ihr => rw [fold_bin, foldStep_map h, ihl, ihr, Expr.map, fold_bin]

end

theorem decTests_agree : TestsAgree decTests Dec.val where
  isZero d := by
    simp only [decTests, Dec.val, decide_eq_true_eq]
    constructor
    · intro h; simp [h]
    · intro h
      have h10 : (10 : ℚ) ^ d.scale ≠ 0 := pow_ne_zero _ (by norm_num)
      rcases div_eq_zero_iff.mp h with h | h
      · rcases mul_eq_zero.mp h with h | h
        · split at h <;> norm_num at h
        · exact_mod_cast h
      · exact absurd h h10
  isOne d := by
    have h10 : (0 : ℚ) < (10 : ℚ) ^ d.scale := pow_pos (by norm_num) _
    simp only [decTests, Dec.val, Bool.and_eq_true, Bool.not_eq_true', decide_eq_true_eq]
    constructor
    · rintro ⟨hn, hm⟩
      rw [hn, hm]; simp only [Bool.false_eq_true, ↓reduceIte, one_mul, Nat.cast_pow, Nat.cast_ofNat]
      exact div_self h10.ne'
    · intro h
      rw [div_eq_one_iff_eq h10.ne'] at h
      cases hn : d.neg with
      | true =>
        rw [hn] at h
        simp only [↓reduceIte, neg_mul, one_mul] at h
        have : (0 : ℚ) ≤ d.mant := Nat.cast_nonneg _
        linarith
      | false =>
        rw [hn] at h
        simp only [Bool.false_eq_true, ↓reduceIte, one_mul] at h
        exact ⟨rfl, by exact_mod_cast h⟩
  isPos d := by
    have h10 : (0 : ℚ) < (10 : ℚ) ^ d.scale := pow_pos (by norm_num) _
    simp only [decTests, Dec.val, Bool.and_eq_true, Bool.not_eq_true', decide_eq_true_eq]
    rw [div_pos_iff_of_pos_right h10]
    have hm : (0 : ℚ) ≤ d.mant := Nat.cast_nonneg _
    constructor
    · rintro ⟨hn, hm0⟩
      rw [hn]; simp only [Bool.false_eq_true, ↓reduceIte, one_mul]
      exact_mod_cast Nat.pos_of_ne_zero hm0
    · intro h
      cases hn : d.neg with
      | true => rw [hn] at h; simp only [↓reduceIte, neg_mul, one_mul] at h; linarith
      | false =>
        rw [hn] at h; simp only [Bool.false_eq_true, ↓reduceIte, one_mul] at h
        refine ⟨rfl, ?_⟩
        intro h0; rw [h0] at h; simp at h
  zero := by simp [decTests, Dec.val]
  one := by simp [decTests, Dec.val]

end SV.C19
