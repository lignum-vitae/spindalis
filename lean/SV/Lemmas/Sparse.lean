import SV.Model.Poly
import Mathlib.Algebra.BigOperators.Group.List.Basic
import Mathlib.Algebra.Ring.Defs
/-!
The sparse evaluator of `SV.Model.Poly` (`lookup`, `termValue`, `evalTermsFrom`, `evalTerms`: the model of
`eval_intermediate_polynomial`) characterised once.

* `lookup` is the finite map built by inserting the bindings in list order (`lookup_append`, `lookup_snoc`,
  `lookup_perm`, …).
* The evaluator reads the bindings only through `lookup` at the names it meets (`evalTermsFrom_congr`), and
  it has two outcomes (`evalTermsFrom_ok_or_error`): a value, and then every name it met is bound, or
  `VariableNotFound` of an unbound name.
* When every name is bound the value is the sum over the terms of coefficient times the product of the
  powers (`evalTermsFrom_eq_sum`; only associativity is used, so any semiring).
* `evalTerms_eq_ok_iff` puts these together: success exactly when the term list is `Bound`, with the sum of
  products under `valuation σ`.
* With every name bound and no law of arithmetic the value is the code's left-to-right fold
  (`evalTermsFrom_eq_foldl`), so that form also speaks about `Float`.
* `eval_univariate` on a polynomial with at most one listed variable is the evaluator under the constant
  binding (`evalUni_eq_evalTermsFrom`), hence total (`evalUni_eq_sum`).
-/
namespace SV.Poly
open SV

theorem nodup_eraseDups {α : Type} [BEq α] [LawfulBEq α] (l : List α) : l.eraseDups.Nodup := by
  generalize hn : l.length = n
  induction n using Nat.strongRecOn generalizing l with
  | _ n ih =>
    cases l with
    | nil => simp [List.Nodup]
    | cons a as =>
      rw [List.eraseDups_cons]
      have hlen : (as.filter fun b => !b == a).length < n := by
        have := List.length_filter_le (fun b => !b == a) as
        simp only [List.length_cons] at hn
        omega
      refine List.pairwise_cons.2 ⟨?_, ih _ hlen _ rfl⟩
      intro b hb
      rw [List.mem_eraseDups, List.mem_filter] at hb
      intro e
      subst e
      simp at hb

/-- a duplicate-free list whose members all equal `a` is `[]` or `[a]` -/
theorem eq_nil_or_singleton_of_nodup {α : Type} {l : List α} {a : α} (hnd : l.Nodup)
    (hall : ∀ b ∈ l, b = a) : l = [] ∨ l = [a] := by
  match l, hnd, hall with
  | [], _, _ => exact Or.inl rfl
  | [b], _, hall => exact Or.inr (by rw [hall b (List.mem_cons_self ..)])
  | b :: c :: r, hnd, hall =>
    have hbc : b = c := (hall b (List.mem_cons_self ..)).trans
      (hall c (List.mem_cons_of_mem _ (List.mem_cons_self ..))).symm
    exact absurd (hbc ▸ List.mem_cons_self ..) (List.nodup_cons.1 hnd).1

section lookup
variable {S : Type}

theorem lookup_eq_map (σ : List (String × S)) (w : String) :
    lookup σ w = (σ.reverse.find? (fun p => p.1 = w)).map (·.2) := by
  unfold lookup
  cases σ.reverse.find? (fun p => p.1 = w) <;> rfl

/-- Two binding lists one after the other: the second list's binding of a name, when there is one,
hides the first list's. -/
theorem lookup_append (a b : List (String × S)) (w : String) :
    lookup (a ++ b) w = (lookup b w).or (lookup a w) := by
  simp only [lookup_eq_map, List.reverse_append, List.find?_append]
  cases List.find? (fun p => decide (p.1 = w)) b.reverse <;> simp

/-- appending one more binding is `HashMap::insert` -/
theorem lookup_snoc (σ : List (String × S)) (n : String) (x : S) (w : String) :
    lookup (σ ++ [(n, x)]) w = if n = w then some x else lookup σ w := by
  rw [lookup_append]
  by_cases h : n = w <;> simp [lookup, h]

theorem lookup_single (n : String) (x : S) (w : String) :
    lookup [(n, x)] w = if n = w then some x else none :=
  lookup_snoc [] n x w

/-- A name is bound only if it is the name of some binding in the list — exactly that string. -/
theorem lookup_some_mem (σ : List (String × S)) (w : String) (x : S) (h : lookup σ w = some x) :
    (w, x) ∈ σ := by
  rw [lookup_eq_map] at h
  obtain ⟨p, hp, rfl⟩ := Option.map_eq_some_iff.1 h
  have h1 := List.mem_of_find?_eq_some hp
  have h2 := List.find?_some hp
  simp only [decide_eq_true_eq] at h2
  rw [List.mem_reverse] at h1
  rw [← h2]
  exact h1

/-- If no binding in the list has exactly the name `w`, then `w` is unbound. -/
theorem lookup_none_of_not_mem (σ : List (String × S)) (w : String) (h : ∀ p ∈ σ, p.1 ≠ w) :
    lookup σ w = none := by
  cases hl : lookup σ w with
  | none => rfl
  | some x => exact absurd rfl (h _ (lookup_some_mem σ w x hl))

theorem eq_of_nodup_fst : ∀ (σ : List (String × S)), (σ.map (·.1)).Nodup →
    ∀ p ∈ σ, ∀ q ∈ σ, p.1 = q.1 → p = q
  | [], _, p, hp, _, _, _ => by cases hp
  | r :: rs, hnd, p, hp, q, hq, he => by
    rw [List.map_cons, List.nodup_cons] at hnd
    rcases List.mem_cons.1 hp with rfl | hp' <;> rcases List.mem_cons.1 hq with rfl | hq'
    · rfl
    · exact absurd (List.mem_map.2 ⟨q, hq', he.symm⟩) hnd.1
    · exact absurd (List.mem_map.2 ⟨p, hp', he⟩) hnd.1
    · exact eq_of_nodup_fst rs hnd.2 p hp' q hq' he

/-- With pairwise distinct names the map is just the set of the bindings: `w` is bound to `x` exactly
when `(w, x)` is in the list. -/
theorem lookup_eq_some_iff_of_nodup (σ : List (String × S)) (hnd : (σ.map (·.1)).Nodup)
    (w : String) (x : S) : lookup σ w = some x ↔ (w, x) ∈ σ := by
  refine ⟨lookup_some_mem σ w x, fun hm => ?_⟩
  cases hl : lookup σ w with
  | none =>
    exfalso
    rw [lookup_eq_map, Option.map_eq_none_iff, List.find?_eq_none] at hl
    exact hl (w, x) (List.mem_reverse.2 hm) (by simp)
  | some y =>
    have hm' := lookup_some_mem σ w y hl
    have := eq_of_nodup_fst σ hnd _ hm' _ hm rfl
    rw [Prod.mk.injEq] at this
    rw [this.2]

/-- **A permutation of a binding list with pairwise distinct names is the same map.** -/
theorem lookup_perm (σ₁ σ₂ : List (String × S)) (hp : σ₁.Perm σ₂) (hnd : (σ₁.map (·.1)).Nodup)
    (w : String) : lookup σ₁ w = lookup σ₂ w := by
  have hnd2 : (σ₂.map (·.1)).Nodup := (hp.map _).nodup_iff.1 hnd
  ext x
  rw [lookup_eq_some_iff_of_nodup σ₁ hnd, lookup_eq_some_iff_of_nodup σ₂ hnd2, hp.mem_iff]

/-- A binding of the name `n`, inserted anywhere in the list, does not change what any *other* name
is bound to. -/
theorem lookup_insert_other (a b : List (String × S)) (n : String) (x : S) (w : String)
    (hw : n ≠ w) : lookup (a ++ (n, x) :: b) w = lookup (a ++ b) w := by
  have : a ++ (n, x) :: b = (a ++ [(n, x)]) ++ b := by simp
  rw [this, lookup_append, lookup_snoc, if_neg hw, lookup_append]

end lookup

section evaluator
variable {S : Type} [Mul S]

theorem termValue_cons_some (powf : S → S → S) {σ : String → Option S} {v : String} {x : S}
    (h : σ v = some x) (acc p : S) (vs : List (String × S)) :
    termValue powf σ acc ((v, p) :: vs) = termValue powf σ (acc * powf x p) vs := by
  rw [termValue, h]

theorem termValue_cons_none (powf : S → S → S) {σ : String → Option S} {v : String}
    (h : σ v = none) (acc p : S) (vs : List (String × S)) :
    termValue powf σ acc ((v, p) :: vs) = .error (.variableNotFound v) := by
  rw [termValue, h]

theorem termValue_congr (powf : S → S → S) (σ τ : String → Option S)
    (vars : List (String × S)) (acc : S) (h : ∀ p ∈ vars, σ p.1 = τ p.1) :
    termValue powf σ acc vars = termValue powf τ acc vars := by
  induction vars generalizing acc with
  | nil => rfl
  | cons p ps ih =>
    obtain ⟨v, e⟩ := p
    have hv : σ v = τ v := h (v, e) (by simp)
    rw [termValue, termValue, hv]
    cases τ v with
    | none => rfl
    | some x => exact ih _ (fun q hq => h q (by simp [hq]))

/-- one term has two outcomes: a value, every name being bound, or the first unbound name -/
theorem termValue_ok_or_error (powf : S → S → S) (σ : String → Option S) (vars : List (String × S))
    (acc : S) :
    (∃ r, termValue powf σ acc vars = .ok r ∧ ∀ p ∈ vars, (σ p.1).isSome) ∨
      ∃ v, termValue powf σ acc vars = .error (.variableNotFound v) ∧ σ v = none := by
  induction vars generalizing acc with
  | nil => exact Or.inl ⟨acc, rfl, fun _ h => nomatch h⟩
  | cons p ps ih =>
    obtain ⟨v, e⟩ := p
    cases hv : σ v with
    | none => exact Or.inr ⟨v, termValue_cons_none powf hv acc e ps, hv⟩
    | some x =>
      rw [termValue_cons_some powf hv]
      refine (ih (acc * powf x e)).imp_left fun ⟨r, hr, hb⟩ => ⟨r, hr, ?_⟩
      exact List.forall_mem_cons.2 ⟨by rw [hv]; rfl, hb⟩

/-- one term when every variable is bound: the left-to-right product the code forms (no law of
arithmetic is used, so this is also what happens at `Float`) -/
theorem termValue_eq_foldl (powf : S → S → S) (σo : String → Option S) (σ : String → S)
    (vs : List (String × S)) (acc : S) (h : ∀ q ∈ vs, σo q.1 = some (σ q.1)) :
    termValue powf σo acc vs = .ok (vs.foldl (fun a q => a * powf (σ q.1) q.2) acc) := by
  induction vs generalizing acc with
  | nil => rfl
  | cons q vs ih =>
    obtain ⟨v, p⟩ := q
    rw [termValue_cons_some powf (h (v, p) (List.mem_cons_self ..)),
      ih _ (fun q hq => h q (List.mem_cons_of_mem _ hq))]
    rfl

variable [Add S]

theorem evalTermsFrom_cons_ok (powf : S → S → S) {σ : String → Option S} {t : Term S} {tv : S}
    (h : termValue powf σ t.coef t.vars = .ok tv) (acc : S) (ts : List (Term S)) :
    evalTermsFrom powf σ acc (t :: ts) = evalTermsFrom powf σ (acc + tv) ts := by
  rw [evalTermsFrom, h]

theorem evalTermsFrom_cons_error (powf : S → S → S) {σ : String → Option S} {t : Term S} {e : PErr}
    (h : termValue powf σ t.coef t.vars = .error e) (acc : S) (ts : List (Term S)) :
    evalTermsFrom powf σ acc (t :: ts) = .error e := by
  rw [evalTermsFrom, h]

/-- the evaluator reads the bindings only at the names that occur in the terms -/
theorem evalTermsFrom_congr (powf : S → S → S) (σ τ : String → Option S)
    (ts : List (Term S)) (acc : S) (h : ∀ t ∈ ts, ∀ p ∈ t.vars, σ p.1 = τ p.1) :
    evalTermsFrom powf σ acc ts = evalTermsFrom powf τ acc ts := by
  induction ts generalizing acc with
  | nil => rfl
  | cons t ts ih =>
    rw [evalTermsFrom, evalTermsFrom, termValue_congr powf σ τ t.vars t.coef (h t (by simp))]
    cases termValue powf τ t.coef t.vars with
    | error e => rfl
    | ok tv => exact ih _ (fun u hu => h u (by simp [hu]))

/-- **The two outcomes of the evaluator**: a value, and then every name that occurs is bound, or
`VariableNotFound` of an unbound name — never a number made up for a missing variable, never another
error. -/
theorem evalTermsFrom_ok_or_error (powf : S → S → S) (σ : String → Option S) (ts : List (Term S))
    (acc : S) :
    (∃ r, evalTermsFrom powf σ acc ts = .ok r ∧ ∀ t ∈ ts, ∀ p ∈ t.vars, (σ p.1).isSome) ∨
      ∃ v, evalTermsFrom powf σ acc ts = .error (.variableNotFound v) ∧ σ v = none := by
  induction ts generalizing acc with
  | nil => exact Or.inl ⟨acc, rfl, fun _ h => nomatch h⟩
  | cons t ts ih =>
    rcases termValue_ok_or_error powf σ t.vars t.coef with ⟨tv, htv, hb⟩ | ⟨v, hv, hn⟩
    · rw [evalTermsFrom_cons_ok powf htv]
      exact (ih (acc + tv)).imp_left fun ⟨r, hr, hbs⟩ => ⟨r, hr, List.forall_mem_cons.2 ⟨hb, hbs⟩⟩
    · exact Or.inr ⟨v, evalTermsFrom_cons_error powf hv acc ts, hn⟩

theorem evalTermsFrom_eq_foldl (powf : S → S → S) (σo : String → Option S) (σ : String → S)
    (ts : List (Term S)) (acc : S) (h : ∀ t ∈ ts, ∀ q ∈ t.vars, σo q.1 = some (σ q.1)) :
    evalTermsFrom powf σo acc ts = .ok (ts.foldl
      (fun a t => a + t.vars.foldl (fun a q => a * powf (σ q.1) q.2) t.coef) acc) := by
  induction ts generalizing acc with
  | nil => rfl
  | cons t ts ih =>
    rw [evalTermsFrom_cons_ok powf
      (termValue_eq_foldl powf σo σ t.vars t.coef (h t (List.mem_cons_self ..))),
      ih _ (fun t ht => h t (List.mem_cons_of_mem _ ht))]
    rfl

theorem evalTermsFrom_append (powf : S → S → S) (σ : String → Option S)
    (ts₁ ts₂ : List (Term S)) (acc : S) :
    evalTermsFrom powf σ acc (ts₁ ++ ts₂) =
      match evalTermsFrom powf σ acc ts₁ with
      | .ok a => evalTermsFrom powf σ a ts₂
      | .error e => .error e := by
  induction ts₁ generalizing acc with
  | nil => rfl
  | cons t ts ih =>
    simp only [List.cons_append, evalTermsFrom]
    cases termValue powf σ t.coef t.vars with
    | error e => rfl
    | ok tv => exact ih _

/-- The error names the variable that was looked up: if the first variable of the first term is
unbound, the outcome is `VariableNotFound` of exactly that name. -/
theorem evalTerms_first_unbound [OfNat S 0] (powf : S → S → S) (c e : S)
    (n : String) (vs : List (String × S)) (ts : List (Term S)) (σ : List (String × S))
    (h : lookup σ n = none) :
    evalTerms powf (⟨c, (n, e) :: vs⟩ :: ts) σ = .error (.variableNotFound n) :=
  evalTermsFrom_cons_error powf (termValue_cons_none powf h c e vs) 0 ts

/-- **`eval_univariate` on a polynomial with at most one listed variable that lists every name its
terms use** binds every name it meets to the point: it is the evaluator under the constant binding.
Hence it never fails; its value is `evalTermsFrom_eq_foldl` (any scalar type) or `evalUni_eq_sum`
(a semiring) at `fun _ => x`.  A polynomial without variables needs no binding at all. -/
theorem evalUni_eq_evalTermsFrom [OfNat S 0] (powf : S → S → S) (p : IPoly S)
    (h1 : p.variables.length ≤ 1) (hn : ∀ t ∈ p.terms, ∀ q ∈ t.vars, q.1 ∈ p.variables) (x : S) :
    evalUni powf p x = evalTermsFrom powf (fun _ => some x) 0 p.terms := by
  rw [evalUni, if_neg (Nat.not_lt.2 h1)]
  match hp : p.variables, h1, hn with
  | [], _, hn =>
    exact evalTermsFrom_congr powf _ _ _ _ fun t ht q hq => absurd (hn t ht q hq) List.not_mem_nil
  | [u], _, hn =>
    refine evalTermsFrom_congr powf _ _ _ _ fun t ht q hq => ?_
    rw [List.mem_singleton.1 (hn t ht q hq), lookup_single, if_pos rfl]

end evaluator

section value
variable {R : Type} [Semiring R]

theorem termValue_ok (powf : R → R → R) (σ : String → Option R) (f : String → R)
    (vars : List (String × R)) (acc : R) (h : ∀ p ∈ vars, σ p.1 = some (f p.1)) :
    termValue powf σ acc vars = .ok (acc * (vars.map fun p => powf (f p.1) p.2).prod) := by
  induction vars generalizing acc with
  | nil => rw [termValue, List.map_nil, List.prod_nil, mul_one]
  | cons p ps ih =>
    obtain ⟨v, e⟩ := p
    rw [termValue_cons_some powf (h (v, e) (by simp)), ih _ (fun q hq => h q (by simp [hq])),
      List.map_cons, List.prod_cons, mul_assoc]

/-- **Evaluation under bindings that cover the names used** is never an error: it is the sum over the
terms of coefficient times the product of value^exponent. -/
theorem evalTermsFrom_eq_sum (powf : R → R → R) (σo : String → Option R) (σ : String → R)
    (ts : List (Term R)) (acc : R) (h : ∀ t ∈ ts, ∀ q ∈ t.vars, σo q.1 = some (σ q.1)) :
    evalTermsFrom powf σo acc ts
      = .ok (acc + (ts.map fun t => t.coef * (t.vars.map fun q => powf (σ q.1) q.2).prod).sum) := by
  induction ts generalizing acc with
  | nil => rw [evalTermsFrom, List.map_nil, List.sum_nil, add_zero]
  | cons t ts ih =>
    rw [evalTermsFrom_cons_ok powf (termValue_ok powf σo σ t.vars t.coef (h t (by simp))),
      ih _ (fun u hu => h u (by simp [hu])), List.map_cons, List.sum_cons, add_assoc]

/-- `eval_univariate` is total on such a polynomial: the sum over the terms of coefficient times the
product of the point's powers -/
theorem evalUni_eq_sum (powf : R → R → R) (p : IPoly R) (h1 : p.variables.length ≤ 1)
    (hn : ∀ t ∈ p.terms, ∀ q ∈ t.vars, q.1 ∈ p.variables) (x : R) :
    evalUni powf p x
      = .ok (p.terms.map fun t => t.coef * (t.vars.map fun q => powf x q.2).prod).sum := by
  rw [evalUni_eq_evalTermsFrom powf p h1 hn,
    evalTermsFrom_eq_sum powf _ (fun _ => x) _ 0 (fun _ _ _ _ => rfl), zero_add]

/-- the accumulator is added to what the evaluation from 0 gives -/
theorem evalTermsFrom_acc (powf : R → R → R) (σ : String → Option R)
    (ts : List (Term R)) (acc : R) :
    evalTermsFrom powf σ acc ts =
      match evalTermsFrom powf σ 0 ts with
      | .ok a => .ok (acc + a)
      | .error e => .error e := by
  induction ts generalizing acc with
  | nil => simp [evalTermsFrom]
  | cons t ts ih =>
    simp only [evalTermsFrom]
    cases termValue powf σ t.coef t.vars with
    | error e => rfl
    | ok tv =>
      simp only
      rw [ih (acc + tv), ih (0 + tv)]
      cases evalTermsFrom powf σ 0 ts with
      | error e => rfl
      | ok a => simp [add_assoc]

/-- the total assignment a binding list denotes: the bound value, 0 for an unbound name -/
def valuation (σ : List (String × R)) : String → R := fun v => (lookup σ v).getD 0

/-- a binding appended last overrides (`HashMap::collect`: the last binding of a name wins) -/
theorem valuation_snoc (σ : List (String × R)) (n : String) (x : R) :
    valuation (σ ++ [(n, x)]) = Function.update (valuation σ) n x := by
  funext w
  unfold valuation
  rw [lookup_snoc]
  by_cases h : n = w
  · rw [if_pos h, ← h, Function.update_self]; rfl
  · rw [if_neg h, Function.update_of_ne (Ne.symm h)]

/-- every name the terms look up is bound -/
def Bound (σ : List (String × R)) (ts : List (Term R)) : Prop :=
  ∀ t ∈ ts, ∀ p ∈ t.vars, (lookup σ p.1).isSome

theorem Bound.lookup {σ : List (String × R)} {ts : List (Term R)} (h : Bound σ ts) :
    ∀ t ∈ ts, ∀ p ∈ t.vars, lookup σ p.1 = some (valuation σ p.1) := fun t ht p hp => by
  have := h t ht p hp
  unfold valuation
  cases hl : Poly.lookup σ p.1 with
  | none => rw [hl] at this; cases this
  | some x => rfl

omit [Semiring R] in
theorem Bound.perm {σ : List (String × R)} {ts₁ ts₂ : List (Term R)} (hp : ts₁.Perm ts₂) :
    Bound σ ts₁ ↔ Bound σ ts₂ :=
  ⟨fun h t ht => h t (hp.mem_iff.2 ht), fun h t ht => h t (hp.mem_iff.1 ht)⟩

omit [Semiring R] in
theorem bound_append {σ : List (String × R)} {ts₁ ts₂ : List (Term R)} :
    Bound σ (ts₁ ++ ts₂) ↔ Bound σ ts₁ ∧ Bound σ ts₂ := by
  simp only [Bound, List.mem_append, or_imp, forall_and]

/-- **The sparse evaluator, completely**: it succeeds exactly when every name it looks up is bound, and
then returns the sum of products under the assignment the bindings denote. -/
theorem evalTerms_eq_ok_iff (powf : R → R → R) (ts : List (Term R)) (σ : List (String × R)) (a : R) :
    evalTerms powf ts σ = .ok a ↔ Bound σ ts ∧
      a = (ts.map fun t => t.coef * (t.vars.map fun p => powf (valuation σ p.1) p.2).prod).sum := by
  have hsum : Bound σ ts → evalTerms powf ts σ =
      .ok (ts.map fun t => t.coef * (t.vars.map fun p => powf (valuation σ p.1) p.2).prod).sum :=
    fun hb => by rw [evalTerms, evalTermsFrom_eq_sum powf _ _ ts 0 hb.lookup, zero_add]
  constructor
  · intro h
    rcases evalTermsFrom_ok_or_error powf (Poly.lookup σ) ts 0 with ⟨r, -, hb⟩ | ⟨v, hv, -⟩
    · exact ⟨hb, Except.ok.inj (h.symm.trans (hsum hb))⟩
    · rw [evalTerms, hv] at h; cases h
  · rintro ⟨hb, rfl⟩
    exact hsum hb

/-- … and otherwise reports an unbound name -/
theorem evalTerms_error (powf : R → R → R) (ts : List (Term R)) (σ : List (String × R)) (e : PErr)
    (h : evalTerms powf ts σ = .error e) : ∃ v, e = .variableNotFound v ∧ lookup σ v = none := by
  rcases evalTermsFrom_ok_or_error powf (Poly.lookup σ) ts 0 with ⟨r, hr, -⟩ | ⟨v, hv, hn⟩
  · rw [evalTerms, hr] at h; cases h
  · rw [evalTerms, hv] at h; cases h; exact ⟨v, rfl, hn⟩

end value

end SV.Poly
