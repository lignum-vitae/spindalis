import SV.Lemmas.C19Implied
/-!
`parseExpr` recurses on fuel; the relations `R` (results) and `E` (errors) say the same without fuel, one
constructor for each path through `parse_expr`, and `Out` is an answer of either kind.  Three facts tie the model
to them: with fuel above the number of tokens its answer is an `Out` (`parse_out`; every recursive call is on a
shorter list, `R_length`), and a result of `R` or an error of `E` is what it answers with any such fuel
(`R.parse_eq`, `E.parse_eq`).  That the fuel is irrelevant, and that `parseExpr` succeeds or fails exactly as `R`
and `E` say, follow from these.
-/
namespace SV.C19
variable {N : Type}

abbrev PRes (N : Type) := Except PErr (Expr N × List (Tok N))

def closeParen (k : Expr N → Expr N) : PRes N → PRes N
  | .error e => .error e
  | .ok (e, .rp :: r'') => .ok (k e, r'')
  | .ok (_, _ :: _) => .error .unexpectedToken
  | .ok (_, []) => .error .eot

def prefixPart (pe : List (Tok N) → Nat → PRes N) (t : Tok N) (rest : List (Tok N)) (minBp : Nat) :
    PRes N :=
  match t with
  | .num n => .ok (.num n, rest)
  | .var c => .ok (.var c, rest)
  | .const k => .ok (.const k, rest)
  | .lp => closeParen setParen (pe rest 0)
  | .rp => .error .unexpectedToken
  | .func f =>
    match rest with
    | .lp :: rest1 => closeParen (fun i => .func f (setParen i)) (pe rest1 0)
    | _ :: _ => .error .unexpectedToken
    | [] => .error .eot
  | .op o =>
    if o ≠ .sub then .error .unexpectedToken else
    match pe rest (max SV.Gen.unaryMinPow minBp) with
    | .error e => .error e
    | .ok (v, r') => .ok (.pre .sub v, r')

theorem closeParen_rp (k : Expr N → Expr N) (e : Expr N) (r : List (Tok N)) :
    closeParen k (.ok (e, .rp :: r)) = .ok (k e, r) := rfl

theorem closeParen_nil (k : Expr N → Expr N) (e : Expr N) : closeParen k (.ok (e, [])) = .error .eot := rfl

theorem closeParen_tok {t : Tok N} (h : t ≠ .rp) (k : Expr N → Expr N) (e : Expr N) (r : List (Tok N)) :
    closeParen k (.ok (e, t :: r)) = .error .unexpectedToken := by
  cases t <;> first | rfl | exact absurd rfl h

theorem closeParen_err (k : Expr N → Expr N) (x : PErr) : closeParen k (.error x) = .error x := rfl

theorem prefixPart_lp (pe : List (Tok N) → Nat → PRes N) (rest : List (Tok N)) (m : Nat) :
    prefixPart pe .lp rest m = closeParen setParen (pe rest 0) := rfl

theorem prefixPart_func_lp (pe : List (Tok N) → Nat → PRes N) (f : Func) (rest : List (Tok N)) (m : Nat) :
    prefixPart pe (.func f) (.lp :: rest) m = closeParen (fun i => .func f (setParen i)) (pe rest 0) := rfl

theorem prefixPart_neg (pe : List (Tok N) → Nat → PRes N) (rest : List (Tok N)) (m : Nat) :
    prefixPart pe (.op .sub) rest m =
      match pe rest (max SV.Gen.unaryMinPow m) with
      | .error e => .error e
      | .ok (v, r') => .ok (.pre .sub v, r') := rfl

theorem prefixPart_badOp {o : Op} (h : o ≠ .sub) (pe : List (Tok N) → Nat → PRes N) (rest : List (Tok N)) (m : Nat) :
    prefixPart pe (.op o) rest m = .error .unexpectedToken := if_pos h

def afterPrefix (bl : Expr N → List (Tok N) → Nat → PRes N) (minBp : Nat) : PRes N → PRes N
  | .error e => .error e
  | .ok (l, r) => bl (postfixLoop l r).1 (postfixLoop l r).2 minBp

theorem parseExpr_zero (ts : List (Tok N)) (m : Nat) : parseExpr 0 ts m = .error .syntaxErr := rfl

theorem parseExpr_nil (fuel : Nat) (m : Nat) : parseExpr fuel ([] : List (Tok N)) m = .error .syntaxErr := by
  cases fuel <;> rfl

theorem parseExpr_cons (fuel : Nat) (t : Tok N) (rest : List (Tok N)) (m : Nat) :
    parseExpr (fuel + 1) (t :: rest) m
      = afterPrefix (binLoop fuel) m (prefixPart (parseExpr fuel) t rest m) := by
  cases t with
  | num | var | const | rp => rfl
  | lp =>
    -- unfolds the left side as far as the recursive call
    show afterPrefix (binLoop fuel) m _ = _
    simp only [prefixPart]
    rcases parseExpr fuel rest 0 with _ | ⟨e, _ | ⟨a, r⟩⟩
    · rfl
    · rfl
    · cases a <;> rfl
  | func f =>
    rcases rest with _ | ⟨a, rest1⟩
    · rfl
    cases a <;> try rfl
    show afterPrefix (binLoop fuel) m _ = _
    simp only [prefixPart]
    rcases parseExpr fuel rest1 0 with _ | ⟨e, _ | ⟨a, r⟩⟩
    · rfl
    · rfl
    · cases a <;> rfl
  | op o =>
    by_cases ho : o = .sub
    · subst ho
      show afterPrefix (binLoop fuel) m _ = _
      simp only [prefixPart, ne_eq, not_true_eq_false, ↓reduceIte]
      cases parseExpr fuel rest (max SV.Gen.unaryMinPow m) <;> rfl
    · cases o <;> first | rfl | exact absurd rfl ho

theorem binLoop_zero_op (l : Expr N) (o : Op) (rest : List (Tok N)) (m : Nat) :
    binLoop 0 l (.op o :: rest) m = .error .syntaxErr := rfl

theorem binLoop_not_op (fuel : Nat) (l : Expr N) (ts : List (Tok N)) (m : Nat)
    (h : ∀ o rest, ts ≠ .op o :: rest) : binLoop fuel l ts m = .ok (l, ts) := by
  cases ts with
  | nil => cases fuel <;> rfl
  | cons t ts =>
    cases t with
    | op o => exact absurd rfl (h o ts)
    | _ => cases fuel <;> rfl

theorem opHead_cases (ts : List (Tok N)) :
    (∃ o rest, ts = .op o :: rest) ∨ ∀ o rest, ts ≠ .op o :: rest :=
  (Classical.em _).imp_right fun hop o rest he => hop ⟨o, rest, he⟩

theorem binLoop_succ_op (fuel : Nat) (l : Expr N) (o : Op) (rest : List (Tok N)) (m : Nat) :
    binLoop (fuel + 1) l (.op o :: rest) m =
      if bp o < m then .ok (l, .op o :: rest) else
      match parseExpr fuel rest (bp o + 1) with
      | .error e => .error e
      | .ok (rhs, r') => binLoop fuel (.bin (if o = .cdot then .mul else o) l rhs false) r' m := rfl

theorem postfixLoop_not_fac (l : Expr N) (ts : List (Tok N)) (h : ∀ r, ts ≠ .op .fac :: r) :
    postfixLoop l ts = (l, ts) := by
  rw [postfixLoop.eq_def]
  split
  · rename_i r; exact absurd rfl (h r)
  · rfl

theorem postfixLoop_fac (l : Expr N) (r : List (Tok N)) :
    postfixLoop l (.op .fac :: r) = postfixLoop (.post .fac l) r := by
  rw [postfixLoop]

theorem postfixLoop_suffix (l : Expr N) (ts : List (Tok N)) : (postfixLoop l ts).2 <:+ ts := by
  induction ts generalizing l with
  | nil => rw [postfixLoop_not_fac _ _ (by simp)]; exact List.suffix_refl _
  | cons t ts ih =>
    by_cases h : t = .op .fac
    · subst h; rw [postfixLoop_fac]; exact (ih _).trans (List.suffix_cons _ _)
    · rw [postfixLoop_not_fac _ _ (by intro r hr; exact h (List.cons.inj hr).1)]; exact List.suffix_refl _

theorem postfixLoop_length (l : Expr N) (ts : List (Tok N)) : (postfixLoop l ts).2.length ≤ ts.length :=
  (postfixLoop_suffix l ts).length_le

/-- which part of `parse_expr` a judgement speaks about: the prefix form, the whole call, or the
binary-operator loop entered with the left operand `l` -/
inductive Mode (N : Type) where
  | pre | full | loop (l : Expr N)

/-- `R mode ts m e r`: on the tokens `ts` with minimum binding power `m`, the part `mode` of
`parse_expr` returns the tree `e` and leaves `r`.  No fuel. -/
inductive R : Mode N → List (Tok N) → Nat → Expr N → List (Tok N) → Prop where
  | num (n : N) (rest : List (Tok N)) (m : Nat) : R .pre (.num n :: rest) m (.num n) rest
  | var (s : String) (rest : List (Tok N)) (m : Nat) : R .pre (.var s :: rest) m (.var s) rest
  | const (c : Const) (rest : List (Tok N)) (m : Nat) : R .pre (.const c :: rest) m (.const c) rest
  | paren {rest : List (Tok N)} (m : Nat) {e : Expr N} {r : List (Tok N)} :
      R .full rest 0 e (.rp :: r) → R .pre (.lp :: rest) m (setParen e) r
  | func (f : Func) {rest : List (Tok N)} (m : Nat) {e : Expr N} {r : List (Tok N)} :
      R .full rest 0 e (.rp :: r) → R .pre (.func f :: .lp :: rest) m (.func f (setParen e)) r
  | neg {rest : List (Tok N)} {m : Nat} {v : Expr N} {r : List (Tok N)} :
      R .full rest (max SV.Gen.unaryMinPow m) v r → R .pre (.op .sub :: rest) m (.pre .sub v) r
  | full {ts : List (Tok N)} {m : Nat} {l : Expr N} {r : List (Tok N)} {e : Expr N} {r' : List (Tok N)} :
      R .pre ts m l r → R (.loop (postfixLoop l r).1) (postfixLoop l r).2 m e r' → R .full ts m e r'
  | stop (l : Expr N) (ts : List (Tok N)) (m : Nat) (h : ∀ o rest, ts ≠ .op o :: rest) :
      R (.loop l) ts m l ts
  | low (l : Expr N) (o : Op) (rest : List (Tok N)) {m : Nat} (h : bp o < m) :
      R (.loop l) (.op o :: rest) m l (.op o :: rest)
  | step {l : Expr N} {o : Op} {rest : List (Tok N)} {m : Nat} {rhs : Expr N} {r' : List (Tok N)}
      {e : Expr N} {r : List (Tok N)} (h : ¬ bp o < m) :
      R .full rest (bp o + 1) rhs r' →
      R (.loop (.bin (if o = .cdot then .mul else o) l rhs false)) r' m e r →
      R (.loop l) (.op o :: rest) m e r

/-- the prefix form and the whole call consume at least one token, the loop possibly none -/
def Mode.slack : Mode N → Nat
  | .loop _ => 0
  | _ => 1

theorem R_length {mode : Mode N} {ts : List (Tok N)} {m : Nat} {e : Expr N} {r : List (Tok N)}
    (h : R mode ts m e r) : r.length + mode.slack ≤ ts.length := by
  induction h with
  | @full ts m l r e r' h1 h2 ih1 ih2 =>
    have := postfixLoop_length l r
    simp only [Mode.slack] at ih1 ih2 ⊢; omega
  | _ => simp only [Mode.slack, List.length_cons] at *; omega

theorem R_full_length {ts : List (Tok N)} {m : Nat} {e : Expr N} {r : List (Tok N)}
    (h : R .full ts m e r) : r.length < ts.length := R_length h

theorem R_pre_postfix_length {t : Tok N} {rest : List (Tok N)} {m : Nat} {l : Expr N} {r : List (Tok N)}
    (h : R .pre (t :: rest) m l r) : (postfixLoop l r).2.length ≤ rest.length :=
  Nat.le_of_lt_succ (Nat.lt_of_le_of_lt (postfixLoop_length l r) (R_length h))

theorem R_loop_length {l : Expr N} {ts : List (Tok N)} {m : Nat} {e : Expr N} {r : List (Tok N)}
    (h : R (.loop l) ts m e r) : r.length ≤ ts.length := R_length h

theorem closeParen_congr (k : Expr N → Expr N) {x y : PRes N} (h : x = y) :
    closeParen k x = closeParen k y := by rw [h]

/-- `E mode ts m x`: the part `mode` of `parse_expr` fails with `x` on `ts` — as the Rust code does,
without any fuel.  `PolynomialSyntaxError` has a single source: `parse_expr` called on no tokens. -/
inductive E : Mode N → List (Tok N) → Nat → PErr → Prop where
  | empty (m : Nat) : E .full [] m .syntaxErr
  | rp (rest : List (Tok N)) (m : Nat) : E .pre (.rp :: rest) m .unexpectedToken
  | badOp {o : Op} (h : o ≠ .sub) (rest : List (Tok N)) (m : Nat) : E .pre (.op o :: rest) m .unexpectedToken
  | parenIn {rest : List (Tok N)} (m : Nat) {x : PErr} : E .full rest 0 x → E .pre (.lp :: rest) m x
  | parenTok {rest : List (Tok N)} (m : Nat) {e : Expr N} {t : Tok N} {r : List (Tok N)} (h : t ≠ .rp) :
      R .full rest 0 e (t :: r) → E .pre (.lp :: rest) m .unexpectedToken
  | parenEnd {rest : List (Tok N)} (m : Nat) {e : Expr N} :
      R .full rest 0 e [] → E .pre (.lp :: rest) m .eot
  | funcEnd (f : Func) (m : Nat) : E .pre [.func f] m .eot
  | funcTok (f : Func) {t : Tok N} (h : t ≠ .lp) (rest : List (Tok N)) (m : Nat) :
      E .pre (.func f :: t :: rest) m .unexpectedToken
  | funcIn (f : Func) {rest : List (Tok N)} (m : Nat) {x : PErr} :
      E .full rest 0 x → E .pre (.func f :: .lp :: rest) m x
  | funcArgTok (f : Func) {rest : List (Tok N)} (m : Nat) {e : Expr N} {t : Tok N} {r : List (Tok N)}
      (h : t ≠ .rp) : R .full rest 0 e (t :: r) → E .pre (.func f :: .lp :: rest) m .unexpectedToken
  | funcArgEnd (f : Func) {rest : List (Tok N)} (m : Nat) {e : Expr N} :
      R .full rest 0 e [] → E .pre (.func f :: .lp :: rest) m .eot
  | negIn {rest : List (Tok N)} {m : Nat} {x : PErr} :
      E .full rest (max SV.Gen.unaryMinPow m) x → E .pre (.op .sub :: rest) m x
  | fullPre {ts : List (Tok N)} {m : Nat} {x : PErr} : E .pre ts m x → E .full ts m x
  | fullLoop {ts : List (Tok N)} {m : Nat} {l : Expr N} {r : List (Tok N)} {x : PErr} :
      R .pre ts m l r → E (.loop (postfixLoop l r).1) (postfixLoop l r).2 m x → E .full ts m x
  | stepRhs {l : Expr N} {o : Op} {rest : List (Tok N)} {m : Nat} {x : PErr} (h : ¬ bp o < m) :
      E .full rest (bp o + 1) x → E (.loop l) (.op o :: rest) m x
  | stepLoop {l : Expr N} {o : Op} {rest : List (Tok N)} {m : Nat} {rhs : Expr N} {r' : List (Tok N)}
      {x : PErr} (h : ¬ bp o < m) :
      R .full rest (bp o + 1) rhs r' →
      E (.loop (.bin (if o = .cdot then .mul else o) l rhs false)) r' m x →
      E (.loop l) (.op o :: rest) m x

/-- an answer of the part `mode` of `parse_expr` in the fuel-free semantics: a result of `R` or an error of `E` -/
def Out (mode : Mode N) (ts : List (Tok N)) (m : Nat) : PRes N → Prop
  | .ok (e, r) => R mode ts m e r
  | .error x => E mode ts m x

theorem prefixPart_out {pe : List (Tok N) → Nat → PRes N} {t : Tok N} {rest : List (Tok N)} {m : Nat}
    (h : ∀ ts' m', ts'.length ≤ rest.length → Out .full ts' m' (pe ts' m')) :
    Out .pre (t :: rest) m (prefixPart pe t rest m) := by
  cases t with
  | num n => exact R.num _ _ _
  | var c => exact R.var _ _ _
  | const k => exact R.const _ _ _
  | rp => exact E.rp _ _
  | lp =>
    have := h rest 0 (Nat.le_refl _)
    rw [prefixPart_lp]
    generalize pe rest 0 = y at this ⊢
    rcases y with x | ⟨e, _ | ⟨a, r⟩⟩
    · exact E.parenIn _ this
    · exact E.parenEnd _ this
    · cases a <;> first | exact R.paren _ this | exact E.parenTok _ (by simp) this
  | func f =>
    rcases rest with _ | ⟨b, rest1⟩
    · exact E.funcEnd _ _
    cases b <;> try exact E.funcTok _ (by simp) _ _
    have := h rest1 0 (Nat.le_succ _)
    rw [prefixPart_func_lp]
    generalize pe rest1 0 = y at this ⊢
    rcases y with x | ⟨e, _ | ⟨a, r⟩⟩
    · exact E.funcIn _ _ this
    · exact E.funcArgEnd _ _ this
    · cases a <;> first | exact R.func _ _ this | exact E.funcArgTok _ _ (by simp) this
  | op o =>
    by_cases ho : o = .sub
    · subst ho
      have := h rest (max SV.Gen.unaryMinPow m) (Nat.le_refl _)
      rw [prefixPart_neg]
      generalize pe rest (max SV.Gen.unaryMinPow m) = y at this ⊢
      rcases y with x | ⟨v, r⟩
      · exact E.negIn this
      · exact R.neg this
    · rw [prefixPart_badOp ho]
      exact E.badOp ho _ _

/-- **With fuel above the number of tokens, what `parse_expr` and its operator loop answer — result or error —
is an answer of the fuel-free semantics.** -/
theorem parse_out (fuel : Nat) :
    (∀ (ts : List (Tok N)) m, ts.length + 1 ≤ fuel → Out .full ts m (parseExpr fuel ts m)) ∧
    (∀ (l : Expr N) ts m, ts.length + 1 ≤ fuel → Out (.loop l) ts m (binLoop fuel l ts m)) := by
  induction fuel with
  | zero => exact ⟨fun ts m h => by omega, fun l ts m h => by omega⟩
  | succ n ih =>
    refine ⟨fun ts m hlen => ?_, fun l ts m hlen => ?_⟩
    · cases ts with
      | nil => exact E.empty _
      | cons t rest =>
        simp only [List.length_cons] at hlen
        rw [parseExpr_cons]
        have hp : Out .pre (t :: rest) m (prefixPart (parseExpr n) t rest m) :=
          prefixPart_out fun ts' m' hts => ih.1 ts' m' (by omega)
        generalize prefixPart (parseExpr n) t rest m = y at hp ⊢
        rcases y with x | ⟨l, r⟩
        · exact E.fullPre hp
        · have h2 := ih.2 (postfixLoop l r).1 (postfixLoop l r).2 m
            (by have := R_pre_postfix_length (show R .pre (t :: rest) m l r from hp); omega)
          simp only [afterPrefix]
          generalize binLoop n (postfixLoop l r).1 (postfixLoop l r).2 m = y at h2 ⊢
          rcases y with x | ⟨e, r'⟩
          · exact E.fullLoop hp h2
          · exact R.full hp h2
    · rcases opHead_cases ts with ⟨o, rest, rfl⟩ | hop
      · simp only [List.length_cons] at hlen
        rw [binLoop_succ_op]
        split
        · exact R.low _ _ _ ‹_›
        · rename_i hlt
          have h1 := ih.1 rest (bp o + 1) (by omega)
          generalize parseExpr n rest (bp o + 1) = y at h1 ⊢
          rcases y with x | ⟨rhs, r'⟩
          · exact E.stepRhs hlt h1
          · have h2 := ih.2 (.bin (if o = .cdot then .mul else o) l rhs false) r' m
              (by have := R_full_length (show R .full rest (bp o + 1) rhs r' from h1); omega)
            simp only
            generalize binLoop n (.bin (if o = .cdot then .mul else o) l rhs false) r' m = y at h2 ⊢
            rcases y with x | ⟨e, r⟩
            · exact E.stepLoop hlt h1 h2
            · exact R.step hlt h1 h2
      · rw [binLoop_not_op _ _ _ _ hop]
        exact R.stop _ _ _ hop


theorem R_suffix {mode : Mode N} {ts : List (Tok N)} {m : Nat} {e : Expr N} {r : List (Tok N)}
    (h : R mode ts m e r) : r <:+ ts := by
  induction h with
  | num | var | const => exact List.suffix_cons _ _
  | paren m h ih => exact ((List.suffix_cons _ _).trans ih).trans (List.suffix_cons _ _)
  | func f m h ih =>
    exact (((List.suffix_cons _ _).trans ih).trans (List.suffix_cons _ _)).trans (List.suffix_cons _ _)
  | neg h ih => exact ih.trans (List.suffix_cons _ _)
  | @full ts m l r e r' h1 h2 ih1 ih2 => exact (ih2.trans (postfixLoop_suffix l r)).trans ih1
  | stop | low => exact List.suffix_refl _
  | step h h1 h2 ih1 ih2 => exact (ih2.trans ih1).trans (List.suffix_cons _ _)

/-- the token list ends with `(` or an operator: the parser is asked for an operand at the end of input -/
def OpenEnd (ts : List (Tok N)) : Prop := ∃ p t, ts = p ++ [t] ∧ (t = .lp ∨ ∃ o, t = .op o)

theorem OpenEnd.cons {ts : List (Tok N)} (h : OpenEnd ts) (t : Tok N) : OpenEnd (t :: ts) := by
  obtain ⟨p, t', rfl, ht⟩ := h
  exact ⟨t :: p, t', rfl, ht⟩

theorem OpenEnd.of_suffix {r ts : List (Tok N)} (h : OpenEnd r) (hs : r <:+ ts) : OpenEnd ts := by
  obtain ⟨p, t', rfl, ht⟩ := h
  obtain ⟨q, rfl⟩ := hs
  exact ⟨q ++ p, t', by simp, ht⟩

theorem OpenEnd.cons_of {ts : List (Tok N)} {t : Tok N} (h : ts = [] ∨ OpenEnd ts)
    (ht : t = .lp ∨ ∃ o, t = .op o) : OpenEnd (t :: ts) := by
  rcases h with rfl | h
  · exact ⟨[], t, rfl, ht⟩
  · exact h.cons t

theorem E_syntaxErr {mode : Mode N} {ts : List (Tok N)} {m : Nat} {x : PErr} (h : E mode ts m x)
    (hx : x = .syntaxErr) :
    match mode with
    | .full => ts = [] ∨ OpenEnd ts
    | _ => OpenEnd ts := by
  induction h with
  | empty => exact Or.inl rfl
  | rp | badOp | parenTok | parenEnd | funcEnd | funcTok | funcArgTok | funcArgEnd => cases hx
  | parenIn m h ih => exact OpenEnd.cons_of (ih hx) (Or.inl rfl)
  | funcIn f m h ih => exact (OpenEnd.cons_of (ih hx) (Or.inl rfl)).cons _
  | negIn h ih => exact OpenEnd.cons_of (ih hx) (Or.inr ⟨_, rfl⟩)
  | fullPre h ih => exact Or.inr (ih hx)
  | @fullLoop ts m l r x h1 h2 ih =>
    exact Or.inr ((ih hx).of_suffix ((postfixLoop_suffix l r).trans (R_suffix h1)))
  | stepRhs h h1 ih => exact OpenEnd.cons_of (ih hx) (Or.inr ⟨_, rfl⟩)
  | stepLoop h h1 h2 ih => exact ((ih hx).of_suffix (R_suffix h1)).cons _

/-- a result of the fuel-free semantics is the result `parse_expr` answers with, whatever fuel it has above the
number of tokens -/
theorem R.parse_eq {mode : Mode N} {ts : List (Tok N)} {m : Nat} {e : Expr N} {r : List (Tok N)}
    (h : R mode ts m e r) :
    match mode with
    | .pre => ∀ fuel t rest, ts = t :: rest → rest.length + 1 ≤ fuel →
        prefixPart (parseExpr fuel) t rest m = .ok (e, r)
    | .full => ∀ fuel, ts.length + 1 ≤ fuel → parseExpr fuel ts m = .ok (e, r)
    | .loop l => ∀ fuel, ts.length + 1 ≤ fuel → binLoop fuel l ts m = .ok (e, r) := by
  induction h with
  | num | var | const => intro fuel t rest' h _; cases h; rfl
  | paren m h ih =>
    intro fuel t rest' h hf; cases h
    rw [prefixPart_lp, ih fuel hf, closeParen_rp]
  | func f m h ih =>
    intro fuel t rest' h hf; cases h
    rw [prefixPart_func_lp, ih fuel (Nat.le_of_succ_le hf), closeParen_rp]
  | neg h ih =>
    intro fuel t rest' h hf; cases h
    rw [prefixPart_neg, ih fuel hf]
  | @full ts m l r e r' h1 h2 ih1 ih2 =>
    intro fuel hf
    cases ts with
    | nil => cases h1
    | cons t rest =>
      simp only [List.length_cons] at hf
      obtain ⟨n, rfl⟩ : ∃ n, fuel = n + 1 := ⟨fuel - 1, by omega⟩
      rw [parseExpr_cons, ih1 n t rest rfl (by omega)]
      simp only [afterPrefix]
      have hl := R_pre_postfix_length h1
      exact ih2 n (by omega)
  | stop l ts m h => intro fuel _; exact binLoop_not_op _ _ _ _ h
  | low l o rest h =>
    intro fuel hf
    obtain ⟨n, rfl⟩ : ∃ n, fuel = n + 1 := ⟨fuel - 1, by omega⟩
    rw [binLoop_succ_op, if_pos h]
  | @step l o rest m rhs r' e r h h1 h2 ih1 ih2 =>
    intro fuel hf
    simp only [List.length_cons] at hf
    obtain ⟨n, rfl⟩ : ∃ n, fuel = n + 1 := ⟨fuel - 1, by omega⟩
    rw [binLoop_succ_op, if_neg h, ih1 n (by omega)]
    have hl := R_full_length h1
    exact ih2 n (by omega)

/-- an error of the fuel-free semantics is the error `parse_expr` answers with, whatever fuel it has above the number
of tokens -/
theorem E.parse_eq {mode : Mode N} {ts : List (Tok N)} {m : Nat} {x : PErr} (h : E mode ts m x) :
    match mode with
    | .pre => ∀ fuel t rest, ts = t :: rest → rest.length + 1 ≤ fuel →
        prefixPart (parseExpr fuel) t rest m = .error x
    | .full => ∀ fuel, ts.length + 1 ≤ fuel → parseExpr fuel ts m = .error x
    | .loop l => ∀ fuel, ts.length + 1 ≤ fuel → binLoop fuel l ts m = .error x := by
  induction h with
  | empty m => exact fun fuel _ => parseExpr_nil _ _
  | rp | funcEnd => intro fuel t rest' h _; cases h; rfl
  | badOp h rest m =>
    intro fuel t rest' he _; cases he
    exact prefixPart_badOp h _ _ _
  | parenIn m h ih =>
    intro fuel t rest' he hf; cases he
    rw [prefixPart_lp, ih fuel hf, closeParen_err]
  | @parenTok rest m e t r hne hR =>
    intro fuel t' rest' he hf; cases he
    rw [prefixPart_lp, R.parse_eq hR fuel hf, closeParen_tok hne]
  | parenEnd m hR =>
    intro fuel t' rest' he hf; cases he
    rw [prefixPart_lp, R.parse_eq hR fuel hf, closeParen_nil]
  | @funcTok f t hne rest m =>
    intro fuel t' rest' he _; cases he
    cases t <;> first | rfl | exact absurd rfl hne
  | funcIn f m h ih =>
    intro fuel t rest' he hf; cases he
    rw [prefixPart_func_lp, ih fuel (Nat.le_of_succ_le hf), closeParen_err]
  | @funcArgTok f rest m e t r hne hR =>
    intro fuel t' rest' he hf; cases he
    rw [prefixPart_func_lp, R.parse_eq hR fuel (Nat.le_of_succ_le hf), closeParen_tok hne]
  | funcArgEnd f m hR =>
    intro fuel t' rest' he hf; cases he
    rw [prefixPart_func_lp, R.parse_eq hR fuel (Nat.le_of_succ_le hf), closeParen_nil]
  | negIn h ih =>
    intro fuel t rest' he hf; cases he
    rw [prefixPart_neg, ih fuel hf]
  | @fullPre ts m x h ih =>
    intro fuel hf
    cases ts with
    | nil => cases h
    | cons t rest =>
      simp only [List.length_cons] at hf
      obtain ⟨n, rfl⟩ : ∃ n, fuel = n + 1 := ⟨fuel - 1, by omega⟩
      rw [parseExpr_cons, ih n t rest rfl (by omega)]
      rfl
  | @fullLoop ts m l r x h1 h2 ih =>
    intro fuel hf
    cases ts with
    | nil => cases h1
    | cons t rest =>
      simp only [List.length_cons] at hf
      obtain ⟨n, rfl⟩ : ∃ n, fuel = n + 1 := ⟨fuel - 1, by omega⟩
      rw [parseExpr_cons, R.parse_eq h1 n t rest rfl (by omega)]
      have hl := R_pre_postfix_length h1
      exact ih n (by omega)
  | @stepRhs l o rest m x h h1 ih =>
    intro fuel hf
    simp only [List.length_cons] at hf
    obtain ⟨n, rfl⟩ : ∃ n, fuel = n + 1 := ⟨fuel - 1, by omega⟩
    rw [binLoop_succ_op, if_neg h, ih n (by omega)]
  | @stepLoop l o rest m rhs r' x h hR h2 ih =>
    intro fuel hf
    simp only [List.length_cons] at hf
    obtain ⟨n, rfl⟩ : ∃ n, fuel = n + 1 := ⟨fuel - 1, by omega⟩
    rw [binLoop_succ_op, if_neg h, R.parse_eq hR n (by omega)]
    have hl := R_full_length hR
    exact ih n (by omega)

theorem parseExpr_fuel_irrelevant (ts : List (Tok N)) (m : Nat) {fuel : Nat} (h : ts.length + 1 ≤ fuel) :
    parseExpr fuel ts m = parseExpr (ts.length + 1) ts m := by
  have := (parse_out _).1 ts m (Nat.le_refl _)
  generalize parseExpr (ts.length + 1) ts m = y at this ⊢
  rcases y with x | ⟨e, r⟩
  · exact E.parse_eq this fuel h
  · exact R.parse_eq this fuel h

theorem binLoop_fuel_irrelevant (l : Expr N) (ts : List (Tok N)) (m : Nat) {fuel : Nat}
    (h : ts.length + 1 ≤ fuel) : binLoop fuel l ts m = binLoop (ts.length + 1) l ts m := by
  have := (parse_out _).2 l ts m (Nat.le_refl _)
  generalize binLoop (ts.length + 1) l ts m = y at this ⊢
  rcases y with x | ⟨e, r⟩
  · exact E.parse_eq this fuel h
  · exact R.parse_eq this fuel h

theorem parseExpr_iff_R (ts : List (Tok N)) (m : Nat) (e : Expr N) (r : List (Tok N)) :
    parseExpr (ts.length + 1) ts m = .ok (e, r) ↔ R .full ts m e r :=
  ⟨fun h => by have := (parse_out _).1 ts m (Nat.le_refl _); rwa [h] at this,
   fun h => R.parse_eq h _ (Nat.le_refl _)⟩

theorem parseExpr_iff_E (ts : List (Tok N)) (m : Nat) (x : PErr) :
    parseExpr (ts.length + 1) ts m = .error x ↔ E .full ts m x :=
  ⟨fun h => by have := (parse_out _).1 ts m (Nat.le_refl _); rwa [h] at this,
   fun h => E.parse_eq h _ (Nat.le_refl _)⟩

theorem parseTokens_iff_R (ts : List (Tok N)) (e : Expr N) :
    parseTokens ts = .ok e ↔ R .full (impliedMul ts) 0 e [] := by
  rw [← parseExpr_iff_R]
  unfold parseTokens
  simp only
  constructor
  · intro h
    split at h
    · cases h
    · rename_i e' he
      cases h; exact he
    · cases h
  · intro h
    simp only [h]

theorem openEnd_iff_getLast? (ts : List (Tok N)) :
    OpenEnd ts ↔ ∃ t, ts.getLast? = some t ∧ (t = .lp ∨ ∃ o, t = .op o) := by
  constructor
  · rintro ⟨p, t, rfl, ht⟩; exact ⟨t, by simp, ht⟩
  · rintro ⟨t, hl, ht⟩
    obtain ⟨p, rfl⟩ := List.getLast?_eq_some_iff.mp hl
    exact ⟨p, t, rfl, ht⟩

theorem openEnd_impliedMul (ts : List (Tok N)) : OpenEnd (impliedMul ts) ↔ OpenEnd ts := by
  rw [openEnd_iff_getLast?, openEnd_iff_getLast?, impliedMul_getLast?]

end SV.C19
