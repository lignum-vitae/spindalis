import SV.Model.C18
import Mathlib.Algebra.BigOperators.Group.List.Basic
import Mathlib.Algebra.BigOperators.Ring.List
import Mathlib.Algebra.Order.BigOperators.Group.List
import Mathlib.Algebra.Order.Field.Basic
import Mathlib.Algebra.Order.Ring.Abs
import Mathlib.Tactic.Ring
import Mathlib.Tactic.FieldSimp
import Mathlib.Tactic.Linarith
/-!
Lemmas for C18 (and C15, which reuses `fsum`/`powi`): the accumulation loop is the list sum, `powi`
is the power, hence over a field each statistic has a closed form (`arithMean_eq`, `geomMean_eq`,
`stdDev_eq`); the algebra of the mean and of the sum of squared deviations `ssd`.
-/
namespace SV.C18

theorem denom_population (n : Nat) : denom .population n = n := rfl
theorem denom_sample (n : Nat) : denom .sample n = n - 1 := rfl

theorem denom_eq_zero_iff (k : Kind) (n : Nat) : denom k n = 0 ↔ n = 0 ∨ (k = .sample ∧ n = 1) := by
  cases k
  · simp [denom]
  · simp only [denom, true_and]
    omega

theorem length_ne_zero_of_denom {k : Kind} {n : Nat} (h : denom k n ≠ 0) : n ≠ 0 :=
  fun e => h ((denom_eq_zero_iff k n).mpr (Or.inl e))

theorem ite_none_eq_none_iff {α : Type} {p : Prop} [Decidable p] {a : α} :
    (if p then none else some a) = none ↔ p := by
  split_ifs with h <;> simp [h]

section scalar
variable {S : Type} [Add S] [Div S] [Neg S] [OfNat S 0] [NatCast S]

theorem arithMean_eq_some_iff {xs : List S} {m : S} :
    arithMean xs = some m ↔ xs.length ≠ 0 ∧ meanRaw xs = m := by
  rw [arithMean, Option.ite_none_left_eq_some, Option.some.injEq]

theorem arithMean_eq_none_iff {xs : List S} : arithMean xs = none ↔ xs.length = 0 :=
  ite_none_eq_none_iff

theorem geomMean_eq_none_iff {exp ln : S → S} {xs : List S} :
    geomMean exp ln xs = none ↔ xs.length = 0 :=
  ite_none_eq_none_iff

variable [Sub S] [Mul S] [OfNat S 1]

theorem stdDev_eq_some_iff {sqrt : S → S} {k : Kind} {xs : List S} {s : S} :
    stdDev sqrt k xs = some s ↔ denom k xs.length ≠ 0 ∧
      sqrt (fsum (xs.map fun x => powi (x - meanRaw xs) 2) / (denom k xs.length : S)) = s := by
  rw [stdDev, Option.ite_none_left_eq_some, Option.some.injEq]

theorem stdDev_eq_none_iff {sqrt : S → S} {k : Kind} {xs : List S} :
    stdDev sqrt k xs = none ↔ denom k xs.length = 0 :=
  ite_none_eq_none_iff

end scalar

/-- compiler-rt's loop at exponent 2 -/
theorem powi_two {S : Type} [Mul S] [OfNat S 1] (y : S) : powi y 2 = 1 * (y * y) := rfl

section ring
variable {R : Type} [CommRing R]

/-- `iter().sum()` (a left fold from `-0.0`) is the sum of the list -/
theorem fsum_eq (xs : List R) : fsum xs = xs.sum := by
  rw [fsum, neg_zero, List.sum_eq_foldl]

theorem powiGo_eq (fuel : Nat) (a : R) (b : Nat) (r : R) (h : b < fuel) :
    powiGo fuel a b r = r * a ^ b := by
  induction fuel generalizing a b r with
  | zero => omega
  | succ fuel ih =>
    -- one round multiplies `r` by `a ^ (b % 2)` and leaves `(a²) ^ (b / 2)` to do
    have hr : (if b % 2 = 1 then r * a else r) = r * a ^ (b % 2) := by
      rcases Nat.mod_two_eq_zero_or_one b with h2 | h2
      · rw [h2, if_neg (by omega), pow_zero, mul_one]
      · rw [h2, if_pos rfl, pow_one]
    rw [powiGo, hr]
    split_ifs with h0
    · rw [Nat.mod_eq_of_lt (by omega)]
    · rw [ih _ _ _ (by omega), mul_assoc, ← pow_two, ← pow_mul, ← pow_add, Nat.mod_add_div]

theorem powi_eq_pow (a : R) (n : Nat) : powi a n = a ^ n := by
  unfold powi
  rw [powiGo_eq _ _ _ _ (Nat.lt_succ_self n), one_mul]

theorem sum_map_add_const (xs : List R) (c : R) :
    (xs.map fun x => x + c).sum = xs.sum + (xs.length : R) * c := by
  rw [List.sum_map_add, List.map_id', List.map_const', List.sum_replicate, nsmul_eq_mul]

theorem sum_map_sub {ι : Type} (l : List ι) (f g : ι → R) :
    (l.map fun p => f p - g p).sum = (l.map f).sum - (l.map g).sum := by
  induction l with
  | nil => simp
  | cons a l ih => simp only [List.map_cons, List.sum_cons, ih]; ring

/-- the sum over a list of a polynomial of degree at most 2 in `g` is that combination of the
moments `n`, `Σ g`, `Σ g²` -/
theorem sum_map_quadratic {α : Type} (xs : List α) (g f : α → R) (c₀ c₁ c₂ : R)
    (hf : ∀ a, f a = c₀ + c₁ * g a + c₂ * g a ^ 2) :
    (xs.map f).sum = (xs.length : R) * c₀ + c₁ * (xs.map g).sum
      + c₂ * (xs.map fun a => g a ^ 2).sum := by
  rw [funext hf, List.sum_map_add, List.sum_map_add, List.sum_map_mul_left, List.sum_map_mul_left,
    List.map_const', List.sum_replicate, nsmul_eq_mul]

end ring

section field
variable {K : Type} [Field K]

theorem meanRaw_eq (xs : List K) : meanRaw xs = xs.sum / (xs.length : K) := by
  unfold meanRaw
  rw [fsum_eq]

theorem arithMean_eq (xs : List K) :
    arithMean xs = if xs.length = 0 then none else some (xs.sum / (xs.length : K)) := by
  simp only [arithMean, meanRaw_eq]

theorem geomMean_eq (exp ln : K → K) (xs : List K) :
    geomMean exp ln xs
      = if xs.length = 0 then none else some (exp ((xs.map ln).sum / (xs.length : K))) := by
  simp only [geomMean, fsum_eq]

/-- textbook sum of squared deviations from the mean -/
def ssd (xs : List K) : K := (xs.map fun x => (x - xs.sum / (xs.length : K)) ^ 2).sum

theorem fsum_dev_eq (xs : List K) :
    fsum (xs.map fun x => powi (x - meanRaw xs) 2) = ssd xs := by
  simp only [fsum_eq, meanRaw_eq, powi_eq_pow, ssd]

theorem stdDev_eq (sqrt : K → K) (k : Kind) (xs : List K) :
    stdDev sqrt k xs
      = if denom k xs.length = 0 then none
        else some (sqrt (ssd xs / (denom k xs.length : K))) := by
  simp only [stdDev, fsum_dev_eq]

theorem stdDev_of_variance (sqrt : K → K) {k : Kind} {xs : List K} {v : K}
    (h0 : denom k xs.length ≠ 0) (hv : ssd xs / (denom k xs.length : K) = v) :
    stdDev sqrt k xs = some (sqrt v) := by
  rw [stdDev_eq, if_neg h0, hv]

theorem ssd_scale (xs : List K) (k : K) :
    ssd (xs.map fun x => k * x) = k ^ 2 * ssd xs := by
  unfold ssd
  rw [List.map_map, List.length_map, List.sum_map_mul_left xs (fun x => x) k, List.map_id',
    ← List.sum_map_mul_left]
  congr 1
  apply List.map_congr_left
  intro x _
  simp only [Function.comp]
  rw [mul_div_assoc]
  ring

end field

theorem exists_max {L : Type} [LinearOrder L] (xs : List L) (h : xs ≠ []) :
    ∃ b ∈ xs, ∀ x ∈ xs, x ≤ b := by
  induction xs with
  | nil => exact absurd rfl h
  | cons y ys ih =>
    rcases eq_or_ne ys [] with rfl | hys
    · exact ⟨y, List.mem_singleton_self y, fun x hx => (List.mem_singleton.mp hx).le⟩
    · obtain ⟨b, hb, hmax⟩ := ih hys
      rcases le_total b y with hby | hyb
      · exact ⟨y, List.mem_cons_self,
          List.forall_mem_cons.mpr ⟨le_rfl, fun x hx => (hmax x hx).trans hby⟩⟩
      · exact ⟨b, List.mem_cons_of_mem _ hb, List.forall_mem_cons.mpr ⟨hyb, hmax⟩⟩

theorem exists_min {L : Type} [LinearOrder L] (xs : List L) (h : xs ≠ []) :
    ∃ a ∈ xs, ∀ x ∈ xs, a ≤ x :=
  exists_max (L := Lᵒᵈ) xs h

section ordered
variable {K : Type} [Field K] [LinearOrder K] [IsStrictOrderedRing K]

theorem length_cast_pos {xs : List K} (h : xs.length ≠ 0) : (0 : K) < (xs.length : K) :=
  Nat.cast_pos.mpr (Nat.pos_of_ne_zero h)

theorem mean_map_add_const (xs : List K) (c : K) (h : xs.length ≠ 0) :
    (xs.map fun x => x + c).sum / (xs.length : K) = xs.sum / (xs.length : K) + c := by
  rw [sum_map_add_const, add_div, mul_div_cancel_left₀ c (length_cast_pos h).ne']

theorem sum_map_nonneg {α : Type} (xs : List α) (f : α → K) (h : ∀ x, 0 ≤ f x) :
    0 ≤ (xs.map f).sum :=
  List.sum_nonneg fun _ hy => by
    obtain ⟨x, _, rfl⟩ := List.mem_map.mp hy
    exact h x

theorem ssd_nonneg (xs : List K) : 0 ≤ ssd xs :=
  sum_map_nonneg xs _ fun _ => sq_nonneg _

theorem ssd_translate (xs : List K) (c : K) : ssd (xs.map fun x => x + c) = ssd xs := by
  unfold ssd
  rw [List.map_map, List.length_map]
  congr 1
  apply List.map_congr_left
  intro x hx
  simp only [Function.comp]
  rw [mean_map_add_const xs c (List.length_pos_of_mem hx).ne', add_sub_add_right_eq_sub]

/-- about the mean the cross term vanishes: `Σ (x−c)² = Σ (x−μ)² + n·(μ−c)²` -/
theorem sum_sq_about_mean {α : Type} (xs : List α) (g : α → K) (c : K) (hn : xs.length ≠ 0) :
    (xs.map fun x => (g x - c) ^ 2).sum
      = (xs.map fun x => (g x - (xs.map g).sum / (xs.length : K)) ^ 2).sum
        + (xs.length : K) * ((xs.map g).sum / (xs.length : K) - c) ^ 2 := by
  have hne : (xs.length : K) ≠ 0 := Nat.cast_ne_zero.mpr hn
  generalize hm : (xs.map g).sum / (xs.length : K) = m
  -- `(g x − c)² = (m − c)² + 2(m − c)(g x − m) + (g x − m)²`, and `Σ (g x − m) = 0`
  rw [sum_map_quadratic xs (fun x => g x - m) _ ((m - c) ^ 2) (2 * (m - c)) 1 fun a => by
      rw [one_mul, ← add_sq, sub_add_sub_cancel'],
    sum_map_sub, List.map_const', List.sum_replicate, nsmul_eq_mul, ← hm,
    mul_div_cancel₀ _ hne, sub_self, mul_zero, add_zero, one_mul, add_comm]

theorem ssd_eq_one_pass (xs : List K) (h : xs.length ≠ 0) :
    ssd xs = (xs.map fun x => x ^ 2).sum - xs.sum ^ 2 / (xs.length : K) := by
  have hne : (xs.length : K) ≠ 0 := (length_cast_pos h).ne'
  have e := sum_sq_about_mean xs (fun x => x) 0 h
  simp only [sub_zero, List.map_id'] at e
  rw [e, ssd, div_pow, pow_two (xs.length : K), ← div_div, mul_div_cancel₀ _ hne, add_sub_cancel_right]

theorem mean_ge_of_forall_ge (xs : List K) (h : xs.length ≠ 0) (a : K) (ha : ∀ x ∈ xs, a ≤ x) :
    a ≤ xs.sum / (xs.length : K) := by
  rw [le_div_iff₀ (length_cast_pos h), mul_comm, ← nsmul_eq_mul]
  exact List.card_nsmul_le_sum xs a ha

theorem mean_le_of_forall_le (xs : List K) (h : xs.length ≠ 0) (b : K) (hb : ∀ x ∈ xs, x ≤ b) :
    xs.sum / (xs.length : K) ≤ b := by
  rw [div_le_iff₀ (length_cast_pos h), mul_comm, ← nsmul_eq_mul]
  exact List.sum_le_card_nsmul xs b hb

theorem mean_lt_of_forall_lt (xs : List K) (h : xs ≠ []) (b : K) (hb : ∀ x ∈ xs, x < b) :
    xs.sum / (xs.length : K) < b := by
  have hs := List.sum_lt_sum_of_ne_nil h id (fun _ => b) hb
  rw [List.map_id, List.map_const', List.sum_replicate, nsmul_eq_mul] at hs
  rwa [div_lt_iff₀ (length_cast_pos (mt List.length_eq_zero_iff.mp h)), mul_comm]

end ordered

end SV.C18

/-! The hypothesis on the square-root parameter under which the properties of `stdDev` are stated
(`SV.Props.C18`), with its consequences. -/
namespace SV.Props.C18

variable {K : Type} [Field K] [LinearOrder K] [IsStrictOrderedRing K]

/-- what is assumed of the square-root parameter -/
def SqrtSpec (sqrt : K → K) : Prop := ∀ x, 0 ≤ x → sqrt x * sqrt x = x ∧ 0 ≤ sqrt x

/-- `SqrtSpec` determines `sqrt` on the non-negative numbers -/
theorem SqrtSpec.eq_of_mul_self {sqrt : K → K} (hs : SqrtSpec sqrt) {x r : K} (hr : 0 ≤ r)
    (h : r * r = x) : sqrt x = r := by
  obtain ⟨e, p⟩ := hs x (h ▸ mul_self_nonneg r)
  exact (mul_self_inj_of_nonneg p hr).mp (e.trans h.symm)

theorem SqrtSpec.mul {sqrt : K → K} (hs : SqrtSpec sqrt) {a b : K} (ha : 0 ≤ a) (hb : 0 ≤ b) :
    sqrt (a * b) = sqrt a * sqrt b := by
  obtain ⟨ea, pa⟩ := hs a ha
  obtain ⟨eb, pb⟩ := hs b hb
  exact hs.eq_of_mul_self (mul_nonneg pa pb) (by rw [mul_mul_mul_comm, ea, eb])

theorem SqrtSpec.sq {sqrt : K → K} (hs : SqrtSpec sqrt) (k : K) : sqrt (k ^ 2) = |k| :=
  hs.eq_of_mul_self (abs_nonneg k) (by rw [abs_mul_abs_self, pow_two])

end SV.Props.C18
