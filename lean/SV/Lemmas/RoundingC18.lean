import SV.Lemmas.C18
import SV.Lemmas.Rounding
import Mathlib.Algebra.BigOperators.Field
/-!
`fsum`, `meanRaw` and the squared deviations of `stdDev` at the rounding scalar `Fl M`, each written
as a weighted sum (`FlModel.WSum`) of the exact terms, divided by the denominator term by term.
-/
namespace SV.C18
open SV Finset

variable {M : FlModel}

/-- `iter().sum()` at `Fl M` (fold from `-0.0`, which is `0`): `Σ xᵢ·tᵢ`, the weight of the `i`-th
sample carrying the `n − i` additions it takes part in -/
theorem fsum_wsum (xs : List (Fl M)) :
    M.WSum (range xs.length) (fun i => xs.length - i) (fun i => (xs.getD i 0).val)
      (fsum xs).val := by
  obtain ⟨t0, t, _, ht, hval⟩ := foldl_add_rounding xs (-(0 : Fl M))
  exact .of_range ht (by rw [fsum, hval, Fl.neg_zero_val, zero_mul, zero_add])

/-- `w / (dn as f64)` for a computed sum `w`, when the cast of the denominator carries `k` roundings
(`k = 1` in general, `k = 0` when `dn` is representable): the division and the cast are charged to
every term -/
theorem div_natCast_wsum {s : Finset ℕ} {c : ℕ → ℕ} {e : ℕ → ℝ} {w : Fl M}
    (h : M.WSum s c e w.val) (dn k : ℕ) (p : ℝ) (hp : M.Fac k p)
    (hcast : ((dn : ℕ) : Fl M).val = (dn : ℝ) * p) :
    M.WSum s (fun i => c i + (1 + k)) (fun i => e i / (dn : ℝ)) (w / (dn : Fl M)).val := by
  obtain ⟨d, hd, hdiv⟩ := Fl.div_fac w (dn : Fl M)
  have := (h.scale (hd.div hp)).div (dn : ℝ)
  rwa [show w.val * (d / p) / (dn : ℝ) = (w / (dn : Fl M)).val by rw [hdiv, hcast]; ring] at this

/-- one squared deviation `powi (x - μ) 2 = 1 * ((x - μ) * (x - μ))`: a subtraction (squared) and
two multiplications, four roundings -/
theorem sqdev_fac (x μ : Fl M) : M.Scaled 4 (powi (x - μ) 2).val ((x.val - μ.val) ^ 2) := by
  obtain ⟨e, he, hsub⟩ := Fl.sub_fac x μ
  obtain ⟨d1, hd1, h1⟩ := Fl.mul_fac (x - μ) (x - μ)
  obtain ⟨d2, hd2, h2⟩ := Fl.mul_fac (1 : Fl M) ((x - μ) * (x - μ))
  refine ⟨e ^ 2 * (d1 * d2), (he.pow 2).mul (hd1.mul hd2), ?_⟩
  rw [powi_two, h2, h1, Fl.one_val, hsub]
  ring

/-- the variance expression of `stdDev` about any centre `μ`, denominator `dn` whose cast carries
`k` roundings: `Σ (xᵢ − μ)²/dn·tᵢ` with `n − i + 5 + k` roundings in `tᵢ` -/
theorem variance_wsum (xs : List (Fl M)) (μ : Fl M) (dn k : ℕ) (p : ℝ) (hp : M.Fac k p)
    (hcast : ((dn : ℕ) : Fl M).val = (dn : ℝ) * p) :
    M.WSum (range xs.length) (fun i => 4 + (xs.length - i) + (1 + k))
      (fun i => ((xs.getD i 0).val - μ.val) ^ 2 / (dn : ℝ))
      (fsum (xs.map fun x => powi (x - μ) 2) / (dn : Fl M)).val := by
  have h := fsum_wsum (xs.map fun x => powi (x - μ) 2)
  rw [List.length_map] at h
  exact div_natCast_wsum (h.terms fun i hi => by
    rw [getD_map_of_lt xs _ 0 0 (mem_range.mp hi)]
    exact sqdev_fac _ μ) dn k p hp hcast

/-- a sum over a list, divided, as the sum over its positions -/
theorem sum_map_div {α : Type} (xs : List α) (g : α → ℝ) (a : α) (d : ℝ) :
    (xs.map g).sum / d = ∑ i ∈ range xs.length, g (xs.getD i a) / d := by
  rw [sum_map_eq_sum_range xs g a, Finset.sum_div]

/-- `n` additions, the cast, one division -/
theorem fsum_div_rounding (xs : List (Fl M)) (dn c : ℕ) (s : ℝ) (hs : M.Fac c s)
    (hcast : ((dn : ℕ) : Fl M).val = (dn : ℝ) * s)
    (hu : ((xs.length + 1 + c : ℕ) : ℝ) * M.u < 1) :
    |(fsum xs / (dn : Fl M)).val - (xs.map Fl.val).sum / (dn : ℝ)|
      ≤ M.gamma (xs.length + 1 + c) * ((xs.map fun x => |x.val|).sum / (dn : ℝ)) := by
  have h := (div_natCast_wsum (fsum_wsum xs) dn c s hs hcast).abs_sub_le (fun i _ => by omega) hu
  rw [sum_map_div xs Fl.val 0, sum_map_div xs (fun x => |x.val|) 0]
  simpa only [abs_div, Nat.abs_cast] using h

/-- a relative error bound about a reference `W = w + e` with `0 ≤ e ≤ E`, restated about `w` -/
theorem rel_error_shift {V W w e E g : ℝ} (hV : |V - W| ≤ g * W) (hW : W = w + e) (he : 0 ≤ e)
    (heE : e ≤ E) (hg : 0 ≤ g) : |V - w| ≤ g * w + (1 + g) * E := by
  subst hW
  have h1 : (1 + g) * e ≤ (1 + g) * E := mul_le_mul_of_nonneg_left heE (by linarith)
  have h2 : 0 ≤ g * e := mul_nonneg hg he
  obtain ⟨hlo, hhi⟩ := abs_le.mp hV
  rw [abs_le]
  constructor <;> linarith

end SV.C18
