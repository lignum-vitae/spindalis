import SV.Model.C11
import SV.Lemmas.Mat
/-!
The four branches of `SV.C11.dot`, one equation each (any scalar type), and — over a commutative
semiring — the successful conforming product in closed form: the tabulated row-by-column sums,
whichever branch produced it.
-/
namespace SV.C11
open SV Finset

section anyScalar
variable {S : Type} [Inhabited S] [Add S] [Mul S] [OfNat S 0]

theorem dot_left_scalar (a b : Mat S) (ha : a.h = 1 ∧ a.w = 1) :
    dot a b = .ok (Mat.tab b.h b.w fun i j => a.get 0 0 * b.get i j) := by
  rw [dot, if_pos ha]

theorem dot_right_scalar (a b : Mat S) (ha : ¬(a.h = 1 ∧ a.w = 1)) (hb : b.h = 1 ∧ b.w = 1) :
    dot a b = .ok (Mat.tab a.h a.w fun i j => b.get 0 0 * a.get i j) := by
  rw [dot, if_neg ha, if_pos hb]

theorem dot_mismatch (a b : Mat S) (ha : ¬(a.h = 1 ∧ a.w = 1)) (hb : ¬(b.h = 1 ∧ b.w = 1))
    (hc : a.w ≠ b.h) : dot a b = .error (.invalidDotShape a.w b.h) := by
  rw [dot, if_neg ha, if_neg hb, if_pos hc]

theorem dot_general (a b : Mat S) (ha : ¬(a.h = 1 ∧ a.w = 1)) (hb : ¬(b.h = 1 ∧ b.w = 1))
    (hc : a.w = b.h) :
    dot a b = .ok (Mat.tab a.h b.w fun i j => sumFrom 0 0 a.w fun k => a.get i k * b.get k j) := by
  rw [dot, if_neg ha, if_neg hb, if_neg (not_not.mpr hc)]

theorem mulOp_eq (a b : Mat S) : mulOp a b =
    if a.h = 1 ∧ a.w = 1 then Mat.tab b.h b.w fun i j => a.get 0 0 * b.get i j
    else if b.h = 1 ∧ b.w = 1 then Mat.tab a.h a.w fun i j => b.get 0 0 * a.get i j
    else if a.w ≠ b.h then ⟨0, 0, #[]⟩
    else Mat.tab a.h b.w fun i j => sumFrom 0 0 a.w fun k => a.get i k * b.get k j := by
  unfold mulOp dot
  split_ifs <;> rfl

theorem mulOp_WF (a b : Mat S) : (mulOp a b).WF := by
  rw [mulOp_eq]
  split_ifs
  exacts [Mat.tab_WF _ _ _, Mat.tab_WF _ _ _, rfl, Mat.tab_WF _ _ _]

theorem mulOp_of_ok {a b m : Mat S} (h : dot a b = .ok m) : mulOp a b = m := by
  rw [mulOp, h]

/-- the `*` operator on conforming operands is the checked product (no silent empty array); on the
two 1×1 shortcuts `a.w = b.h = 1`, so the shape is that of the general branch -/
theorem mulOp_conform (a b : Mat S) (hc : a.w = b.h) :
    dot a b = .ok (mulOp a b) ∧ (mulOp a b).h = a.h ∧ (mulOp a b).w = b.w ∧ (mulOp a b).WF := by
  by_cases ha : a.h = 1 ∧ a.w = 1
  · have h := dot_left_scalar a b ha
    rw [mulOp_of_ok h]
    exact ⟨h, by rw [Mat.tab_h, ← hc, ha.2, ha.1], rfl, Mat.tab_WF _ _ _⟩
  · by_cases hb : b.h = 1 ∧ b.w = 1
    · have h := dot_right_scalar a b ha hb
      rw [mulOp_of_ok h]
      exact ⟨h, rfl, by rw [Mat.tab_w, hc, hb.1, hb.2], Mat.tab_WF _ _ _⟩
    · have h := dot_general a b ha hb hc
      rw [mulOp_of_ok h]
      exact ⟨h, rfl, rfl, Mat.tab_WF _ _ _⟩

theorem dot_conforming_ok (a b : Mat S) (hc : a.w = b.h) : ∃ m, dot a b = .ok m :=
  ⟨_, (mulOp_conform a b hc).1⟩

end anyScalar

section smul
variable {S : Type} [Inhabited S] [Mul S]

@[simp] theorem smul_h (m : Mat S) (c : S) : (smul m c).h = m.h := rfl
@[simp] theorem smul_w (m : Mat S) (c : S) : (smul m c).w = m.w := rfl

theorem smul_WF (m : Mat S) (c : S) : (smul m c).WF := Mat.tab_WF _ _ _

theorem get_smul (m : Mat S) (c : S) {i j : Nat} (hi : i < m.h) (hj : j < m.w) :
    (smul m c).get i j = m.get i j * c := Mat.get_tab _ hi hj

theorem smul_tab (h w : Nat) (f : Nat → Nat → S) (c : S) :
    smul (Mat.tab h w f) c = Mat.tab h w fun i j => f i j * c :=
  Mat.tab_congr fun _ _ (hi : _ < h) (hj : _ < w) => by rw [Mat.get_tab f hi hj]

theorem smul_empty (c : S) : smul (⟨0, 0, #[]⟩ : Mat S) c = ⟨0, 0, #[]⟩ := by
  simp [smul, Mat.tab]

theorem smul_a (m : Mat S) (c : S) (hm : m.WF) : (smul m c).a = m.a.map (· * c) := by
  have hm' : m.a.size = m.h * m.w := hm
  apply Array.ext
  · simp [smul, Mat.tab, hm']
  · intro k hk1 hk2
    have hk : k < m.a.size := by simpa using hk2
    simp only [smul, Mat.tab, Array.getElem_ofFn, Array.getElem_map, Mat.get,
      Nat.div_add_mod' k m.w, Array.getD_eq_getD_getElem?, Array.getElem?_eq_getElem hk,
      Option.getD_some]

end smul

variable {R : Type} [CommSemiring R] [Inhabited R]

/-- `smul` has the scalar on the right -/
theorem toMatrix_smul (M : Mat R) (c : R) {m n : Nat} (hm : m ≤ M.h) (hn : n ≤ M.w) :
    (smul M c).toMatrix m n = c • M.toMatrix m n := by
  funext i j
  exact (get_smul M c (Nat.lt_of_lt_of_le i.isLt hm) (Nat.lt_of_lt_of_le j.isLt hn)).trans
    (mul_comm _ _)

/-- On the two 1×1 shortcuts `a.w = b.h = 1`: the sum has the single term the code computes (with
the factors in the other order on the right shortcut, hence commutativity). -/
theorem dot_eq_tab (a b m : Mat R) (hc : a.w = b.h) (hm : dot a b = .ok m) :
    m = Mat.tab a.h b.w fun i j => ∑ k ∈ range a.w, a.get i k * b.get k j := by
  by_cases ha : a.h = 1 ∧ a.w = 1
  · rw [dot_left_scalar a b ha, Except.ok.injEq] at hm
    rw [← hm, ← hc, ha.1, ha.2]
    refine Mat.tab_congr fun i j hi _ => ?_
    rw [Nat.lt_one_iff.mp hi, Finset.sum_range_one]
  · by_cases hb : b.h = 1 ∧ b.w = 1
    · rw [dot_right_scalar a b ha hb, Except.ok.injEq] at hm
      rw [← hm, hc, hb.1, hb.2]
      refine Mat.tab_congr fun i j _ hj => ?_
      rw [Nat.lt_one_iff.mp hj, Finset.sum_range_one, mul_comm]
    · rw [dot_general a b ha hb hc, Except.ok.injEq] at hm
      rw [← hm]
      exact Mat.tab_congr fun i j _ _ => sumFrom_zero _ _

/-- the conforming product denotes Mathlib's matrix product, at any names of the three dimensions -/
theorem dot_denotes {a b m : Mat R} {h k w : Nat} (ha : a.h = h ∧ a.w = k) (hb : b.h = k ∧ b.w = w)
    (hm : dot a b = .ok m) :
    m.HasShape h w ∧ m.toMatrix h w = a.toMatrix h k * b.toMatrix k w := by
  obtain ⟨rfl, rfl⟩ := ha
  obtain ⟨hc, rfl⟩ := hb
  rw [dot_eq_tab a b m hc.symm hm]
  refine ⟨Mat.tab_hasShape _ _ _, ?_⟩
  funext i j
  simp only [Mat.toMatrix, Matrix.mul_apply]
  rw [Mat.get_tab _ i.isLt j.isLt, Finset.sum_range]

/-- if every product of an entry of `A'` with an entry of `x'` is `c` times that of `A` and `x`,
then `A' * x' = (A * x)·c` — for all shapes (also through the 1×1 shortcuts and the silent empty
array of a shape mismatch) -/
theorem mulOp_scale (A A' x x' : Mat R) (c : R) (hAh : A'.h = A.h) (hAw : A'.w = A.w)
    (hxh : x'.h = x.h) (hxw : x'.w = x.w)
    (h : ∀ i k k' j, i < A.h → k < A.w → k' < x.h → j < x.w →
      A'.get i k * x'.get k' j = A.get i k * x.get k' j * c) :
    mulOp A' x' = smul (mulOp A x) c := by
  rw [mulOp_eq, mulOp_eq A x, hAh, hAw, hxh, hxw]
  by_cases ha : A.h = 1 ∧ A.w = 1
  · rw [if_pos ha, if_pos ha, smul_tab]
    exact Mat.tab_congr fun i j hi hj => h 0 0 i j (by omega) (by omega) hi hj
  rw [if_neg ha, if_neg ha]
  by_cases hb : x.h = 1 ∧ x.w = 1
  · rw [if_pos hb, if_pos hb, smul_tab]
    exact Mat.tab_congr fun i j hi hj => by
      rw [mul_comm, h i j 0 0 hi hj (by omega) (by omega), mul_comm (A.get i j)]
  rw [if_neg hb, if_neg hb]
  by_cases hc : A.w ≠ x.h
  · rw [if_pos hc, if_pos hc]
    exact (smul_empty c).symm
  rw [if_neg hc, if_neg hc, smul_tab]
  refine Mat.tab_congr fun i j hi hj => ?_
  rw [sumFrom_zero, sumFrom_zero, Finset.sum_mul]
  exact Finset.sum_congr rfl fun k hk =>
    h i k k j hi (mem_range.mp hk) (by rw [← not_not.mp hc]; exact mem_range.mp hk) hj

theorem mulOp_smul_left (A x : Mat R) (c : R) : mulOp (smul A c) x = smul (mulOp A x) c :=
  mulOp_scale A _ x x c rfl rfl rfl rfl fun i k k' j hi hk _ _ => by
    rw [get_smul A c hi hk, mul_right_comm]

theorem mulOp_smul_right (y z : Mat R) (c : R) : mulOp y (smul z c) = smul (mulOp y z) c :=
  mulOp_scale y y z _ c rfl rfl rfl rfl fun i k k' j _ _ hk hj => by
    rw [get_smul z c hk hj, mul_assoc]

end SV.C11
