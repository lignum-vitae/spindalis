import SV.Lemmas.C04
import Mathlib.MeasureTheory.Integral.IntervalIntegral.FundThmCalculus
/-!
The general form of "`analytical_integral` is the integral" for the sparse type; the theorems of
`SV.Props.C04` (positive bounds, real exponents) and `SV.Props.C04Natural` (all bounds, natural
exponents) are its two instances.
-/
namespace SV.C04
open SV SV.Poly SV.C03

/-- **`analytical_integral` of the sparse type is the integral** over every interval on which the
source can be differentiated term by term (each power of the variable is `0`, or `≥ 1`, or met away
from `0`), no exponent `-1`: the fundamental theorem of calculus applied to
`hasDerivAt_integInter`.  The integrand is the function `eval_univariate` computes (`evalUni_eq`). -/
theorem analytical_inter_eq_integral (p : IPoly ℝ) (hu : Usable p) (h1 : p.variables.length ≤ 1)
    (a b : ℝ) (hne : ∀ t ∈ p.terms, ∀ q, (uniVar p, q) ∈ t.vars → q + 1 ≠ 0)
    (hdom : ∀ x ∈ Set.uIcc a b, ∀ t ∈ p.terms, ∀ q, (uniVar p, q) ∈ t.vars → x ≠ 0 ∨ 1 ≤ q ∨ q = 0) :
    analytical Real.rpow (.inter p) a b = .ok (∫ x in a..b,
      polyVal Real.rpow (Function.update (valuation []) (uniVar p) x) p.terms) := by
  obtain ⟨hFn, hF1⟩ := integInter_uni hu h1
  have hFu := (integInter_wf p.terms (uniVar p) hu.1).1
  rw [intervalIntegral.integral_eq_sub_of_hasDerivAt
    (fun x hx => hasDerivAt_integInter _ _ x p.terms hu.1 hne (fun t ht q hq =>
      (hdom x hx t ht q hq).imp_right fun h => h.elim zero_le_one.trans (·.ge)))
    (ContinuousOn.intervalIntegrable fun x hx =>
      (hasDerivAt_partialDeriv _ _ x p.terms hu.1 (hdom x hx)).continuousAt.continuousWithinAt)]
  exact (analytical_eq_ok_iff Real.rpow _ a b _).2 ⟨.inter (integInter p.terms (uniVar p)), _, _,
    by rw [AnyPoly.integUni, integUni_eq p h1]; rfl,
    evalUni_eq Real.rpow _ hFu hF1 _ hFn a, evalUni_eq Real.rpow _ hFu hF1 _ hFn b, rfl⟩

end SV.C04
