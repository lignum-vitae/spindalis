import SV.Lemmas.C17Simple
/-!
Lemmas for the print / parse round trips of C17, part 3: `modelString`
(`LinearModel::to_polynomial_string`: ascending powers, signed `{:.5}` texts, the parts joined by
`" + "`, then `"+ -"` rewritten to `"- "`) against the univariate parser model `SV.C01.parse`.

For any well-formed term list the joined and rewritten parts are, up to white space, the rendering of
the terms (`stripWs_joined`).  An item without the sign of its text is an item of the polynomial printer
(`absItem`, `MItemOK.abs`) and is printed as the same term, so terms, values and the read-back vector are
those of `SV.Lemmas.C17Simple`.
-/
namespace SV.C17
open SV SV.Text SV.C01

theorem rpm_cons_ne {c : Char} (hc : c ≠ '+') (rest : List Char) :
    replacePlusMinus (c :: rest) = c :: replacePlusMinus rest := by
  rw [replacePlusMinus.eq_2]
  intro _ h _
  exact hc h

theorem rpm_append {a : List Char} (ha : '+' ∉ a) (rest : List Char) :
    replacePlusMinus (a ++ rest) = a ++ replacePlusMinus rest := by
  induction a with
  | nil => rfl
  | cons c a ih =>
    have hc : c ≠ '+' := by intro e; apply ha; simp [e]
    have ha' : '+' ∉ a := by intro e; apply ha; simp [e]
    rw [List.cons_append, rpm_cons_ne hc, ih ha', List.cons_append]

theorem rpm_plus_dash (rest : List Char) :
    replacePlusMinus ('+' :: ' ' :: '-' :: rest) = '-' :: ' ' :: replacePlusMinus rest :=
  replacePlusMinus.eq_1 rest

theorem rpm_plus_other {c : Char} (hc : c ≠ '-') (rest : List Char) :
    replacePlusMinus ('+' :: ' ' :: c :: rest) = '+' :: ' ' :: replacePlusMinus (c :: rest) := by
  rw [replacePlusMinus.eq_2, rpm_cons_ne (by decide)]
  intro r _ h
  simp only [List.cons.injEq, true_and] at h
  exact hc h.1

theorem intercalate_cons (sep p : List Char) (ps : List (List Char)) :
    sep.intercalate (p :: ps) = p ++ ps.flatMap fun q => sep ++ q := by
  induction ps generalizing p with
  | nil => simp [List.intercalate]
  | cons q qs ih =>
    have := ih q
    simp only [List.intercalate, List.intersperse_cons_cons, List.flatten_cons, List.flatMap_cons] at this ⊢
    rw [this]
    simp

theorem rpm_tail {cap : Nat} {v : Char} (hv : VarOK v) (ts : List TermSyn) (hts : WellFormed cap ts) :
    replacePlusMinus (ts.flatMap fun t => [' ', '+', ' '] ++ t.renderPart v) =
      ts.flatMap fun t => (if t.neg then [' ', '-', ' '] else [' ', '+', ' ']) ++ t.renderAbs v := by
  induction ts with
  | nil => rfl
  | cons t ts ih =>
    have ht : t.WF cap := hts t (by simp)
    have hts' : WellFormed cap ts := fun t' h' => hts t' (by simp [h'])
    have hplus := plus_not_mem_renderAbs ht hv
    have hdash := dash_not_mem_renderAbs ht hv
    rw [List.flatMap_cons, List.flatMap_cons, ← ih hts']
    unfold TermSyn.renderPart
    cases hn : t.neg with
    | true =>
      simp only [if_true, List.cons_append, List.nil_append]
      rw [rpm_cons_ne (by decide), rpm_plus_dash, rpm_append hplus]
    | false =>
      rcases ha : t.renderAbs v with _ | ⟨c, a⟩
      · exact absurd ha (renderAbs_ne_nil ht v)
      · have hc : c ≠ '-' := by
          intro e; apply hdash; rw [ha, e]; simp
        rw [ha] at hplus
        simp only [Bool.false_eq_true, if_false, List.cons_append, List.nil_append]
        rw [rpm_cons_ne (by decide), rpm_plus_other hc, ← List.cons_append, rpm_append hplus]
        rfl

theorem stripWs_renderPart {cc : CharClass} (hcc : cc.Sane) {cap : Nat} {v : Char}
    (hv : cc.isAlpha v = true) {t : TermSyn} (ht : t.WF cap) :
    stripWs cc (t.renderPart v) = t.renderPart v := by
  unfold TermSyn.renderPart
  rw [stripWs_append, stripWs_renderAbs hcc hv ht]
  congr 1
  cases t.neg
  · rfl
  · simp [stripWs, hcc.sym_not_ws.2.2.1]

theorem stripWs_tail {cc : CharClass} (hcc : cc.Sane) (hsp : cc.isWs ' ' = true) {cap : Nat}
    {v : Char} (hv : cc.isAlpha v = true) (ts : List TermSyn) (hts : WellFormed cap ts) :
    stripWs cc (ts.flatMap fun t =>
        (if t.neg then [' ', '-', ' '] else [' ', '+', ' ']) ++ t.renderAbs v) = renderTail v ts := by
  rw [stripWs_flatMap]
  exact List.flatMap_congr fun t ht =>
    stripWs_operator hcc hsp t.neg (stripWs_renderAbs hcc hv (hts t ht))

/-- **For every well-formed term list**: the parts joined by `" + "`, after the `"+ -" → "- "` rewrite
and without white space, are the rendering of the terms. -/
theorem stripWs_joined {cc : CharClass} (hcc : cc.Sane) (hsp : cc.isWs ' ' = true) {cap : Nat}
    {v : Char} (hv : cc.isAlpha v = true) (t : TermSyn) (ts : List TermSyn)
    (hts : WellFormed cap (t :: ts)) :
    stripWs cc (replacePlusMinus ([' ', '+', ' '].intercalate ((t :: ts).map (TermSyn.renderPart v)))) =
      render v false (t :: ts) := by
  have ht : t.WF cap := hts t (by simp)
  have hts' : WellFormed cap ts := fun t' h' => hts t' (by simp [h'])
  have hvok := VarOK.of_alpha hcc hv
  rw [List.map_cons, intercalate_cons, List.flatMap_map, rpm_append (plus_not_mem_renderPart ht hvok),
    rpm_tail hvok ts hts', stripWs_append, stripWs_renderPart hcc hv ht, stripWs_tail hcc hsp hv ts hts',
    render_cons, if_neg Bool.false_ne_true]
  rfl

def absText (it : Item) : List Char := if it.sign = .neg then it.text.drop 1 else it.text

/-- **formatter hypothesis for a signed text** (`{:.5}` of the value): a `-` exactly if the number is
negative, then a plain decimal spelling with an integer digit -/
def SignedSpelled (it : Item) : Prop :=
  ∃ b, IsSpelling b ∧ it.text = (if it.sign = .neg then ['-'] else []) ++ b

theorem SignedSpelled.absText {it : Item} (h : SignedSpelled it) :
    IsSpelling (absText it) ∧ it.text = (if it.sign = .neg then ['-'] else []) ++ absText it := by
  obtain ⟨b, hb, ht⟩ := h
  have : C17.absText it = b := by
    unfold C17.absText
    rw [ht]
    split <;> rfl
  rw [this]
  exact ⟨hb, ht⟩

instance (it : Item) : Decidable (SignedSpelled it) :=
  decidable_of_iff _ ⟨fun h => ⟨_, h.1, h.2⟩, SignedSpelled.absText⟩

/-- the item as the polynomial printer would get it: the sign class apart, the text of the magnitude -/
def absItem (it : Item) : Item := ⟨it.sign, it.isOne, absText it⟩

def mtermOf (p : Nat × Item) : TermSyn := termOf false (p.1, absItem p.2)

/-- the part of the model string for one item, as the model computes it -/
def partOf (p : Nat × Item) : List Char :=
  match p.1 with
  | 0 => p.2.text
  | 1 => if p.2.isOne then (if p.2.sign = .neg then "-x".toList else "x".toList) else p.2.text ++ ['x']
  | _ => if p.2.isOne then (if p.2.sign = .neg then "-x^".toList else "x^".toList) ++ natText p.1
         else p.2.text ++ "x^".toList ++ natText p.1

theorem filterMap_printed {α : Type} (f : Nat × Item → α) (l : List (Nat × Item)) :
    (l.filterMap fun p => if p.2.sign = .zero then none else some (f p)) = (printed l).map f := by
  induction l with
  | nil => rfl
  | cons p l ih =>
    by_cases hz : p.2.sign = .zero
    · rw [List.filterMap_cons, if_pos hz, printed_cons_zero l hz, ih]
    · rw [List.filterMap_cons, if_neg hz, printed_cons_nonzero l hz, ih, List.map_cons]

theorem modelString_eq (items : List Item) :
    modelString items =
      if (printed (pairs items)).map partOf = [] then ['0']
      else replacePlusMinus ([' ', '+', ' '].intercalate ((printed (pairs items)).map partOf)) := by
  rw [← filterMap_printed]
  rfl

/-- a part: the signed text, or only the sign for a unit coefficient above the constant; then the power -/
theorem partOf_factored (p : Nat × Item) :
    partOf p = (if !p.2.isOne ∨ p.1 = 0 then p.2.text else if p.2.sign = .neg then ['-'] else []) ++
      (bodyOf p.1).render 'x' := by
  obtain ⟨i, s, o, t⟩ := p
  cases o
  · rcases i with _ | _ | i
    · exact (List.append_nil t).symm
    · rfl
    · exact List.append_assoc ..
  · rcases i with _ | _ | i
    · exact (List.append_nil t).symm
    · cases s <;> rfl
    · cases s <;> rfl

theorem partOf_eq {p : Nat × Item} (h : SignedSpelled p.2) :
    partOf p = (mtermOf p).renderPart 'x' := by
  obtain ⟨hb, ht⟩ := h.absText
  rw [partOf_factored]
  unfold TermSyn.renderPart TermSyn.renderAbs
  rw [← List.append_assoc]
  congr 1
  show _ = (if decide (p.2.sign = .neg) then ['-'] else []) ++
    renderCoef (if !p.2.isOne ∨ p.1 = 0 then some (udecOf (absText p.2)) else none)
  simp only [decide_eq_true_eq]
  split
  · rw [renderCoef, hb.udecOf.2.2]; exact ht
  · exact (List.append_nil _).symm

def modelTerms (items : List Item) : List TermSyn :=
  orZero ((printed (pairs items)).map mtermOf)

def ItemsSignedSpelled (items : List Item) : Prop :=
  ∀ it ∈ items, it.sign ≠ .zero → SignedSpelled it

theorem goodPair_abs {cap : Nat} {items : List Item} (hlen : items.length ≤ cap + 1)
    (h : ItemsSignedSpelled items) {p : Nat × Item} (hp : p ∈ printed (pairs items)) :
    GoodPair cap (p.1, absItem p.2) := by
  obtain ⟨hmem, hz⟩ := mem_printed.1 hp
  obtain ⟨h1, h2⟩ := of_mem_pairs hmem
  exact ⟨hz, by omega, (h p.2 h2 hz).absText.1⟩

theorem modelTerms_wf {cap : Nat} {items : List Item} (hlen : items.length ≤ cap + 1)
    (h : ItemsSignedSpelled items) : WellFormed cap (modelTerms items) := by
  refine orZero_wf fun t ht => ?_
  obtain ⟨p, hp, rfl⟩ := List.mem_map.1 ht
  exact (goodPair_abs hlen h hp).wf false

theorem stripWs_modelString {cc : CharClass} (hcc : cc.Sane) (hsp : cc.isWs ' ' = true) {cap : Nat}
    (hx : cc.isAlpha 'x' = true) {items : List Item} (hlen : items.length ≤ cap + 1)
    (h : ItemsSignedSpelled items) :
    stripWs cc (modelString items) = render 'x' false (modelTerms items) := by
  have hwf := modelTerms_wf hlen h
  have hparts : (printed (pairs items)).map partOf =
      ((printed (pairs items)).map mtermOf).map (TermSyn.renderPart 'x') := by
    rw [List.map_map]
    exact List.map_congr_left fun p hp =>
      partOf_eq (h p.2 (of_mem_pairs (mem_printed.1 hp).1).2 (mem_printed.1 hp).2)
  rw [modelString_eq, hparts]
  unfold modelTerms at hwf ⊢
  generalize (printed (pairs items)).map mtermOf = l at hwf
  rcases l with _ | ⟨t, ts⟩
  · exact stripWs_zero hcc
  · rw [List.map_cons, if_neg (List.cons_ne_nil _ _), ← List.map_cons]
    exact stripWs_joined hcc hsp hx t ts hwf

def rvM (p : Nat × Item) : ℚ := rv (p.1, absItem p.2)

def readBackM (items : List Item) (k : Nat) : ℚ := readWith rvM items k

theorem modelTerms_sum {cap : Nat} {items : List Item} (hlen : items.length ≤ cap + 1)
    (h : ItemsSignedSpelled items) (k : Nat) :
    (((modelTerms items).filter fun t => decide (t.pow = k)).map TermSyn.value).sum =
      readBackM items k := by
  unfold modelTerms
  rw [orZero_sum, sum_pow (f := mtermOf) (g := rvM) (fun p => termOf_pow false _)
      (fun p hz => by simp [rvM, rv, absItem, hz]) k _ fun p hp =>
      have hg := goodPair_abs hlen h hp
      termOf_value false hg.1 hg.2.2,
    pairs_sum]
  rfl

/-- **Formatter hypothesis for one coefficient of a fitted model**: sign class and unit flag as in the
code (`coef == 0.0` skipped, `coef == ±1.0` elided), and for `c ≠ 0` the text is `-` (iff `c < 0`)
followed by a plain decimal spelling within half a unit of the `d`-th decimal of `|c|` (the code prints
`{:.5}`) -/
structure MItemOK (d : Nat) (it : Item) (c : ℚ) : Prop where
  sign : it.sign = signOfQ c
  one : it.isOne = true → |c| = 1
  spelled : c ≠ 0 → SignedSpelled it
  value : c ≠ 0 → |textValue (absText it) - abs c| ≤ 1 / 2 * (1 / 10 : ℚ) ^ d

instance (d : Nat) (it : Item) (c : ℚ) : Decidable (MItemOK d it c) :=
  decidable_of_iff (it.sign = signOfQ c ∧ (it.isOne = true → |c| = 1) ∧ (c ≠ 0 → SignedSpelled it) ∧
      (c ≠ 0 → |textValue (absText it) - abs c| ≤ 1 / 2 * (1 / 10 : ℚ) ^ d))
    ⟨fun ⟨h1, h2, h3, h4⟩ => ⟨h1, h2, h3, h4⟩, fun ⟨h1, h2, h3, h4⟩ => ⟨h1, h2, h3, h4⟩⟩

def MItemsOK (d : Nat) (items : List Item) (cs : List ℚ) : Prop :=
  items.length = cs.length ∧ ∀ k it, items[k]? = some it → MItemOK d it (cs.getD k 0)

theorem MItemsOK.nil (d : Nat) : MItemsOK d [] [] :=
  ⟨rfl, fun _ _ hk => nomatch hk⟩

theorem MItemsOK.cons {d : Nat} {it : Item} {c : ℚ} {items : List Item} {cs : List ℚ}
    (h : MItemOK d it c) (hs : MItemsOK d items cs) : MItemsOK d (it :: items) (c :: cs) :=
  ⟨congrArg Nat.succ hs.1, pointwise_cons h hs.2⟩

theorem MItemsOK.of_forall₂ {d : Nat} {items : List Item} {cs : List ℚ}
    (h : List.Forall₂ (MItemOK d) items cs) : MItemsOK d items cs := by
  induction h with
  | nil => exact .nil _
  | cons h _ ih => exact .cons h ih

theorem MItemsOK.spelled {d : Nat} {items : List Item} {cs : List ℚ}
    (h : MItemsOK d items cs) : ItemsSignedSpelled items := by
  intro it hit hz
  obtain ⟨c, hok⟩ := pointwise_mem h.2 hit
  exact hok.spelled fun hc => hz (hok.sign.trans (signOfQ_zero.2 hc))

/-- without its sign, the item of a model string is the item the polynomial printer gets under `{:.d}` -/
theorem MItemOK.abs {d : Nat} {it : Item} {c : ℚ} (h : MItemOK d it c) :
    ItemOK (some d) (absItem it) c :=
  ⟨h.sign, h.one, fun hc => (h.spelled hc).absText.1, h.value⟩

theorem readBackM_close {items : List Item} {cs : List ℚ} {d : Nat} (h : MItemsOK d items cs)
    (k : Nat) : Close (some d) (readBackM items k) (cs.getD k 0) :=
  readWith_close h.1 (fun k it hk => (h.2 k it hk).abs.rv_close k) k

end SV.C17
