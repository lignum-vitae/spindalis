import SV.Model.Poly
import SV.Lemmas.Rounding
/-!
`SV.Poly` at the rounding scalar `Fl M`.  The square-and-multiply loop of `f64::powi` computes
`x^k · t` where `t` is a product of **exactly `k`** rounding factors (`powiLoop_fac`): each squaring
`a ← a·a` commits one rounding, but that factor is itself squared by the later squarings; with the
roundings of the multiplications into the result the count for the exponent `b = 2q + e` obeys
`L(b) = e + q + L(q)`, `L(0) = 0`, whose solution is `L(b) = b`.  The loop performs only about
`2·log₂ k` multiplications, yet its worst-case relative error is the `γ_k` of repeated
multiplication — the model charges `1·a` one rounding, IEEE would give `γ_{k-1}`.
-/
namespace SV.Poly
open SV Finset

variable {M : FlModel}

theorem powiLoop_fac (fuel : ℕ) (a : Fl M) (b : ℕ) (r : Fl M) (hf : b < fuel) :
    ∃ t, M.Fac b t ∧ (powiLoop fuel a b r).val = r.val * a.val ^ b * t := by
  induction fuel generalizing a b r with
  | zero => omega
  | succ fuel ih =>
    unfold powiLoop
    simp only
    have hdecomp : b = 2 * (b / 2) + b % 2 := (Nat.div_add_mod b 2).symm
    have he : b % 2 < 2 := Nat.mod_lt _ (by omega)
    have hq : b / 2 ≤ b := Nat.div_le_self b 2
    generalize b / 2 = q at *
    generalize b % 2 = e at *
    subst hdecomp
    obtain ⟨d, hd, hmul⟩ := Fl.mul_fac r a
    by_cases h2 : q = 0
    · subst h2
      rw [if_pos rfl]
      by_cases hodd : e = 1
      · subst hodd
        rw [if_pos rfl]
        exact ⟨d, hd, by rw [hmul]; simp⟩
      · have h0 : e = 0 := by omega
        subst h0
        exact ⟨1, FlModel.fac_zero_one, by simp⟩
    · rw [if_neg h2]
      obtain ⟨s, hs, hsq⟩ := Fl.mul_fac a a
      by_cases hodd : e = 1
      · subst hodd
        rw [if_pos rfl]
        obtain ⟨t', ht', hv⟩ := ih (a * a) q (r * a) (by omega)
        refine ⟨d * s ^ q * t', ?_, ?_⟩
        · have := (hd.mul (hs.pow q)).mul ht'
          exact this.mono (by omega)
        · rw [hv, hmul, hsq]; ring
      · have h0 : e = 0 := by omega
        subst h0
        rw [if_neg (by omega)]
        obtain ⟨t', ht', hv⟩ := ih (a * a) q r (by omega)
        refine ⟨s ^ q * t', ?_, ?_⟩
        · have := (hs.pow q).mul ht'
          exact this.mono (by omega)
        · rw [hv, hsq]; ring

theorem powi_nat_fac (x : Fl M) (k : ℕ) :
    ∃ t, M.Fac k t ∧ (powi x (k : Int)).val = x.val ^ k * t := by
  unfold powi
  simp only [Int.natAbs_natCast]
  have hneg : ¬ ((k : Int) < 0) := by omega
  rw [if_neg hneg]
  obtain ⟨t, ht, hv⟩ := powiLoop_fac (k + 1) x k 1 (Nat.lt_succ_self k)
  exact ⟨t, ht, by rw [hv]; simp⟩

theorem term_fac (c x : Fl M) (k : ℕ) :
    ∃ t, M.Fac (k + 1) t ∧ (c * powi x (k : Int)).val = c.val * x.val ^ k * t := by
  obtain ⟨p, hp, hpow⟩ := powi_nat_fac x k
  obtain ⟨m, hm, hmul⟩ := Fl.mul_fac c (powi x (k : Int))
  exact ⟨p * m, hp.mul hm, by rw [hmul, hpow]; ring⟩

/-- The loop of `eval_simple_polynomial` from accumulator `acc` and first exponent `k`:
`acc·t₀ + Σ cᵢ·x^{k+i}·tᵢ`.  Term `i` carries `k + i` roundings from `powi`, one from the
multiplication by the coefficient and `len − i` from the additions: `k + len + 1` in all,
independently of `i`. -/
theorem evalSimpleFrom_weights (x : Fl M) (cs : List (Fl M)) (k : ℕ) (acc : Fl M) :
    ∃ t0 : ℝ, ∃ t : ℕ → ℝ, M.Fac cs.length t0 ∧
      (∀ i, i < cs.length → M.Fac (k + cs.length + 1) (t i)) ∧
      (evalSimpleFrom x k cs acc).val
        = acc.val * t0 + ∑ i ∈ range cs.length, (cs.getD i 0).val * x.val ^ (k + i) * t i := by
  induction cs generalizing k acc with
  | nil =>
    exact ⟨1, fun _ => 1, FlModel.fac_zero_one, fun i hi => by simp at hi, by simp [evalSimpleFrom]⟩
  | cons c cs ih =>
    obtain ⟨p, hp, hterm⟩ := term_fac c x k
    obtain ⟨d, hd, hadd⟩ := Fl.add_fac acc (c * powi x (k : Int))
    obtain ⟨t0, t, ht0, ht, hval⟩ := ih (k + 1) (acc + c * powi x (k : Int))
    refine ⟨d * t0, fun i => match i with | 0 => p * d * t0 | i + 1 => t i, ?_, ?_, ?_⟩
    · rw [List.length_cons, Nat.add_comm]; exact hd.mul ht0
    · intro i hi
      cases i with
      | zero =>
        simp only [List.length_cons]
        exact ((hp.mul hd).mul ht0).mono (by omega)
      | succ i =>
        simp only [List.length_cons]
        exact (ht i (by simpa using hi)).mono (by omega)
    · rw [evalSimpleFrom, hval, hadd, hterm, List.length_cons, Finset.sum_range_succ']
      simp only [List.getD_cons_succ, List.getD_cons_zero, Nat.add_zero]
      have hidx : ∀ i, k + 1 + i = k + (i + 1) := fun i => by omega
      simp only [hidx]
      ring

/-- `evalSimple` at `Fl M` is `Σ_k c_k·x^k·t_k`, every `t_k` a product of at most `len + 1` rounding
factors -/
theorem evalSimple_weights (cs : List (Fl M)) (x : Fl M) :
    ∃ t : ℕ → ℝ, (∀ k, k < cs.length → M.Fac (cs.length + 1) (t k)) ∧
      (evalSimple cs x).val = ∑ k ∈ range cs.length, (cs.getD k 0).val * x.val ^ k * t k := by
  obtain ⟨t0, t, _, ht, hval⟩ := evalSimpleFrom_weights x cs 0 (0 : Fl M)
  refine ⟨t, fun k hk => by simpa using ht k hk, ?_⟩
  unfold evalSimple
  rw [hval]
  simp

theorem evalSimple_const (c x : Fl M) : evalSimple [c] x = 0 + c * 1 := rfl

end SV.Poly
