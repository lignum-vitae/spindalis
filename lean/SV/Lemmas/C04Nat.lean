import SV.Lemmas.C03
import SV.Lemmas.C04
import Mathlib.Algebra.Order.Floor.Semiring
/-!
Helper lemmas for the "natural domain" extension of C03 / C04 (`SV.Props.C03Natural`,
`SV.Props.C04Natural`): sparse polynomials all of whose exponents (of the variable of interest) are
natural numbers, analysed on the whole real line — at `0`, at negative points, on intervals containing
`0` — where `SV.Props.C03.inter_deriv_correct` / `SV.Props.C04.analytical_is_integral_inter` assume
`x ≠ 0` (or a power `≥ 1`) resp. positive bounds.  A natural power is `0` or `≥ 1`, which is what the
power rule of `SV.Lemmas.C03` asks for at `0`; its integral has powers `≥ 1`.
-/
namespace SV.C04Nat
open SV SV.Poly SV.C03 SV.C04

/-- every power the variable `v` carries in the term list is a natural number (as a real) -/
def NatIn (ts : List (Term ℝ)) (v : String) : Prop :=
  ∀ t ∈ ts, ∀ q, (v, q) ∈ t.vars → ∃ n : ℕ, q = n

/-- every power of every variable in the term list is a natural number (as a real) -/
def NatAll (ts : List (Term ℝ)) : Prop :=
  ∀ t ∈ ts, ∀ w q, (w, q) ∈ t.vars → ∃ n : ℕ, q = n

/-- the theorems of `SV.Props.C03Natural` / `C04Natural` spell these predicates out -/
theorem natIn_iff {ts : List (Term ℝ)} {v : String} :
    NatIn ts v ↔ ∀ t ∈ ts, ∀ q, (v, q) ∈ t.vars → ∃ n : ℕ, q = n := Iff.rfl

theorem natAll_iff {ts : List (Term ℝ)} :
    NatAll ts ↔ ∀ t ∈ ts, ∀ w q, (w, q) ∈ t.vars → ∃ n : ℕ, q = n := Iff.rfl

theorem NatAll.natIn {ts : List (Term ℝ)} (h : NatAll ts) (v : String) : NatIn ts v :=
  fun t ht q hq => h t ht v q hq

theorem natIn_dom {ts : List (Term ℝ)} {v : String} (h : NatIn ts v) (x : ℝ) :
    ∀ t ∈ ts, ∀ p, (v, p) ∈ t.vars → x ≠ 0 ∨ 1 ≤ p ∨ p = 0 := by
  intro t ht p hp
  obtain ⟨n, rfl⟩ := h t ht p hp
  cases n with
  | zero => exact Or.inr (Or.inr Nat.cast_zero)
  | succ n => exact Or.inr (Or.inl (Nat.one_le_cast.2 (Nat.succ_pos n)))

theorem natIn_ne {ts : List (Term ℝ)} {v : String} (hnat : NatIn ts v) :
    ∀ t ∈ ts, ∀ q, (v, q) ∈ t.vars → q + 1 ≠ 0 := by
  intro t ht q hq
  obtain ⟨n, rfl⟩ := hnat t ht q hq
  exact Nat.cast_add_one_ne_zero n

theorem integInter_natIn {v : String} {ts : List (Term ℝ)} (hwf : TermsWF ts) (hnat : NatIn ts v)
    {t' : Term ℝ} (h : t' ∈ (integInter ts v).terms) {q : ℝ} (hq : (v, q) ∈ t'.vars) :
    ∃ n : ℕ, q = n ∧ 1 ≤ n := by
  obtain ⟨t, ht, ⟨p, hp, rfl⟩ | ⟨_, rfl⟩⟩ := integInter_power hwf h hq
  · obtain ⟨n, rfl⟩ := hnat t ht p hp
    exact ⟨n + 1, (Nat.cast_succ n).symm, Nat.succ_pos n⟩
  · exact ⟨1, Nat.cast_one.symm, le_refl _⟩

theorem integInter_natAll {v : String} {ts : List (Term ℝ)} (hwf : TermsWF ts) (hnat : NatAll ts) :
    NatAll (integInter ts v).terms := by
  intro t' ht' w q hq
  by_cases hw : w = v
  · subst hw
    obtain ⟨n, hn, _⟩ := integInter_natIn hwf (hnat.natIn w) ht' hq
    exact ⟨n, hn⟩
  · obtain ⟨t, ht, hq'⟩ := integInter_other ht' hw hq
    exact hnat t ht w q hq'

theorem hasDerivAt_integInter_natural (σ : String → ℝ) (v : String) (x : ℝ) (ts : List (Term ℝ))
    (hwf : TermsWF ts) (hnat : NatIn ts v) :
    HasDerivAt (fun t => polyVal Real.rpow (Function.update σ v t) (integInter ts v).terms)
      (polyVal Real.rpow (Function.update σ v x) ts) x :=
  hasDerivAt_integInter σ v x ts hwf (natIn_ne hnat) (fun t ht q hq => by
    obtain ⟨n, rfl⟩ := hnat t ht q hq
    exact Or.inr n.cast_nonneg)

theorem varsVal_eq_zero_of_factor (σ : String → ℝ) {vs : List (String × ℝ)} {v : String} {q : ℝ}
    (hq : (v, q) ∈ vs) (hσ : σ v = 0) (hne : q ≠ 0) : varsVal Real.rpow σ vs = 0 :=
  List.prod_eq_zero (List.mem_map.2 ⟨(v, q), hq, by rw [hσ]; exact Real.zero_rpow hne⟩)

/-- zero constant of integration, as a value: with natural powers of `v`, the integral vanishes
where `v = 0` -/
theorem polyVal_integInter_zero (σ : String → ℝ) {v : String} {ts : List (Term ℝ)} (hwf : TermsWF ts)
    (hnat : NatIn ts v) (hσ : σ v = 0) : polyVal Real.rpow σ (integInter ts v).terms = 0 := by
  refine List.sum_eq_zero (fun y hy => ?_)
  obtain ⟨t', ht', rfl⟩ := List.mem_map.1 hy
  obtain ⟨q, hq⟩ := mem_names.1 (integInter_mem_var ht')
  obtain ⟨n, rfl, hn⟩ := integInter_natIn hwf hnat ht' hq
  rw [termVal, varsVal_eq_zero_of_factor σ hq hσ (Nat.cast_ne_zero.2 (Nat.pos_iff_ne_zero.1 hn)),
    mul_zero]

/-- on natural exponents the real power is the ordinary power: the value of a term list all of whose
names are `v`, with `v ↦ x`, is `Σ c · Π x^n` -/
theorem polyVal_natural_eq_pow (σ : String → ℝ) (v : String) (x : ℝ) {ts : List (Term ℝ)}
    (hnames : ∀ w ∈ termNames ts, w = v) (hnat : NatAll ts) :
    polyVal Real.rpow (Function.update σ v x) ts
      = (ts.map fun t => t.coef * (t.vars.map fun vp => x ^ ⌊vp.2⌋₊).prod).sum := by
  unfold polyVal
  congr 1
  apply List.map_congr_left
  intro t ht
  unfold termVal varsVal
  congr 2
  apply List.map_congr_left
  rintro ⟨w, q⟩ hvp
  obtain ⟨n, rfl⟩ := hnat t ht w q hvp
  rw [hnames w (mem_termNames.2 ⟨t, ht, mem_names.2 ⟨_, hvp⟩⟩), Function.update_self,
    Nat.floor_natCast]
  exact Real.rpow_natCast x n

/-- the integration variable `indefinite_integral_univariate` chooses (the listed variable, `"x"` for a
constant polynomial), what it returns, and that the result is again usable with at most one variable
whose names all are that variable.  (`Usable p ∧ p.variables.length ≤ 1` is `SV.Props.C03.UniOK p`.) -/
theorem uni_var (p : IPoly ℝ) (h : Usable p ∧ p.variables.length ≤ 1) :
    ∃ v, (∀ w ∈ termNames p.terms, w = v) ∧ integUni p = .ok (integInter p.terms v) ∧
      (Usable (integInter p.terms v) ∧ (integInter p.terms v).variables.length ≤ 1) ∧
      (∀ w ∈ termNames (integInter p.terms v).terms, w = v) :=
  ⟨uniVar p, eq_uniVar h.1 h.2, integUni_eq p h.2,
    ⟨(integInter_wf p.terms _ h.1.1).1, (integInter_uni h.1 h.2).2⟩, (integInter_uni h.1 h.2).1⟩

/-- `"3x^2 - x + 2"` as `IntermediatePolynomial::parse` returns it -/
noncomputable def quad : IPoly ℝ := ⟨[⟨3, [("x", 2)]⟩, ⟨-1, [("x", 1)]⟩, ⟨2, []⟩], ["x"]⟩

/-- it is usable with one variable (`SV.Props.C03.UniOK quad`, unfolded) -/
theorem quad_usable : Usable quad ∧ quad.variables.length ≤ 1 := ⟨by decide, Nat.le_refl 1⟩

theorem quad_natural : NatAll quad.terms := by
  intro t ht w q hq
  simp only [quad, List.mem_cons, List.not_mem_nil, or_false] at ht
  rcases ht with rfl | rfl | rfl
  · exact ⟨2, by rw [(Prod.mk.inj (List.mem_singleton.1 hq)).2, Nat.cast_ofNat]⟩
  · exact ⟨1, by rw [(Prod.mk.inj (List.mem_singleton.1 hq)).2, Nat.cast_one]⟩
  · exact absurd hq List.not_mem_nil

end SV.C04Nat
