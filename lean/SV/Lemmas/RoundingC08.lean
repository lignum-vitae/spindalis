import SV.Model.Subst
import SV.Lemmas.Subst
import SV.Lemmas.RoundingDot
/-!
The substitution loops of `SV.Model.Subst` (`back_substitution`, `forward_substitution`), in two steps:

* **for every scalar type** (`backCore_eqns`, `fwdCore_eqns`): the returned vector satisfies *literally*
  the assignments the code executed, written in terms of the returned vector itself,
  `x[i] = (b[i] − sumFrom 0 (i+1) n (a[i][j]*x[j])) / a[i][i]` resp. `… sumFrom 0 0 i …` (row `i` is
  written once, from entries that are final by then), the last row of the backward sweep being
  `x[n−1] = b[n−1]/a[n−1][n−1]`;
* **at the rounding scalar `Fl M`** (`backCore_row_weights`, `fwdCore_row_weights`): each of these
  assignments, read in the standard model (`SV.sub_dot_div_weights`), is a row equation that holds
  **exactly** with relatively perturbed matrix entries — two roundings on the diagonal (the
  subtraction and the division, moved to the left-hand side), `n − j + 1` resp. `i − j + 1` in column
  `j`, one in the last row of the backward sweep (Higham, *Accuracy and Stability*, (8.2)).
-/
namespace SV.Subst
open SV Finset

variable {M : FlModel}

theorem backCore_row_weights (U : Mat (Fl M)) (n : ℕ) (b sol : Array (Fl M)) (hn : 0 < n)
    (hs : n ≤ sol.size) (hd : ∀ i, i < n → (U.get i i).val ≠ 0) {i : ℕ} (hi : i < n) :
    ∃ t : ℕ → ℝ, M.Fac 2 (t i) ∧ (∀ j, i < j → j < n → M.Fac (n - j + 1) (t j)) ∧
      (vget b i).val
        = ∑ j ∈ Ico i n, (U.get i j).val * (vget (backCore U n b sol) j).val * t j := by
  obtain ⟨_, _, hlast, hrows⟩ := backCore_eqns U n b sol hn hs
  generalize backCore U n b sol = x at hlast hrows ⊢
  by_cases hil : i < n - 1
  · obtain ⟨t, h1, h2, h3⟩ := sub_dot_div_weights (i + 1) n i (Or.inl (Nat.lt_succ_self i))
      (vget b i) (vget x i) (U.get i i) (fun j => U.get i j) (fun j => vget x j) (hd i hi)
      (hrows i hil)
    refine ⟨t, h1, h2, ?_⟩
    rw [Finset.sum_eq_sum_Ico_succ_bot hi, h3]
    ring
  · obtain rfl : i = n - 1 := by omega
    obtain ⟨d, hd1, hdiv⟩ := Fl.div_fac (vget b (n - 1)) (U.get (n - 1) (n - 1))
    have hne := hd (n - 1) hi
    have hd0 : d ≠ 0 := hd1.pos.ne'
    refine ⟨fun _ => d⁻¹, hd1.inv.mono (by omega), fun j hj1 hj2 => by omega, ?_⟩
    rw [Finset.sum_eq_sum_Ico_succ_bot hi, Finset.Ico_eq_empty (by omega), Finset.sum_empty,
      add_zero, hlast, hdiv]
    field_simp

theorem fwdCore_row_weights (L : Mat (Fl M)) (n : ℕ) (b sol : Array (Fl M)) (hs : n ≤ sol.size)
    (hd : ∀ i, i < n → (L.get i i).val ≠ 0) {i : ℕ} (hi : i < n) :
    ∃ t : ℕ → ℝ, M.Fac 2 (t i) ∧ (∀ j, j < i → M.Fac (i - j + 1) (t j)) ∧
      (vget b i).val
        = ∑ j ∈ range (i + 1), (L.get i j).val * (vget (fwdCore L n b sol) j).val * t j := by
  obtain ⟨_, _, hrows⟩ := fwdCore_eqns L b sol n hs
  generalize fwdCore L n b sol = x at hrows ⊢
  obtain ⟨t, h1, h2, h3⟩ := sub_dot_div_weights 0 i i (Or.inr (le_refl i))
    (vget b i) (vget x i) (L.get i i) (fun j => L.get i j) (fun j => vget x j) (hd i hi)
    (hrows i hi)
  refine ⟨t, h1, fun j hj => h2 j (Nat.zero_le j) hj, ?_⟩
  rw [Finset.sum_range_succ, h3, Nat.Ico_zero_eq_range]
  ring

end SV.Subst
