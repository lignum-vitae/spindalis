import SV.Lemmas.C16Inter
import Mathlib.Algebra.BigOperators.Group.List.Basic
/-!
**Meaning of a term whose letters may repeat.**  For a written term `t`, `t.read` is what the parser
returns.  Its variable list has the names sorted, each once, and they are exactly the letters written;
it carries for each name the **sum** of the exponent values of the occurrences of that letter
(`read_exponent`); and for every power function that is additive in the exponent on a set `E` of
exponents closed under `+` that contains the written ones it gives the product
`Π_occurrences powf (value letter) exponent` — the conventional reading in which a repeated letter
multiplies (`read_prod`).
-/
namespace SV.C16Inter
open SV SV.Text SV.C02

/-- sum of the exponent values of the entries called `n` -/
def expOf (vars : List (String × Num)) (n : String) : ℚ :=
  ((vars.filter fun v => decide (v.1 = n)).map fun v => numVal v.2).sum

theorem expOf_nil (n : String) : expOf [] n = 0 := rfl

theorem expOf_cons (m : String) (e : Num) (rest : List (String × Num)) (n : String) :
    expOf ((m, e) :: rest) n = (if m = n then numVal e else 0) + expOf rest n := by
  unfold expOf
  by_cases h : m = n
  · simp [h]
  · simp [h]

theorem expOf_append (a b : List (String × Num)) (n : String) :
    expOf (a ++ b) n = expOf a n + expOf b n := by
  unfold expOf
  rw [List.filter_append, List.map_append, List.sum_append]

theorem expOf_addVar (vars : List (String × Num)) (name : String) (p : Num) (n : String) :
    expOf (addVar vars name p) n = expOf vars n + (if name = n then numVal p else 0) := by
  rcases addVar_cases vars name p with ⟨-, h⟩ | ⟨l₁, e, l₂, rfl, h⟩
  · rw [h, expOf_append, expOf_cons, expOf_nil, add_zero]
  · rw [h, expOf_append, expOf_append, expOf_cons, expOf_cons]
    by_cases hn : name = n
    · simp only [hn, if_true, numVal]; ring
    · simp only [hn, if_false]; ring

/-- sum of the exponent values of the written occurrences of the name `n` -/
def expoSum (fs : List Factor) (n : String) : ℚ :=
  ((fs.filter fun f => decide (String.singleton f.letter = n)).map Factor.expValue).sum

theorem expoSum_cons (f : Factor) (fs : List Factor) (n : String) :
    expoSum (f :: fs) n = (if String.singleton f.letter = n then f.expValue else 0) + expoSum fs n := by
  unfold expoSum
  by_cases h : String.singleton f.letter = n
  · simp [h]
  · simp [h]

theorem mergeFactors_cons (f : Factor) (fs : List Factor) (acc : List (String × Num)) :
    mergeFactors (f :: fs) acc = mergeFactors fs (addVar acc (String.singleton f.letter) f.num) := rfl

theorem expOf_mergeFactors (fs : List Factor) (acc : List (String × Num)) (n : String) :
    expOf (mergeFactors fs acc) n = expOf acc n + expoSum fs n := by
  induction fs generalizing acc with
  | nil => simp [mergeFactors, expoSum]
  | cons f fs ih =>
    rw [mergeFactors_cons, ih, expOf_addVar, expoSum_cons, numVal_factorNum]
    ring

theorem expOf_perm {a b : List (String × Num)} (h : a.Perm b) (n : String) : expOf a n = expOf b n := by
  unfold expOf
  exact ((h.filter _).map _).sum_eq

theorem expOf_not_mem {vars : List (String × Num)} {n : String} (h : n ∉ names vars) :
    expOf vars n = 0 := by
  induction vars with
  | nil => rfl
  | cons v vs ih =>
    obtain ⟨m, e⟩ := v
    simp only [names, List.map_cons, List.mem_cons, not_or] at h
    rw [expOf_cons, if_neg (fun e' => h.1 e'.symm), ih h.2, add_zero]

theorem expOf_of_mem {vars : List (String × Num)} (hnd : (names vars).Nodup) {n : String} {e : Num}
    (h : (n, e) ∈ vars) : expOf vars n = numVal e := by
  induction vars with
  | nil => cases h
  | cons v vs ih =>
    obtain ⟨m, e'⟩ := v
    simp only [names, List.map_cons, List.nodup_cons] at hnd
    rw [expOf_cons]
    rcases List.mem_cons.1 h with h | h
    · cases h
      rw [if_pos rfl, expOf_not_mem hnd.1, add_zero]
    · have hn : n ∈ names vs := List.mem_map.2 ⟨(n, e), h, rfl⟩
      have hmn : m ≠ n := fun e => hnd.1 (e ▸ hn)
      rw [if_neg hmn, ih hnd.2 h, zero_add]

theorem mem_names_mergeFactors (fs : List Factor) (acc : List (String × Num)) (n : String) :
    n ∈ names (mergeFactors fs acc) ↔ n ∈ names acc ∨ ∃ f ∈ fs, n = String.singleton f.letter := by
  induction fs generalizing acc with
  | nil => simp [mergeFactors]
  | cons f fs ih =>
    rw [mergeFactors_cons, ih, mem_names_addVar, or_assoc]
    simp only [List.mem_cons, exists_eq_or_imp]

theorem nodup_names_mergeFactors (fs : List Factor) (acc : List (String × Num))
    (h : (names acc).Nodup) : (names (mergeFactors fs acc)).Nodup := by
  induction fs generalizing acc with
  | nil => exact h
  | cons f fs ih => exact ih _ (nodup_names_addVar acc _ f.num h)

theorem read_vars_perm (t : TermSyn) : t.read.vars.Perm (mergeFactors t.factors []) :=
  List.mergeSort_perm _ _

theorem read_names_sorted (t : TermSyn) : (names t.read.vars).Pairwise (· ≤ ·) :=
  names_sorted_mergeSort _

theorem read_names_nodup (t : TermSyn) : (names t.read.vars).Nodup :=
  (names_perm_mergeSort _).symm.nodup (nodup_names_mergeFactors t.factors [] List.nodup_nil)

theorem mem_read_names (t : TermSyn) (n : String) :
    n ∈ names t.read.vars ↔ ∃ f ∈ t.factors, n = String.singleton f.letter := by
  have h1 : n ∈ names t.read.vars ↔ n ∈ names (mergeFactors t.factors []) :=
    ((read_vars_perm t).map _).mem_iff
  rw [h1, mem_names_mergeFactors t.factors [] n]
  simp [names]

theorem mem_variablesOf_read (ts : List TermSyn) (n : String) :
    n ∈ variablesOf (ts.map TermSyn.read) ↔
      ∃ t ∈ ts, ∃ f ∈ t.factors, n = String.singleton f.letter := by
  simp only [mem_variablesOf, List.mem_map, exists_exists_and_eq_and, mem_read_names]

/-- **Each name carries the sum of the exponents of its occurrences.** -/
theorem read_exponent {t : TermSyn} {n : String} {e : Num} (h : (n, e) ∈ t.read.vars) :
    numVal e = expoSum t.factors n := by
  rw [← expOf_of_mem (read_names_nodup t) h, expOf_perm (read_vars_perm t),
    expOf_mergeFactors, expOf_nil, zero_add]

theorem read_coef (t : TermSyn) : numVal t.read.coef = sgn t.neg * t.coef.value :=
  numVal_coefNum t.neg t.coef

def varsProd (powf : ℚ → ℚ → ℚ) (g : String → ℚ) (vars : List (String × Num)) : ℚ :=
  (vars.map fun v => powf (g v.1) (numVal v.2)).prod

/-- the same over the written factors, one factor of the product per occurrence -/
def factorsProd (powf : ℚ → ℚ → ℚ) (g : String → ℚ) (fs : List Factor) : ℚ :=
  (fs.map fun f => powf (g (String.singleton f.letter)) f.expValue).prod

/-- the power function is additive in the exponent, for exponents in `E`, at the value of every name -/
def Additive (powf : ℚ → ℚ → ℚ) (g : String → ℚ) (E : ℚ → Prop) : Prop :=
  ∀ n a b, E a → E b → powf (g n) (a + b) = powf (g n) a * powf (g n) b

theorem addVar_spec {powf : ℚ → ℚ → ℚ} {g : String → ℚ} {E : ℚ → Prop}
    (hE : ∀ a b, E a → E b → E (a + b)) (hadd : Additive powf g E) (name : String) (p : Num)
    (hp : E (numVal p)) (vars : List (String × Num)) (hv : ∀ v ∈ vars, E (numVal v.2)) :
    varsProd powf g (addVar vars name p) = varsProd powf g vars * powf (g name) (numVal p) ∧
      ∀ v ∈ addVar vars name p, E (numVal v.2) := by
  rcases addVar_cases vars name p with ⟨-, h⟩ | ⟨l₁, e, l₂, rfl, h⟩
  · rw [h]
    refine ⟨by simp [varsProd], fun w hw => ?_⟩
    rcases List.mem_append.1 hw with hw | hw
    · exact hv w hw
    · exact List.mem_singleton.1 hw ▸ hp
  · rw [h]
    have he : E (numVal e) := hv (name, e) (by simp)
    constructor
    · simp only [varsProd, List.map_append, List.map_cons, List.prod_append, List.prod_cons, numVal]
      rw [hadd name _ _ he hp]
      ring
    · intro w hw
      rcases List.mem_append.1 hw with hw | hw
      · exact hv w (by simp [hw])
      · rcases List.mem_cons.1 hw with rfl | hw
        · exact hE _ _ he hp
        · exact hv w (by simp [hw])

theorem mergeFactors_prod {powf : ℚ → ℚ → ℚ} {g : String → ℚ} {E : ℚ → Prop}
    (hE : ∀ a b, E a → E b → E (a + b)) (hadd : Additive powf g E) (fs : List Factor)
    (hfs : ∀ f ∈ fs, E f.expValue) (acc : List (String × Num)) (hacc : ∀ v ∈ acc, E (numVal v.2)) :
    varsProd powf g (mergeFactors fs acc) = varsProd powf g acc * factorsProd powf g fs := by
  induction fs generalizing acc with
  | nil => simp [mergeFactors, factorsProd]
  | cons f fs ih =>
    have hf : E (numVal f.num) := by rw [numVal_factorNum]; exact hfs f (by simp)
    obtain ⟨h1, h2⟩ := addVar_spec hE hadd (String.singleton f.letter) f.num hf acc hacc
    rw [mergeFactors_cons, ih (fun g hg => hfs g (by simp [hg])) _ h2, h1, numVal_factorNum]
    simp only [factorsProd, List.map_cons, List.prod_cons]
    ring

/-- **The product over the returned variables is the product over the written occurrences**: a
repeated letter multiplies. -/
theorem read_prod {powf : ℚ → ℚ → ℚ} {g : String → ℚ} {E : ℚ → Prop}
    (hE : ∀ a b, E a → E b → E (a + b)) (hadd : Additive powf g E) (t : TermSyn)
    (hfs : ∀ f ∈ t.factors, E f.expValue) :
    varsProd powf g t.read.vars = factorsProd powf g t.factors := by
  have h1 : varsProd powf g t.read.vars = varsProd powf g (mergeFactors t.factors []) := by
    unfold varsProd
    exact ((read_vars_perm t).map _).prod_eq
  rw [h1, mergeFactors_prod hE hadd t.factors hfs [] (by simp)]
  simp [varsProd]

/-- the parsed term as a `Term ℚ` (the `f64` operations read as exact operations) -/
def toTerm (it : ITerm) : SV.Poly.Term ℚ := ⟨numVal it.coef, it.vars.map fun v => (v.1, numVal v.2)⟩

/-- **What the returned term `it` must be for the written term `t`** (letters may repeat): the
coefficient is the signed written value (`±1` if none is written); the variable names are sorted,
without repetition, and exactly the letters written; each name carries the sum of the exponent values
of the occurrences of its letter (an omitted exponent counts 1). -/
structure TermMeans (it : ITerm) (t : TermSyn) : Prop where
  coef : numVal it.coef = sgn t.neg * t.coef.value
  sorted : (names it.vars).Pairwise (· ≤ ·)
  nodup : (names it.vars).Nodup
  letters : ∀ n, n ∈ names it.vars ↔ ∃ f ∈ t.factors, n = String.singleton f.letter
  exponent : ∀ n e, (n, e) ∈ it.vars → numVal e = expoSum t.factors n

theorem termMeans_read (t : TermSyn) : TermMeans t.read t :=
  ⟨read_coef t, read_names_sorted t, read_names_nodup t, mem_read_names t,
    fun _ _ h => read_exponent h⟩

theorem forall₂_read {R : ITerm → TermSyn → Prop} (ts : List TermSyn)
    (h : ∀ t ∈ ts, R t.read t) : List.Forall₂ R (ts.map TermSyn.read) ts := by
  induction ts with
  | nil => exact List.Forall₂.nil
  | cons t ts ih =>
    exact List.Forall₂.cons (h t (by simp)) (ih fun u hu => h u (by simp [hu]))

theorem length_addVar_le (vars : List (String × Num)) (name : String) (p : Num) :
    (addVar vars name p).length ≤ vars.length + 1 := by
  rcases addVar_cases vars name p with ⟨-, h⟩ | ⟨l₁, e, l₂, rfl, h⟩
  · rw [h, List.length_append, List.length_singleton]
  · rw [h, List.length_append, List.length_append, List.length_cons, List.length_cons]
    omega

theorem length_mergeFactors_le (fs : List Factor) (acc : List (String × Num)) :
    (mergeFactors fs acc).length ≤ acc.length + fs.length := by
  induction fs generalizing acc with
  | nil => simp [mergeFactors]
  | cons f fs ih =>
    rw [mergeFactors_cons]
    have h1 := ih (addVar acc (String.singleton f.letter) f.num)
    have h2 := length_addVar_le acc (String.singleton f.letter) f.num
    simp only [List.length_cons]
    omega

theorem length_read_vars_le (t : TermSyn) : t.read.vars.length ≤ t.factors.length := by
  have := length_mergeFactors_le t.factors []
  simpa [TermSyn.read, List.length_mergeSort] using this

theorem length_factors_le (fs : List Factor) : fs.length ≤ (renderFactors fs).length := by
  induction fs with
  | nil => simp
  | cons f fs ih =>
    rw [renderFactors_cons]
    simp only [List.length_cons, List.length_append, Factor.render]
    omega

theorem length_body_le {lead : Bool} {ts : List TermSyn} {t : TermSyn} (ht : t ∈ ts) :
    t.body.length ≤ (render lead ts).length := by
  cases ts with
  | nil => cases ht
  | cons u us =>
    unfold render
    rcases List.mem_cons.1 ht with rfl | ht
    · simp only [List.length_append]
      omega
    · obtain ⟨a, b, rfl⟩ := List.append_of_mem ht
      simp only [List.flatMap_append, List.flatMap_cons, List.length_append, List.length_cons]
      omega

end SV.C16Inter
