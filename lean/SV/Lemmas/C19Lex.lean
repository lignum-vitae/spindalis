import SV.Model.C19
/-!
Lemmas for C19, lexer part: one pass of the `while let` loop as a fuel-free function `lexStep` with its
possible outcomes (`lexStep_cases`), the unfolding of `lexGo` in terms of it, and the fuel-free relations
`Lexed`/`LexErr`, which `lexGo` computes with any fuel above the length of the text.
-/
namespace SV.C19
open SV SV.Text

/-- the letter-run case of the lexer: the tokens of a maximal run of ASCII letters -/
def runToks (run : List Char) : List (Tok Dec) :=
  match run with
  | [d] => [letterTok d]
  | _ =>
    match funcOfName run with
    | some f => [.func f]
    | none =>
      match constOfName run with
      | some k => [.const k]
      | none => run.map letterTok

theorem toNat_ofNat_of_lt {n : Nat} (h : n < 0xd800) : (Char.ofNat n).toNat = n := by
  unfold Char.ofNat
  rw [dif_pos (Or.inl h)]
  rfl

theorem lower_eq_e (c : Char) :
    (if 'A' ≤ c ∧ c ≤ 'Z' then Char.ofNat (c.toNat + 32) else c) = 'e' ↔ c = 'e' ∨ c = 'E' := by
  have he : ('e' : Char).toNat = 101 := rfl
  have hE : ('E' : Char).toNat = 69 := rfl
  split
  · rename_i h
    have h1 : 65 ≤ c.toNat := h.1
    have h2 : c.toNat ≤ 90 := h.2
    rw [← Char.toNat_inj, ← Char.toNat_inj, ← Char.toNat_inj, toNat_ofNat_of_lt (by omega)]
    omega
  · rename_i h
    refine ⟨Or.inl, fun h' => h'.resolve_right fun hE' => h ?_⟩
    rw [hE']; decide

theorem constOfName_singleton (c : Char) : constOfName [c] = if c = 'e' ∨ c = 'E' then some .e else none := by
  have hne : ∀ (x : Char) (l : List Char), l.length ≠ 1 → ¬ String.ofList [x] = String.ofList l := by
    intro x l hl h
    rw [String.ofList_inj] at h
    rw [← h] at hl; exact hl rfl
  have he : ∀ x : Char, String.ofList [x] = String.ofList ['e'] ↔ x = 'e' := by
    intro x; rw [String.ofList_inj, List.cons.injEq, and_iff_left rfl]
  unfold constOfName
  show (if String.ofList [_] = String.ofList ['p', 'i'] then _ else if String.ofList [_] = String.ofList ['e'] then _
    else if String.ofList [_] = String.ofList ['t', 'a', 'u'] then _
    else if String.ofList [_] = String.ofList ['p', 'h', 'i'] then _ else _) = _
  rw [if_neg (hne _ ['p', 'i'] (by decide)), if_neg (hne _ ['t', 'a', 'u'] (by decide)),
    if_neg (hne _ ['p', 'h', 'i'] (by decide))]
  have hc := (he _).trans (lower_eq_e c)
  by_cases h : c = 'e' ∨ c = 'E'
  · rw [if_pos (hc.mpr h), if_pos h]
  · rw [if_neg (mt hc.mp h), if_neg h]

theorem letterTok_eq (c : Char) :
    letterTok c = if c = 'e' ∨ c = 'E' then .const .e else .var (String.singleton c) := by
  rw [letterTok, constOfName_singleton]
  by_cases h : c = 'e' ∨ c = 'E'
  · rw [if_pos h, if_pos h]
  · rw [if_neg h, if_neg h]

theorem runToks_cases (run : List Char) :
    (∃ d, run = [d] ∧ runToks run = [letterTok d]) ∨ (∃ f, runToks run = [.func f]) ∨
    (∃ k, runToks run = [.const k]) ∨ runToks run = run.map letterTok := by
  unfold runToks
  split
  · exact .inl ⟨_, rfl, rfl⟩
  · split
    · exact .inr (.inl ⟨_, rfl⟩)
    · split
      · exact .inr (.inr (.inl ⟨_, rfl⟩))
      · exact .inr (.inr (.inr rfl))

/-- one pass of the lexer's `while let` loop on the first character `c`: the tokens pushed (in order)
and the remaining text -/
def lexStep (c : Char) (cs : List Char) : Except PErr (List (Tok Dec) × List Char) :=
  if isAsciiDigit c ∨ c = '.' then
    match parseUDec ((c :: cs).takeWhile fun d => isAsciiDigit d || d = '.') with
    | some (m, s) => .ok ([.num ⟨false, m, s⟩], (c :: cs).dropWhile fun d => isAsciiDigit d || d = '.')
    | none => .error .invalidNumber
  else if isAsciiLetter c then
    .ok (runToks ((c :: cs).takeWhile isAsciiLetter), (c :: cs).dropWhile isAsciiLetter)
  else if c = 'π' then .ok ([.const .pi], cs)
  else if c = 'τ' then .ok ([.const .tau], cs)
  else if c = 'ϕ' then .ok ([.const .phi], cs)
  else if c = '(' then .ok ([.lp], cs)
  else if c = ')' then .ok ([.rp], cs)
  else
    match opOfChar c with
    | some o => .ok ([.op o], cs)
    | none => .error .unexpectedChar

theorem lexGo_zero (s : List Char) (acc : List (Tok Dec)) : lexGo 0 s acc = .ok acc.reverse := by
  rw [lexGo]

theorem lexGo_nil (fuel : Nat) (acc : List (Tok Dec)) : lexGo fuel [] acc = .ok acc.reverse := by
  cases fuel with
  | zero => rw [lexGo]
  | succ n => rw [lexGo]; simp

theorem lexGo_succ_cons (fuel : Nat) (c : Char) (cs : List Char) (acc : List (Tok Dec)) :
    lexGo (fuel + 1) (c :: cs) acc =
      match lexStep c cs with
      | .error e => .error e
      | .ok (toks, rest) => lexGo fuel rest (toks.reverse ++ acc) := by
  rw [lexGo, lexStep]
  by_cases h1 : (isAsciiDigit c = true ∨ c = '.')
  · rw [if_pos h1, if_pos h1]
    simp only
    cases parseUDec (List.takeWhile (fun d => isAsciiDigit d || decide (d = '.')) (c :: cs)) with
    | none => rfl
    | some p => rfl
  · rw [if_neg h1, if_neg h1]
    by_cases h2 : isAsciiLetter c = true
    · rw [if_pos h2, if_pos h2]; rfl
    · rw [if_neg h2, if_neg h2]
      by_cases h3 : c = 'π'
      · rw [if_pos h3, if_pos h3]; rfl
      · rw [if_neg h3, if_neg h3]
        by_cases h4 : c = 'τ'
        · rw [if_pos h4, if_pos h4]; rfl
        · rw [if_neg h4, if_neg h4]
          by_cases h5 : c = 'ϕ'
          · rw [if_pos h5, if_pos h5]; rfl
          · rw [if_neg h5, if_neg h5]
            by_cases h6 : c = '('
            · rw [if_pos h6, if_pos h6]; rfl
            · rw [if_neg h6, if_neg h6]
              by_cases h7 : c = ')'
              · rw [if_pos h7, if_pos h7]; rfl
              · rw [if_neg h7, if_neg h7]
                cases opOfChar c with
                | none => rfl
                | some o => rfl

/-- tokens spelt with one character that is neither a letter nor part of a number -/
def isOneCharTok : Tok Dec → Bool
  | .const _ | .op _ | .lp | .rp => true
  | _ => false

theorem eq_of_ite_eq {α : Type} {p : Prop} [Decidable p] {a b r : α} (h : (if p then a else b) = r) :
    a = r ∨ b = r := by
  by_cases hp : p
  · exact .inl (by rw [← h, if_pos hp])
  · exact .inr (by rw [← h, if_neg hp])

theorem lexStep_cases {c : Char} {cs : List Char} {r : Except PErr (List (Tok Dec) × List Char)}
    (h : lexStep c cs = r) :
    r = .error .invalidNumber ∨ r = .error .unexpectedChar ∨
    (∃ m s, (isAsciiDigit c || c = '.') = true ∧
      r = .ok ([.num ⟨false, m, s⟩], (c :: cs).dropWhile fun d => isAsciiDigit d || d = '.')) ∨
    (isAsciiLetter c = true ∧
      r = .ok (runToks ((c :: cs).takeWhile isAsciiLetter), (c :: cs).dropWhile isAsciiLetter)) ∨
    ∃ t, isOneCharTok t = true ∧ r = .ok ([t], cs) := by
  unfold lexStep at h
  by_cases h1 : isAsciiDigit c = true ∨ c = '.'
  · rw [if_pos h1] at h
    split at h
    · exact .inr (.inr (.inl ⟨_, _, by simpa using h1, h.symm⟩))
    · exact .inl h.symm
  rw [if_neg h1] at h
  by_cases h2 : isAsciiLetter c = true
  · rw [if_pos h2] at h
    exact .inr (.inr (.inr (.inl ⟨h2, h.symm⟩)))
  rw [if_neg h2] at h
  iterate 5
    rcases eq_of_ite_eq h with h | h
    · exact .inr (.inr (.inr (.inr ⟨_, rfl, h.symm⟩)))
  cases ho : opOfChar c with
  | some o => rw [ho] at h; exact .inr (.inr (.inr (.inr ⟨_, rfl, h.symm⟩)))
  | none => rw [ho] at h; exact .inr (.inl h.symm)

theorem length_dropWhile_cons {α : Type} {p : α → Bool} {a : α} (h : p a = true) (l : List α) :
    ((a :: l).dropWhile p).length ≤ l.length := by
  rw [List.dropWhile_cons_of_pos h]
  exact (List.dropWhile_sublist p).length_le

theorem lexStep_length {c : Char} {cs : List Char} {toks : List (Tok Dec)} {rest : List Char}
    (h : lexStep c cs = .ok (toks, rest)) : rest.length ≤ cs.length := by
  rcases lexStep_cases h with h | h | ⟨_, _, hc, h⟩ | ⟨hc, h⟩ | ⟨_, _, h⟩
  · cases h
  · cases h
  · cases h
    exact length_dropWhile_cons (p := fun d => isAsciiDigit d || d = '.') hc cs
  · cases h
    exact length_dropWhile_cons hc cs
  · cases h
    exact Nat.le_refl _

/-- fuel-free semantics of the lexer loop: the passes are run until the text is used up -/
inductive Lexed : List Char → List (Tok Dec) → Prop where
  | nil : Lexed [] []
  | step {c : Char} {cs : List Char} {toks : List (Tok Dec)} {rest : List Char} {more : List (Tok Dec)} :
      lexStep c cs = .ok (toks, rest) → Lexed rest more → Lexed (c :: cs) (toks ++ more)

/-- …and its errors: some pass fails -/
inductive LexErr : List Char → PErr → Prop where
  | here {c : Char} {cs : List Char} {x : PErr} : lexStep c cs = .error x → LexErr (c :: cs) x
  | later {c : Char} {cs : List Char} {toks : List (Tok Dec)} {rest : List Char} {x : PErr} :
      lexStep c cs = .ok (toks, rest) → LexErr rest x → LexErr (c :: cs) x

theorem Lexed.lexGo_eq {s : List Char} {toks : List (Tok Dec)} (h : Lexed s toks) (fuel : Nat)
    (acc : List (Tok Dec)) (hf : s.length + 1 ≤ fuel) : lexGo fuel s acc = .ok (acc.reverse ++ toks) := by
  induction h generalizing fuel acc with
  | nil => rw [lexGo_nil, List.append_nil]
  | step hs _ ih =>
    obtain ⟨n, rfl⟩ : ∃ n, fuel = n + 1 := ⟨fuel - 1, by omega⟩
    have := lexStep_length hs
    simp only [List.length_cons] at hf
    rw [lexGo_succ_cons, hs]
    dsimp only
    rw [ih n _ (by omega), List.reverse_append, List.reverse_reverse, List.append_assoc]

theorem LexErr.lexGo_eq {s : List Char} {x : PErr} (h : LexErr s x) (fuel : Nat)
    (acc : List (Tok Dec)) (hf : s.length + 1 ≤ fuel) : lexGo fuel s acc = .error x := by
  induction h generalizing fuel acc with
  | here hs =>
    obtain ⟨n, rfl⟩ : ∃ n, fuel = n + 1 := ⟨fuel - 1, by omega⟩
    rw [lexGo_succ_cons, hs]
  | later hs _ ih =>
    obtain ⟨n, rfl⟩ : ∃ n, fuel = n + 1 := ⟨fuel - 1, by omega⟩
    have := lexStep_length hs
    simp only [List.length_cons] at hf
    rw [lexGo_succ_cons, hs]
    exact ih n _ (by omega)

/-- every text has an outcome in the fuel-free semantics, because each pass shortens the text; with
`Lexed.lexGo_eq` and `LexErr.lexGo_eq` this makes the fuel irrelevant -/
theorem lexed_or_lexErr (s : List Char) : (∃ toks, Lexed s toks) ∨ ∃ x, LexErr s x := by
  induction hn : s.length using Nat.strongRecOn generalizing s with
  | _ n ih =>
    cases s with
    | nil => exact .inl ⟨[], .nil⟩
    | cons c cs =>
      cases hs : lexStep c cs with
      | error x => exact .inr ⟨x, .here hs⟩
      | ok p =>
        obtain ⟨toks, rest⟩ := p
        have := lexStep_length hs
        rcases ih rest.length (by simp only [← hn, List.length_cons]; omega) rest rfl with
          ⟨more, h⟩ | ⟨x, h⟩
        · exact .inl ⟨toks ++ more, .step hs h⟩
        · exact .inr ⟨x, .later hs h⟩

theorem lexGo_fuel_irrelevant (s : List Char) (acc : List (Tok Dec)) {fuel : Nat} (h : s.length + 1 ≤ fuel) :
    lexGo fuel s acc = lexGo (s.length + 1) s acc := by
  rcases lexed_or_lexErr s with ⟨toks, ht⟩ | ⟨x, hx⟩
  · rw [ht.lexGo_eq fuel acc h, ht.lexGo_eq _ acc (Nat.le_refl _)]
  · rw [hx.lexGo_eq fuel acc h, hx.lexGo_eq _ acc (Nat.le_refl _)]

theorem lex_ok_iff (s : List Char) (out : List (Tok Dec)) :
    lex s = .ok out ↔ Lexed (s.filter (· ≠ ' ')) out := by
  refine ⟨fun h => ?_, fun h => h.lexGo_eq _ [] (Nat.le_refl _)⟩
  rcases lexed_or_lexErr (s.filter (· ≠ ' ')) with ⟨toks, ht⟩ | ⟨x, hx⟩
  · cases (ht.lexGo_eq _ [] (Nat.le_refl _)).symm.trans h
    exact ht
  · cases (hx.lexGo_eq _ [] (Nat.le_refl _)).symm.trans h

theorem lex_error_iff (s : List Char) (x : PErr) :
    lex s = .error x ↔ LexErr (s.filter (· ≠ ' ')) x := by
  refine ⟨fun h => ?_, fun h => h.lexGo_eq _ [] (Nat.le_refl _)⟩
  rcases lexed_or_lexErr (s.filter (· ≠ ' ')) with ⟨toks, ht⟩ | ⟨y, hy⟩
  · cases (ht.lexGo_eq _ [] (Nat.le_refl _)).symm.trans h
  · cases (hy.lexGo_eq _ [] (Nat.le_refl _)).symm.trans h
    exact hy

end SV.C19
