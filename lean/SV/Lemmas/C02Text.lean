import SV.Model.C02
import SV.Lemmas.Text
/-!
Text-level lemmas for the multivariate parser, on top of `SV.Lemmas.Text`: the facts `Sane` about the
Unicode classes that the proofs use, exact rational values of parsed numbers, and the number readers
`parseUDec`, `parseSignedDec`, `parseFraction`, which accept exactly the spellings `udec`, `[-]udec`,
`[-]udec/udec` (`…_render`: the spelling reads back; `…_inv`: nothing else does).
-/
namespace SV.C02
open SV SV.Text

/-- The facts about the Unicode predicates (`char::is_numeric`, `char::is_whitespace`) that the
multivariate parser proofs rely on.  The first two are what acceptance needs (the coefficient scan
takes ASCII digits and stops at a letter); the last three say that no character of a rendering is
white space, so that `stripWs` leaves a rendering alone. -/
structure Sane (cc : CharClass) : Prop where
  digit_numeric : ∀ c, isAsciiDigit c = true → cc.isNumeric c = true
  letter_not_numeric : ∀ c, isAsciiLetter c = true → cc.isNumeric c = false
  digit_not_ws : ∀ c, isAsciiDigit c = true → cc.isWs c = false
  letter_not_ws : ∀ c, isAsciiLetter c = true → cc.isWs c = false
  sym_not_ws : cc.isWs '.' = false ∧ cc.isWs '/' = false ∧ cc.isWs '-' = false ∧
    cc.isWs '+' = false ∧ cc.isWs '^' = false

/-- what the coefficient scan of a rendering needs of `is_numeric`: it takes ASCII digits and stops at an
ASCII letter -/
structure NumericSane (cc : CharClass) : Prop where
  digit_numeric : ∀ c, isAsciiDigit c = true → cc.isNumeric c = true
  letter_not_numeric : ∀ c, isAsciiLetter c = true → cc.isNumeric c = false

theorem Sane.numeric {cc : CharClass} (h : Sane cc) : NumericSane cc :=
  ⟨h.digit_numeric, h.letter_not_numeric⟩

theorem mem_tableNumeric (c : Char) (h : tableNumeric.contains c = true) : c.toNat > 127 := by
  simp only [tableNumeric, List.contains_eq_mem, List.mem_cons, List.not_mem_nil, or_false,
    decide_eq_true_eq] at h
  rcases h with rfl | rfl | rfl <;> decide

theorem stdClass_sane : Sane stdClass where
  digit_numeric c h := by simp only [stdClass, h, Bool.true_or]
  letter_not_numeric c h := by
    cases hn : stdClass.isNumeric c with
    | false => rfl
    | true =>
      simp only [stdClass, letter_not_digit h, Bool.false_or] at hn
      have h1 := (isAsciiLetter_iff c).1 h
      have := mem_tableNumeric c hn
      omega
  digit_not_ws := Text.stdClass_sane.digit_not_ws
  letter_not_ws c h := by
    have h1 := (isAsciiLetter_iff c).1 h
    cases hd : stdClass.isWs c with
    | false => rfl
    | true => have := stdClass_isWs c hd; omega
  sym_not_ws := by decide

def decVal (d : Dec) : ℚ := (if d.neg then -1 else 1) * (d.mant : ℚ) / (10 : ℚ) ^ d.scale

/-- exact value of a `Num` expression (the `f64` operations read as exact operations; `/` is the
division of ℚ, the parser only forms `a / b` with `b ≠ 0`) -/
def numVal : Num → ℚ
  | .dec d => decVal d
  | .div a b => numVal a / numVal b
  | .add a b => numVal a + numVal b

/-- `decVal` and `numVal` are `Dec.val` and `Num.val` of `SV.Lemmas.Text` under the names the
multivariate statements use -/
theorem numVal_eq_val (n : Num) : numVal n = n.val := by
  induction n with
  | dec d => rfl
  | div a b iha ihb => simp only [numVal, Num.val, iha, ihb]
  | add a b iha ihb => simp only [numVal, Num.val, iha, ihb]

@[simp] theorem numVal_one : numVal Num.one = 1 := (numVal_eq_val _).trans Num.val_one
@[simp] theorem numVal_negOne : numVal Num.negOne = -1 := (numVal_eq_val _).trans Num.val_negOne

/-- unsigned plain decimal spelling: integer digits, optionally a `.` and fraction digits -/
structure UDec where
  ip : List Char
  fp : List Char
  dot : Bool

/-- the spelling is `digits`, `digits.`, `.digits` or `digits.digits` with at least one digit -/
structure UDec.WF (u : UDec) : Prop where
  ip_digits : ∀ c ∈ u.ip, isAsciiDigit c = true
  fp_digits : ∀ c ∈ u.fp, isAsciiDigit c = true
  some_digit : u.ip ≠ [] ∨ u.fp ≠ []
  no_dot : u.dot = false → u.fp = []

def UDec.render (u : UDec) : List Char := u.ip ++ (if u.dot then '.' :: u.fp else [])

def UDec.mant (u : UDec) : Nat := digitsVal (u.ip ++ u.fp)

/-- the number the spelling denotes: all digits read as one integer, over `10^(number of fraction digits)` -/
def UDec.value (u : UDec) : ℚ := (u.mant : ℚ) / (10 : ℚ) ^ u.fp.length

/-- The same spelling as a `Text.UDec`: rendering, mantissa and value are the same by definition, so
the lemmas of `SV.Lemmas.Text` apply. -/
def UDec.toText (u : UDec) : Text.UDec := ⟨u.ip, u.fp, u.dot⟩

theorem UDec.WF.toText {u : UDec} (hu : u.WF) : u.toText.WF :=
  ⟨hu.ip_digits, hu.fp_digits, hu.some_digit, hu.no_dot⟩

/-- … and back -/
def UDec.ofText (u : Text.UDec) : UDec := ⟨u.ip, u.fp, u.dot⟩

theorem UDec.ofText_wf {u : Text.UDec} (hu : u.WF) : (UDec.ofText u).WF :=
  ⟨hu.ip_digits, hu.fp_digits, hu.some_digit, hu.no_dot⟩

theorem UDec.value_eq (u : UDec) :
    u.value = (digitsVal u.ip : ℚ) + (digitsVal u.fp : ℚ) / (10 : ℚ) ^ u.fp.length :=
  Text.UDec.value_eq u.toText

theorem UDec.render_ne_nil {u : UDec} (hu : u.WF) : u.render ≠ [] :=
  Text.UDec.render_ne_nil hu.toText

theorem UDec.mem_render {u : UDec} (hu : u.WF) {c : Char} (hc : c ∈ u.render) :
    isAsciiDigit c = true ∨ c = '.' :=
  Text.UDec.mem_render hu.toText hc

theorem UDec.slash_not_mem {u : UDec} (hu : u.WF) : '/' ∉ u.render := fun h =>
  (UDec.mem_render hu h).elim (fun h => digit_ne_slash h rfl) (by decide)

theorem UDec.dash_not_mem {u : UDec} (hu : u.WF) : '-' ∉ u.render := fun h =>
  (UDec.mem_render hu h).elim (fun h => digit_ne_dash h rfl) (by decide)

theorem UDec.plus_not_mem {u : UDec} (hu : u.WF) : '+' ∉ u.render := fun h =>
  (UDec.mem_render hu h).elim (fun h => digit_ne_plus h rfl) (by decide)

theorem UDec.caret_not_mem {u : UDec} (hu : u.WF) : '^' ∉ u.render := fun h =>
  (UDec.mem_render hu h).elim (fun h => digit_ne_caret h rfl) (by decide)

theorem parseUDec_render {u : UDec} (hu : u.WF) : parseUDec u.render = some (u.mant, u.fp.length) :=
  Text.parseUDec_render hu.toText

theorem parseUDec_inv {s : List Char} {m sc : Nat} (h : parseUDec s = some (m, sc)) :
    ∃ u : UDec, u.WF ∧ s = u.render ∧ m = u.mant ∧ sc = u.fp.length :=
  let ⟨u, hu, hs, hm, hsc⟩ := parseUDec_some h
  ⟨.ofText u, UDec.ofText_wf hu, hs, hm, hsc⟩

def signChars (neg : Bool) : List Char := if neg then ['-'] else []

theorem parseSignedDec_render {u : UDec} (hu : u.WF) (neg : Bool) :
    parseSignedDec (signChars neg ++ u.render) = some ⟨neg, u.mant, u.fp.length⟩ :=
  Text.parseSignedDec_render hu.toText neg

theorem parseSignedDec_inv {s : List Char} {d : Dec} (h : parseSignedDec s = some d) :
    ∃ (neg : Bool) (u : UDec), u.WF ∧ s = signChars neg ++ u.render ∧
      d = ⟨neg, u.mant, u.fp.length⟩ :=
  let ⟨u, hu, hs, hm, hsc⟩ := parseSignedDec_some h
  ⟨d.neg, .ofText u, UDec.ofText_wf hu, hs, congrArg₂ (Dec.mk d.neg) hm hsc⟩

theorem parseFraction_render {a b : UDec} (ha : a.WF) (hb : b.WF) (hb0 : b.mant ≠ 0) (neg : Bool) :
    parseFraction (signChars neg ++ a.render ++ '/' :: b.render) =
      some (.div (.dec ⟨neg, a.mant, a.fp.length⟩) (.dec ⟨false, b.mant, b.fp.length⟩)) := by
  have h1 : '/' ∉ signChars neg ++ a.render := by
    intro h
    rcases List.mem_append.1 h with h | h
    · cases neg <;> simp [signChars] at h
    · exact UDec.slash_not_mem ha h
  have hb' : parseSignedDec b.render = some ⟨false, b.mant, b.fp.length⟩ := by
    simpa [signChars] using parseSignedDec_render hb false
  unfold parseFraction
  rw [splitOn_append _ h1, splitOn_of_not_mem (UDec.slash_not_mem hb)]
  simp only [parseSignedDec_render ha neg, hb']
  simp [Dec.isZero, hb0]

def NoSlashDash (s : List Char) : Prop := ∀ a b, s ≠ a ++ '/' :: '-' :: b

theorem NoSlashDash.of_infix {t s : List Char} (h : t <:+: s) (hs : NoSlashDash s) : NoSlashDash t := by
  obtain ⟨x, y, rfl⟩ := h
  intro a b e
  exact hs (x ++ a) (b ++ y) (by simp [e])

/-- `parseFraction` alone would also accept a signed denominator (`1` over `-2`); the normalised text never
has a `-` directly after a `/`, which is what `NoSlashDash` records. -/
theorem parseFraction_inv {s : List Char} {v : Num} (h : parseFraction s = some v)
    (hsd : NoSlashDash s) :
    ∃ (neg : Bool) (a b : UDec), a.WF ∧ b.WF ∧ b.mant ≠ 0 ∧
      s = signChars neg ++ a.render ++ '/' :: b.render ∧
      v = .div (.dec ⟨neg, a.mant, a.fp.length⟩) (.dec ⟨false, b.mant, b.fp.length⟩) := by
  have hj := joinSep_splitOn '/' s
  unfold parseFraction at h
  split at h
  · rename_i a b hs
    rw [hs] at hj
    simp only [joinSep, List.flatMap_cons, List.flatMap_nil, List.append_nil] at hj
    cases ha : parseSignedDec a with
    | none => rw [ha] at h; cases h
    | some x =>
      cases hb : parseSignedDec b with
      | none => rw [ha, hb] at h; cases h
      | some y =>
        rw [ha, hb] at h
        simp only at h
        split at h
        · cases h
        · rename_i hz
          simp only [Option.some.injEq] at h
          obtain ⟨na, ua, hua, rfl, rfl⟩ := parseSignedDec_inv ha
          obtain ⟨nb, ub, hub, rfl, rfl⟩ := parseSignedDec_inv hb
          cases nb with
          | true => exact absurd hj.symm (hsd (signChars na ++ ua.render) ub.render)
          | false =>
            exact ⟨na, ua, ub, hua, hub, by simpa [Dec.isZero] using hz,
              by simpa [signChars] using hj.symm, h.symm⟩
  · cases h

theorem decVal_mk (neg : Bool) (u : UDec) :
    decVal ⟨neg, u.mant, u.fp.length⟩ = (if neg then -1 else 1) * u.value :=
  Dec.val_mk neg u.toText

end SV.C02
