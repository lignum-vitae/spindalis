import SV.Lemmas.C19Print
import SV.Lemmas.C19Lex
import SV.Lemmas.C19Implied
import SV.Lemmas.C19Fold
import Mathlib.Data.List.TakeWhile
/-!
Lemmas for C19: the lexer produces well-formed tokens, the parser builds well-formed trees from them,
and folding keeps trees well formed.  The parser's part goes through the precedence reading of its result (`R_pr`).
-/
namespace SV.C19
open SV SV.Text

/-- tokens the lexer can produce: unsigned literals, single-letter variables other than `e`/`E` -/
structure WfTok (t : Tok Dec) : Prop where
  num : ∀ d, t = .num d → d.neg = false
  var : ∀ s, t = .var s → VarName s

theorem WfTok.other {t : Tok Dec} (hn : ∀ d, t ≠ .num d) (hv : ∀ s, t ≠ .var s) : WfTok t :=
  ⟨fun d h => absurd h (hn d), fun s h => absurd h (hv s)⟩

theorem wf_setParen {e : Expr Dec} (h : Wf e) : Wf (setParen e) := by
  cases h with
  | bin p h1 h2 h3 h4 => exact .bin true h1 h2 h3 h4
  | num h => exact .num h
  | var h => exact .var h
  | const c => exact .const c
  | func f h => exact .func f h
  | pre h => exact .pre h
  | post h => exact .post h

/-- a precedence reading of well-formed tokens is a well-formed tree -/
theorem PR.wf {e : Expr Dec} {ts : List (Tok Dec)} {k : Nat} (h : PR e ts k) (hts : ∀ t ∈ ts, WfTok t) :
    Wf e := by
  induction h with
  | num x => exact .num ((hts _ (List.mem_singleton_self _)).num x rfl)
  | var s => exact .var ((hts _ (List.mem_singleton_self _)).var s rfl)
  | const c => exact .const c
  | paren h ih =>
    exact wf_setParen (ih fun t ht => hts t (List.mem_cons_of_mem _ (List.mem_append_left _ ht)))
  | func f h ih =>
    exact .func f (wf_setParen (ih fun t ht =>
      hts t (List.mem_cons_of_mem _ (List.mem_cons_of_mem _ (List.mem_append_left _ ht)))))
  | post h ih => exact .post (ih fun t ht => hts t (List.mem_append_left _ ht))
  | neg M h _ _ ih => exact .pre (ih fun t ht => hts t (List.mem_cons_of_mem _ ht))
  | bin o hl hr ho _ _ ihl ihr =>
    refine .bin false ?_ ?_ (ihl fun t ht => hts t (List.mem_append_left _ ht))
      (ihr fun t ht => hts t (List.mem_append_right _ (List.mem_cons_of_mem _ ht)))
    · split
      · exact fun h => Op.noConfusion h
      · assumption
    · split
      · exact fun h => Op.noConfusion h
      · exact ho

theorem parseTokens_wf {ts : List (Tok Dec)} {e : Expr Dec} (h : parseTokens ts = .ok e)
    (hts : ∀ t ∈ ts, WfTok t) : Wf e := by
  obtain ⟨p, k, h1, h2, -⟩ := R_pr ((parseTokens_iff_R ts e).mp h)
  rw [List.append_nil] at h1
  refine h2.wf fun t ht => ?_
  rcases (impliedMul_inserts ts).2 t (h1 ▸ ht) with h | rfl
  · exact hts t h
  · exact .other (fun _ h => by cases h) (fun _ h => by cases h)

theorem letterTok_wf {c : Char} (hc : isAsciiLetter c = true) : WfTok (letterTok c) := by
  rw [letterTok_eq]
  split
  · exact .other (fun _ h => by cases h) (fun _ h => by cases h)
  · rename_i hn
    refine ⟨fun _ h => (by cases h), fun s h => ?_⟩
    cases h
    exact ⟨c, rfl, hc, fun h => hn (.inl h), fun h => hn (.inr h)⟩

theorem runToks_wf {run : List Char} (hrun : ∀ c ∈ run, isAsciiLetter c = true) :
    ∀ t ∈ runToks run, WfTok t := by
  rcases runToks_cases run with ⟨d, rfl, h⟩ | ⟨f, h⟩ | ⟨k, h⟩ | h <;> rw [h]
  · intro t ht; rw [List.mem_singleton.mp ht]; exact letterTok_wf (hrun d (by simp))
  · intro t ht; rw [List.mem_singleton.mp ht]; exact .other (fun _ h => by cases h) (fun _ h => by cases h)
  · intro t ht; rw [List.mem_singleton.mp ht]; exact .other (fun _ h => by cases h) (fun _ h => by cases h)
  · intro t ht
    obtain ⟨c, hc, rfl⟩ := List.mem_map.mp ht
    exact letterTok_wf (hrun c hc)

theorem lexStep_wf {c : Char} {cs : List Char} {toks : List (Tok Dec)} {rest : List Char}
    (h : lexStep c cs = .ok (toks, rest)) : ∀ t ∈ toks, WfTok t := by
  rcases lexStep_cases h with h | h | ⟨_, _, _, h⟩ | ⟨_, h⟩ | ⟨t, ht, h⟩
  · cases h
  · cases h
  · cases h
    intro t ht
    rw [List.mem_singleton.mp ht]
    exact ⟨fun _ h => (by cases h; rfl), fun _ h => (by cases h)⟩
  · cases h
    exact runToks_wf fun c hc => List.mem_takeWhile_imp hc
  · cases h
    intro t' ht'
    rw [List.mem_singleton.mp ht']
    exact .other (fun _ h => by rw [h] at ht; cases ht) (fun _ h => by rw [h] at ht; cases ht)

theorem Lexed.wf {s : List Char} {ts : List (Tok Dec)} (h : Lexed s ts) : ∀ t ∈ ts, WfTok t := by
  induction h with
  | nil => simp
  | step h1 _ ih =>
    intro t ht
    rcases List.mem_append.mp ht with ht | ht
    · exact lexStep_wf h1 t ht
    · exact ih t ht

theorem lex_wf {s : List Char} {ts : List (Tok Dec)} (h : lex s = .ok ts) : ∀ t ∈ ts, WfTok t :=
  ((lex_ok_iff s ts).mp h).wf

theorem fold_wf {e : Expr Dec} (h : Wf e) : Wf (fold decTests e) := by
  induction h with
  | num h => exact .num h
  | var h => exact .var h
  | const c => exact .const c
  | func f h _ => exact .func f h
  | pre h _ => exact .pre h
  | post h _ => exact .post h
  | @bin o l r p h1 h2 hl hr ihl ihr =>
    rw [fold_bin]
    exact foldStep_shape (P := Wf) decTests o _ _ p (.num rfl) (.num rfl) ihl ihr (fun _ => .pre ihr)
      fun _ => .bin p h1 h2 ihl ihr

end SV.C19
