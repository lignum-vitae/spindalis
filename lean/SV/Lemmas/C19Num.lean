import SV.Lemmas.Text
import SV.Lemmas.C19Print
/-!
Lemmas for C19: the lexer reads the printed form `fmtDec d` of an unsigned literal back as the
canonical decimal `canon d`.
-/
namespace SV.C19
open SV SV.Text

theorem digitVal_lt {c : Char} (h : isAsciiDigit c = true) : digitVal c < 10 := by
  have := (isAsciiDigit_iff c).mp h
  unfold digitVal
  have : '0'.toNat = 48 := rfl
  omega

theorem digitVal_eq_zero {c : Char} (h : isAsciiDigit c = true) : digitVal c = 0 ↔ c = '0' := by
  have := (isAsciiDigit_iff c).mp h
  have h0 : '0'.toNat = 48 := rfl
  constructor
  · intro hz
    apply Char.toNat_inj.mp
    unfold digitVal at hz
    omega
  · rintro rfl; rfl

theorem digitsVal_snoc (l : List Char) (c : Char) : digitsVal (l ++ [c]) = digitsVal l * 10 + digitVal c := by
  rw [digitsVal_append]
  simp [digitsVal]

theorem canonGo_mul_ten (m s : Nat) : canonGo (m * 10) (s + 1) = canonGo m s := by
  rw [canonGo_of_mod_eq (Nat.mul_mod_left m 10), Nat.mul_div_cancel m (by decide)]

theorem canonGo_digits_rev (ip r : List Char) (hr : ∀ c ∈ r, isAsciiDigit c = true) :
    canonGo (digitsVal (ip ++ r.reverse)) r.length =
      (digitsVal (ip ++ (r.dropWhile (· = '0')).reverse), (r.dropWhile (· = '0')).length) := by
  induction r with
  | nil => rfl
  | cons c r ih =>
    have hc := hr c (by simp)
    have hM : digitsVal (ip ++ (c :: r).reverse) = digitsVal (ip ++ r.reverse) * 10 + digitVal c := by
      rw [List.reverse_cons, ← List.append_assoc, digitsVal_snoc]
    rw [List.length_cons, hM]
    by_cases h0 : c = '0'
    · subst h0
      rw [List.dropWhile_cons_of_pos (by simp), show digitVal '0' = 0 from rfl, Nat.add_zero, canonGo_mul_ten]
      exact ih fun c hc => hr c (List.mem_cons_of_mem _ hc)
    · have hlt := digitVal_lt hc
      have hnz : digitVal c ≠ 0 := fun h => h0 ((digitVal_eq_zero hc).mp h)
      rw [List.dropWhile_cons_of_neg (by simpa using h0), canonGo_of_mod_ne (by omega), hM, List.length_cons]

def stripZ (l : List Char) : List Char := (l.reverse.dropWhile (· = '0')).reverse

theorem canonGo_digits (ip fp : List Char) (hfp : ∀ c ∈ fp, isAsciiDigit c = true) :
    canonGo (digitsVal (ip ++ fp)) fp.length = (digitsVal (ip ++ stripZ fp), (stripZ fp).length) := by
  have := canonGo_digits_rev ip fp.reverse (fun c hc => hfp c (List.mem_reverse.mp hc))
  simpa [stripZ] using this

theorem stripZ_digits {fp : List Char} (hfp : ∀ c ∈ fp, isAsciiDigit c = true) :
    ∀ c ∈ stripZ fp, isAsciiDigit c = true := by
  intro c hc
  unfold stripZ at hc
  rw [List.mem_reverse] at hc
  exact hfp c (List.mem_reverse.mp ((List.dropWhile_sublist _).subset hc))

/-- The printed form of an unsigned literal is a plain decimal whose `parseUDec` value is the canonical
decimal. -/
theorem fmtDec_spec (d : Dec) (hd : d.neg = false) :
    ∃ u : UDec, u.WF ∧ u.ip ≠ [] ∧ (fmtDec d).toList = u.render ∧
      (u.mant, u.fp.length) = canonGo d.mant d.scale := by
  set digits := Nat.toDigits 10 d.mant with hdigits
  set padded := List.replicate (d.scale + 1 - digits.length) '0' ++ digits with hpadded
  have hpl : d.scale + 1 ≤ padded.length := by
    rw [hpadded, List.length_append, List.length_replicate]; omega
  have hpd : ∀ c ∈ padded, isAsciiDigit c = true := by
    intro c hc
    rcases List.mem_append.mp hc with h | h
    · rw [List.mem_replicate] at h; rw [h.2]; rfl
    · exact toDigits_digits _ c h
  set ip := padded.take (padded.length - d.scale) with hip
  set fpr := padded.drop (padded.length - d.scale) with hfpr
  have hsplit : ip ++ fpr = padded := List.take_append_drop _ _
  have hipd : ∀ c ∈ ip, isAsciiDigit c = true := fun c hc => hpd c (List.mem_of_mem_take hc)
  have hfpd : ∀ c ∈ fpr, isAsciiDigit c = true := fun c hc => hpd c (List.mem_of_mem_drop hc)
  have hipne : ip ≠ [] := by
    intro h
    have : ip.length = padded.length - d.scale := by rw [hip, List.length_take]; omega
    rw [h] at this; simp at this; omega
  have hfplen : fpr.length = d.scale := by rw [hfpr, List.length_drop]; omega
  have hval : digitsVal (ip ++ fpr) = d.mant := by
    rw [hsplit, hpadded, digitsVal_leading_zeros, digitsVal_toDigits]
  refine ⟨⟨ip, stripZ fpr, !(stripZ fpr).isEmpty⟩, ⟨hipd, stripZ_digits hfpd, Or.inl hipne, ?_⟩, hipne, ?_, ?_⟩
  · intro h; simpa using h
  · unfold fmtDec
    simp only [hd, Bool.false_eq_true, false_and, ↓reduceIte, String.toList_append, String.toList_ofList]
    rw [toString_toList_nat]
    show ([] : List Char) ++ (if stripZ fpr = [] then ip else ip ++ ['.'] ++ stripZ fpr) = _
    unfold UDec.render
    by_cases hs : stripZ fpr = []
    · simp [hs]
    · simp [hs]
  · show (digitsVal (ip ++ stripZ fpr), (stripZ fpr).length) = _
    rw [← hval, ← hfplen, canonGo_digits ip fpr hfpd]

end SV.C19
