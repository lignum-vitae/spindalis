import SV.Lemmas.Rounding
/-!
# A calculus of rounded sums

`M.Approx m v L` — "`v` is the sum of the terms of the list `L`, each multiplied by an accumulated
factor of at most `m` roundings": `v = Σ Lᵢ·tᵢ`, `M.Fac m tᵢ`.  A forward analysis never needs the
list, only its sum and the sum of its magnitudes: `M.Rounded m v s A` says that such a list exists
with `Σ Lᵢ = s` and `Σ |Lᵢ| = A`; `M.Scaled k v c` (`v = c·t`, `M.Fac k t`, in `SV.Lemmas.Rounding`) is
the one-term case, a computed scalar.  `Rounded` is closed under the floating-point operations of summation-type code:

* `Rounded.single`, `Rounded.of_scaled`   a datum, a computed scalar
* `Rounded.add_fl`, `Rounded.sub_fl`      `x ± y` at `Fl M`: `s₁ ± s₂`, `A₁ + A₂`, `max m₁ m₂ + 1`
* `Rounded.fl_mul`, `Rounded.div_fl`      `w * x`, `x / w` for a computed scalar `w ≈ c` with `k`
                                         roundings: `c·s`, `|c|·A` resp. `s/c`, `A/|c|`; `m + k + 1`
* `Rounded.of_weights`                    a sum written with explicit weights: the map from
                                         `FlModel.WSum` on `range n`, positions forgotten
* `Rounded.abs_sub_le`                    `|v − s| ≤ γ_m·A`

so the analysis of a loop is the computation of `s` and `A`.  The weights themselves are forgotten:
backward results (a perturbation of the data) need them and are stated with `FlModel.WSum`.
-/
namespace SV
open Finset

variable {M : FlModel}

/-- `v = Σ Lᵢ·tᵢ` with every `tᵢ` an accumulated factor of at most `m` roundings -/
inductive FlModel.Approx (M : FlModel) (m : ℕ) : ℝ → List ℝ → Prop
  | nil : FlModel.Approx M m 0 []
  | cons (x t v : ℝ) (L : List ℝ) : M.Fac m t → FlModel.Approx M m v L →
      FlModel.Approx M m (x * t + v) (x :: L)

theorem list_sum_map_mul (c : ℝ) (L : List ℝ) : (L.map (c * ·)).sum = c * L.sum := by
  induction L with
  | nil => simp
  | cons x L ih => simp only [List.map_cons, List.sum_cons, ih]; ring

theorem list_abs_sum_map_mul (c : ℝ) (L : List ℝ) :
    ((L.map (c * ·)).map (|·|)).sum = |c| * (L.map (|·|)).sum := by
  induction L with
  | nil => simp
  | cons x L ih => simp only [List.map_cons, List.sum_cons, ih, abs_mul]; ring

namespace FlModel.Approx

theorem of_eq {m : ℕ} {v v' : ℝ} {L : List ℝ} (h : M.Approx m v L) (e : v' = v) :
    M.Approx m v' L := e ▸ h

theorem single (x : ℝ) : M.Approx 0 x [x] :=
  (Approx.cons x 1 0 [] fac_zero_one Approx.nil).of_eq (by ring)

theorem mono {m m' : ℕ} {v : ℝ} {L : List ℝ} (h : M.Approx m v L) (hm : m ≤ m') :
    M.Approx m' v L := by
  induction h with
  | nil => exact Approx.nil
  | cons x t v L ht _ ih => exact Approx.cons x t v L (ht.mono hm) ih

theorem append {m : ℕ} {v v' : ℝ} {L L' : List ℝ} (h : M.Approx m v L) (h' : M.Approx m v' L') :
    M.Approx m (v + v') (L ++ L') := by
  induction h with
  | nil => simpa using h'
  | cons x t v L ht _ ih =>
    exact (Approx.cons x t _ _ ht ih).of_eq (by ring)

theorem smul {m k : ℕ} {v : ℝ} {L : List ℝ} (c s : ℝ) (hs : M.Fac k s) (h : M.Approx m v L) :
    M.Approx (m + k) (c * v * s) (L.map (c * ·)) := by
  induction h with
  | nil => exact Approx.nil.of_eq (by ring)
  | cons x t v L ht _ ih =>
    exact (Approx.cons (c * x) (t * s) _ _ (ht.mul hs) ih).of_eq (by ring)

theorem abs_sub_le {m : ℕ} {v : ℝ} {L : List ℝ} (h : M.Approx m v L) (hm : m * M.u < 1) :
    |v - L.sum| ≤ M.gamma m * (L.map (|·|)).sum := by
  induction h with
  | nil => simp
  | cons x t v L ht _ ih =>
    rw [List.sum_cons, List.map_cons, List.sum_cons, mul_add]
    have h1 : |x * t + v - (x + L.sum)| ≤ |(t - 1) * x| + |v - L.sum| := by
      rw [show x * t + v - (x + L.sum) = (t - 1) * x + (v - L.sum) by ring]
      exact abs_add_le _ _
    have h2 : |(t - 1) * x| ≤ M.gamma m * |x| := by
      rw [abs_mul]
      exact mul_le_mul_of_nonneg_right (ht.abs_sub_one_le hm) (abs_nonneg _)
    linarith

end FlModel.Approx

/-- `v` is a sum with exact value `s` and mass `A` (the sum of the magnitudes of its terms), every
term multiplied by an accumulated factor of at most `m` roundings -/
def FlModel.Rounded (M : FlModel) (m : ℕ) (v s A : ℝ) : Prop :=
  ∃ L : List ℝ, M.Approx m v L ∧ L.sum = s ∧ (L.map (|·|)).sum = A

namespace FlModel.Rounded
variable {m m₁ m₂ k : ℕ} {v v' s A s' A' c : ℝ} {x y w : Fl M} {s₁ s₂ A₁ A₂ : ℝ}

theorem of_eq (h : M.Rounded m v s A) (es : s = s') (eA : A = A') : M.Rounded m v s' A' :=
  es ▸ eA ▸ h

theorem of_val (h : M.Rounded m v s A) (e : v' = v) : M.Rounded m v' s A := e ▸ h

theorem zero : M.Rounded 0 0 0 0 := ⟨[], Approx.nil, rfl, rfl⟩

theorem single (x : ℝ) : M.Rounded 0 x x |x| := ⟨[x], Approx.single x, by simp, by simp⟩

theorem mono (h : M.Rounded m v s A) (hm : m ≤ m₁) : M.Rounded m₁ v s A := by
  obtain ⟨L, hL, e1, e2⟩ := h
  exact ⟨L, hL.mono hm, e1, e2⟩

theorem of_scaled (h : M.Scaled k v c) : M.Rounded k v c |c| := by
  obtain ⟨t, ht, hv⟩ := h
  exact ⟨[c], (Approx.cons c t 0 [] ht Approx.nil).of_eq (by rw [hv]; ring), by simp, by simp⟩

theorem add (hx : M.Rounded m v s₁ A₁) (hy : M.Rounded m v' s₂ A₂) :
    M.Rounded m (v + v') (s₁ + s₂) (A₁ + A₂) := by
  obtain ⟨L₁, h₁, rfl, rfl⟩ := hx
  obtain ⟨L₂, h₂, rfl, rfl⟩ := hy
  exact ⟨L₁ ++ L₂, h₁.append h₂, List.sum_append, by rw [List.map_append, List.sum_append]⟩

theorem smul {t : ℝ} (c : ℝ) (ht : M.Fac k t) (h : M.Rounded m v s A) :
    M.Rounded (m + k) (c * v * t) (c * s) (|c| * A) := by
  obtain ⟨L, hL, rfl, rfl⟩ := h
  exact ⟨L.map (c * ·), hL.smul c t ht, list_sum_map_mul c L, list_abs_sum_map_mul c L⟩

theorem add_fl (hx : M.Rounded m₁ x.val s₁ A₁) (hy : M.Rounded m₂ y.val s₂ A₂) :
    M.Rounded (max m₁ m₂ + 1) (x + y).val (s₁ + s₂) (A₁ + A₂) := by
  obtain ⟨d, hd, hadd⟩ := Fl.add_fac x y
  exact ((((hx.mono (le_max_left _ _)).add (hy.mono (le_max_right _ _))).smul 1 hd).of_val
    (by rw [hadd, one_mul])).of_eq (one_mul _) (by rw [abs_one, one_mul])

theorem sub_fl (hx : M.Rounded m₁ x.val s₁ A₁) (hy : M.Rounded m₂ y.val s₂ A₂) :
    M.Rounded (max m₁ m₂ + 1) (x - y).val (s₁ - s₂) (A₁ + A₂) := by
  obtain ⟨d, hd, hsub⟩ := Fl.sub_fac x y
  have hy' := (hy.smul (-1) fac_zero_one).mono (le_max_right m₁ m₂)
  exact ((((hx.mono (le_max_left _ _)).add hy').smul 1 hd).of_val (by rw [hsub]; ring)).of_eq
    (by ring) (by rw [abs_neg, abs_one, one_mul, one_mul])

theorem fl_mul (hw : M.Scaled k w.val c) (hx : M.Rounded m x.val s A) :
    M.Rounded (m + k + 1) (w * x).val (c * s) (|c| * A) := by
  obtain ⟨t, ht, hw⟩ := hw
  obtain ⟨d, hd, hmul⟩ := Fl.mul_fac w x
  exact (hx.smul c (ht.mul hd)).of_val (by rw [hmul, hw]; ring)

theorem div_fl (hw : M.Scaled k w.val c) (hx : M.Rounded m x.val s A) :
    M.Rounded (m + k + 1) (x / w).val (s / c) (A / |c|) := by
  obtain ⟨t, ht, hw⟩ := hw
  obtain ⟨d, hd, hdiv⟩ := Fl.div_fac x w
  exact ((hx.smul c⁻¹ (ht.inv.mul hd)).of_val (by rw [hdiv, hw]; ring)).of_eq
    (by ring) (by rw [abs_inv]; ring)

theorem of_weights (n : ℕ) (e t : ℕ → ℝ) (ht : ∀ k, k < n → M.Fac m (t k)) :
    M.Rounded m (∑ k ∈ range n, e k * t k) (∑ k ∈ range n, e k) (∑ k ∈ range n, |e k|) := by
  induction n with
  | zero => exact zero.mono (Nat.zero_le m)
  | succ n ih =>
    rw [sum_range_succ, sum_range_succ, sum_range_succ]
    exact (ih fun k hk => ht k (by omega)).add (of_scaled ⟨t n, ht n (by omega), rfl⟩)

theorem abs_sub_le (h : M.Rounded m v s A) (hm : m ≤ m₁) (hu : m₁ * M.u < 1) (hA : A ≤ A') :
    |v - s| ≤ M.gamma m₁ * A' := by
  obtain ⟨L, hL, rfl, rfl⟩ := h
  exact ((hL.mono hm).abs_sub_le hu).trans (mul_le_mul_of_nonneg_left hA (M.gamma_nonneg hu))

end FlModel.Rounded

end SV
