import SV.Model.C10
import SV.Lemmas.Mat
import SV.Lemmas.Subst
import SV.Lemmas.LU
import SV.Props.C08
import SV.Props.C09
/-!
Any scalar type: the factors `plu` returns are `n × n`, so the column loop of `Arr2D::inverse` cannot
panic and `inverse` is an explicit function of the factorisation (`solution`).  Linearly ordered
fields: every solved column `x_j` satisfies `L (U x_j) = P e_j` (the two substitution-soundness
theorems of C08); with `L U = P A` (`plu_correct`) that is `A B = 1`.
-/

namespace SV.C10
open SV SV.C09 SV.Subst Finset

section columns
variable {S : Type}

theorem assemble_get [Inhabited S] (n : Nat) (xs : List (Array S)) {i j : Nat} (hi : i < n)
    (hj : j < n) :
    (assemble n xs).get i j = vget (xs.toArray.getD j #[]) i := by
  unfold assemble
  exact Mat.get_tab _ hi hj

variable [Inhabited S] [Add S] [Sub S] [Mul S] [Div S] [OfNat S 0]

/-- what pass `j` of the column loop computes inside the preconditions of the two substitutions:
the backward sweep with `U` applied to the forward sweep with `L` of `P e_j` -/
def solvedColumn (L U P : Mat S) (n j : Nat) : Array S :=
  backCore U n (fwdCore L n (vtab n fun i => P.get i j) (vtab n fun _ => 0)) (vtab n fun _ => 0)

theorem column_ok {L U P : Mat S} {n j : Nat} {x : Array S} (hx : column L U P n j = .ok x) :
    ∃ y, forwardSubst L n (vtab n fun i => P.get i j) (vtab n fun _ => 0) = .ok y ∧
      backSubst U n y (vtab n fun _ => 0) = .ok x := by
  unfold column at hx
  split_ifs at hx
  dsimp only at hx
  cases hy : forwardSubst L n (vtab n fun i => P.get i j) (vtab n fun _ => 0) with
  | ok y => exact ⟨y, rfl, by simpa only [hy] using hx⟩
  | err e => exact nomatch e
  | panic => simp [hy] at hx

/-- inside the loop (`j < n`, so `n ≥ 1`) and with `n × n` factors neither substitution panics -/
theorem column_eq_ok {L U P : Mat S} {n j : Nat}
    (hL : n ≤ L.h ∧ n ≤ L.w) (hU : n ≤ U.h ∧ n ≤ U.w) (hP : n ≤ P.h ∧ n ≤ P.w) (hj : j < n) :
    column L U P n j = .ok (solvedColumn L U P n j) := by
  unfold column
  rw [if_neg (by omega)]
  dsimp only
  rw [forwardSubst_eq_ok _ _ _ _ hL.1 hL.2 (by simp) (by simp)]
  dsimp only
  rw [backSubst_eq_ok _ _ _ _ (by omega) hU.1 hU.2 (by rw [(fwdCore_eqns L _ _ n (vtab_size _ _).ge).1, vtab_size]) (by simp)]
  rfl

theorem colsFrom_eq_ok {L U P : Mat S} {n : Nat} {f : Nat → Array S}
    (hcol : ∀ j, j < n → column L U P n j = .ok (f j)) :
    ∀ k j, j + k ≤ n → colsFrom L U P n k j = .ok ((List.range' j k).map f) := by
  intro k
  induction k with
  | zero => intro j _; rfl
  | succ k ih =>
    intro j h
    rw [colsFrom, hcol j (by omega), ih (j + 1) (by omega)]
    rfl

/-- the array `inverse` returns for the factors `(L, U, P)`: column `j` is `solvedColumn … j` -/
def solution (L U P : Mat S) (n : Nat) : Mat S :=
  assemble n ((List.range' 0 n).map (solvedColumn L U P n))

theorem solution_shape (L U P : Mat S) (n : Nat) :
    (solution L U P n).h = n ∧ (solution L U P n).w = n ∧ (solution L U P n).WF := by
  unfold solution assemble
  exact ⟨rfl, rfl, Mat.tab_WF _ _ _⟩

theorem solution_get (L U P : Mat S) {n i j : Nat} (hi : i < n) (hj : j < n) :
    (solution L U P n).get i j = vget (solvedColumn L U P n j) i := by
  unfold solution
  rw [assemble_get n _ hi hj]
  simp [hj]

end columns

section anyScalar
variable {S : Type} [Inhabited S] [Add S] [Sub S] [Mul S] [Div S] [Neg S] [OfNat S 0] [OfNat S 1]
  [LT S] [DecidableRel (α := S) (· < ·)]

theorem plu_shapes {eps : S} {A L U P : Mat S} (h : plu eps A = .ok (L, U, P)) :
    A.h = A.w ∧ L.h = A.h ∧ L.w = A.h ∧ U.h = A.h ∧ U.w = A.h ∧ P.h = A.h ∧ P.w = A.h := by
  obtain ⟨hsq, lu, σ, hE, rfl, rfl⟩ := plu_ok_ent h
  exact ⟨hsq, rfl, rfl, rfl, rfl, hE.ph, hE.pw⟩

theorem column_of_plu {eps : S} {A L U P : Mat S} (hp : plu eps A = .ok (L, U, P)) {j : Nat}
    (hj : j < A.h) : column L U P A.h j = .ok (solvedColumn L U P A.h j) := by
  obtain ⟨_, h1, h2, h3, h4, h5, h6⟩ := plu_shapes hp
  exact column_eq_ok ⟨h1.ge, h2.ge⟩ ⟨h3.ge, h4.ge⟩ ⟨h5.ge, h6.ge⟩ hj

theorem inverse_of_nonsquare {eps : S} {A : Mat S} (h : A.h ≠ A.w) :
    inverse eps A = .err .nonSquare := by
  unfold inverse
  rw [if_pos h]

theorem inverse_of_plu_err {eps : S} {A : Mat S} (hsq : A.h = A.w) {e : DecompErr}
    (hp : plu eps A = .err e) : inverse eps A = .err .singular := by
  unfold inverse
  rw [if_neg (not_not.mpr hsq)]
  simp only [hp]

theorem inverse_of_plu {eps : S} {A L U P : Mat S} (hp : plu eps A = .ok (L, U, P)) :
    inverse eps A = .ok (solution L U P A.h) := by
  unfold inverse
  rw [if_neg (not_not.mpr (plu_shapes hp).1)]
  simp only [hp, colsFrom_eq_ok (fun _ => column_of_plu hp) A.h 0 (by omega)]
  rfl

theorem inverse_cases (eps : S) (A : Mat S) :
    inverse eps A = .err .nonSquare ∨ inverse eps A = .err .singular ∨
      ∃ L U P, plu eps A = .ok (L, U, P) ∧ inverse eps A = .ok (solution L U P A.h) := by
  by_cases hsq : A.h = A.w
  · cases hp : plu eps A with
    | ok v => exact Or.inr (Or.inr ⟨v.1, v.2.1, v.2.2, rfl, inverse_of_plu hp⟩)
    | err e => exact Or.inr (Or.inl (inverse_of_plu_err hsq hp))
    | panic => exact absurd hp (plu_ne_panic eps A)
  · exact Or.inl (inverse_of_nonsquare hsq)

theorem inverse_ne_panic (eps : S) (A : Mat S) : inverse eps A ≠ .panic := by
  rcases inverse_cases eps A with h | h | ⟨_, _, _, _, h⟩ <;> rw [h] <;> simp

theorem inverse_ok {eps : S} {A B : Mat S} (h : inverse eps A = .ok B) :
    ∃ L U P, plu eps A = .ok (L, U, P) ∧ B = solution L U P A.h := by
  rcases inverse_cases eps A with h' | h' | ⟨L, U, P, hp, h'⟩
  · rw [h'] at h; cases h
  · rw [h'] at h; cases h
  · rw [h'] at h
    exact ⟨L, U, P, hp, (Outcome.ok.inj h).symm⟩

theorem inverse_ok_columns {eps : S} {A B : Mat S} (h : inverse eps A = .ok B) :
    A.h = A.w ∧ B.h = A.h ∧ B.w = A.h ∧ B.WF ∧ ∃ L U P, plu eps A = .ok (L, U, P) ∧
      ∀ j, j < A.h → ∃ x, column L U P A.h j = .ok x ∧ ∀ i, i < A.h → B.get i j = vget x i := by
  obtain ⟨L, U, P, hp, rfl⟩ := inverse_ok h
  obtain ⟨s1, s2, s3⟩ := solution_shape L U P A.h
  exact ⟨(plu_shapes hp).1, s1, s2, s3, L, U, P, hp, fun j hj =>
    ⟨_, column_of_plu hp hj, fun i hi => solution_get L U P hi hj⟩⟩

theorem inverse_ok_of_plu {eps : S} {A L U P : Mat S} (hp : plu eps A = .ok (L, U, P)) :
    ∃ xs, colsFrom L U P A.h A.h 0 = .ok xs ∧ inverse eps A = .ok (assemble A.h xs) :=
  ⟨_, colsFrom_eq_ok (fun _ => column_of_plu hp) A.h 0 (by omega), inverse_of_plu hp⟩

/-- the empty matrix: `Ok` of the empty matrix (the column loop does not run, so the `size - 1` of
`back_substitution` is never evaluated) -/
theorem inverse_empty (eps : S) (A : Mat S) (hh : A.h = 0) (hw : A.w = 0) :
    inverse eps A = .ok ⟨0, 0, #[]⟩ := by
  unfold inverse
  rw [if_neg (by omega)]
  unfold plu
  rw [if_neg (by omega)]
  simp only [hh, iter, colsFrom]
  rfl

end anyScalar

section field
variable {K : Type} [Field K] [LinearOrder K] [IsStrictOrderedRing K] [Inhabited K]
open SV.Props.C08 SV.Props.C09

omit [LinearOrder K] [IsStrictOrderedRing K] in
theorem entries_of_toMatrix_mul_eq_one {M N : Mat K} {n : Nat}
    (h : M.toMatrix n n * N.toMatrix n n = 1) (r j : Nat) (hr : r < n) (hj : j < n) :
    ∑ k ∈ range n, M.get r k * N.get k j = if r = j then 1 else 0 := by
  have := congrFun (congrFun h ⟨r, hr⟩) ⟨j, hj⟩
  simp only [Matrix.mul_apply, Matrix.one_apply, Fin.mk.injEq] at this
  rw [← this, Finset.sum_range]
  rfl

theorem column_solves {L U P : Mat K} {n j : Nat} {x : Array K} (hx : column L U P n j = .ok x)
    (hL : UnitLower n L) (hU : Upper n U) (hd : ∀ i, i < n → U.get i i ≠ 0) :
    ∀ i, i < n →
      ∑ m ∈ range n, L.get i m * ∑ k ∈ range n, U.get m k * vget x k = P.get i j := by
  obtain ⟨y, hy, hx⟩ := column_ok hx
  have hfw := forwardSubst_sound L n _ _ y hy
    (fun i hi => by rw [hL.1 i hi]; exact one_ne_zero)
    (fun i j hi hij hj => hL.2 i j hi hj hij)
  have hbw := backSubst_sound U n y _ x hx hd (fun i j hi hji => hU i j hi (by omega) hji)
  intro i hi
  rw [← vget_vtab (fun i => P.get i j) hi, ← hfw i hi]
  exact Finset.sum_congr rfl fun m hm => by rw [hbw m (Finset.mem_range.1 hm)]

/-- at any name `n` of `A.h`: `inverse_involutive` and `inverse_mul` use it at the height of another
array -/
theorem inverse_toMatrix {eps : K} (heps : 0 < eps) {A B : Mat K} (h : inverse eps A = .ok B)
    {n : Nat} (hn : A.h = n) : A.toMatrix n n * B.toMatrix n n = 1 := by
  subst hn
  obtain ⟨_, _, _, _, L, U, P, hplu, hcols⟩ := inverse_ok_columns h
  obtain ⟨_, _, _, _, _, _, hLow, hUp, _, _, hpiv⟩ := plu_correct heps hplu
  obtain ⟨σ, hP, _, hLU⟩ := plu_toMatrix heps hplu
  have hd : ∀ i, i < A.h → U.get i i ≠ 0 := fun i hi =>
    abs_pos.1 (lt_of_lt_of_le heps (hpiv i hi))
  -- column by column, `L (U B) = P`
  have hLUB : L.toMatrix A.h A.h * (U.toMatrix A.h A.h * B.toMatrix A.h A.h)
      = P.toMatrix A.h A.h := by
    funext i j
    obtain ⟨x, hx, hB⟩ := hcols j j.isLt
    simp only [Matrix.mul_apply, Mat.toMatrix, hB, Fin.is_lt]
    rw [← column_solves hx hLow hUp hd i i.isLt, Finset.sum_range]
    exact Finset.sum_congr rfl fun m _ => by rw [Finset.sum_range]
  -- so `(P A) B = L U B = P`; row `i` of this equation is row `σ i` of `A B = 1`
  have hPAB : (A.toMatrix A.h A.h).submatrix σ id * B.toMatrix A.h A.h = σ.permMatrix K := by
    rw [← hLU, Matrix.mul_assoc, hLUB, hP]
  funext r j
  obtain ⟨i, rfl⟩ := σ.surjective r
  refine (congrFun (congrFun hPAB i) j).trans ?_
  simp only [Equiv.Perm.permMatrix, PEquiv.toMatrix_apply, Equiv.toPEquiv_apply, Option.mem_def,
    Option.some.injEq, Matrix.one_apply]

theorem inverse_inv {eps : K} (heps : 0 < eps) {A B : Mat K} (h : inverse eps A = .ok B)
    {n : Nat} (hn : A.h = n) : B.toMatrix n n = (A.toMatrix n n)⁻¹ :=
  (Matrix.inv_eq_right_inv (inverse_toMatrix heps h hn)).symm

end field
end SV.C10
