import SV.Model.C19
/-!
Lemmas for C19: the implied-multiplication pass.  It only inserts `·` tokens, and it inserts none next to an
operator, after `(` or a function name, or before `)`, so it can be computed piece by piece on a token list
put together from such pieces.
-/
namespace SV.C19
variable {N : Type}

theorem impliedMul_inserts (ts : List (Tok N)) :
    ts.Sublist (impliedMul ts) ∧ ∀ t ∈ impliedMul ts, t ∈ ts ∨ t = .op .cdot := by
  induction ts using impliedMul.induct with
  | case1 a b rest hd ih =>
    rw [impliedMul, if_pos hd]
    refine ⟨(ih.1.cons _).cons_cons _, ?_⟩
    intro t ht
    rcases List.mem_cons.mp ht with rfl | ht
    · left; simp
    · rcases List.mem_cons.mp ht with rfl | ht
      · right; rfl
      · rcases ih.2 t ht with h | h
        · left; exact List.mem_cons_of_mem _ h
        · right; exact h
  | case2 a b rest hd ih =>
    rw [impliedMul, if_neg hd]
    refine ⟨ih.1.cons_cons _, ?_⟩
    intro t ht
    rcases List.mem_cons.mp ht with rfl | ht
    · left; simp
    · rcases ih.2 t ht with h | h
      · left; exact List.mem_cons_of_mem _ h
      · right; exact h
  | case3 l hl =>
    have : impliedMul l = l := by
      unfold impliedMul
      split
      · rename_i a b rest; exact absurd rfl (hl a b rest)
      · rfl
    rw [this]
    exact ⟨List.Sublist.refl _, fun t ht => Or.inl ht⟩

theorem needsDot_op_left (o : Op) (y : Tok N) : needsDot (.op o) y = false := rfl
theorem needsDot_lp_left (y : Tok N) : needsDot .lp y = false := rfl
theorem needsDot_func_left (f : Func) (y : Tok N) : needsDot (.func f) y = false := rfl
theorem needsDot_op (x : Tok N) (o : Op) : needsDot x (.op o) = false := by cases x <;> rfl
theorem needsDot_rp (x : Tok N) : needsDot x .rp = false := by cases x <;> rfl

theorem impliedMul_cons_of_not {a : Tok N} (h : ∀ y, needsDot a y = false) (l : List (Tok N)) :
    impliedMul (a :: l) = a :: impliedMul l := by
  cases l with
  | nil => rfl
  | cons b l => rw [impliedMul, if_neg (by rw [h]; exact Bool.false_ne_true)]

theorem impliedMul_append_of_not {t : Tok N} (h : ∀ x, needsDot x t = false) (a b : List (Tok N)) :
    impliedMul (a ++ t :: b) = impliedMul a ++ impliedMul (t :: b) := by
  induction a with
  | nil => rfl
  | cons x a ih =>
    cases a with
    | nil =>
      show impliedMul (x :: t :: b) = [x] ++ impliedMul (t :: b)
      rw [impliedMul, if_neg (by rw [h]; exact Bool.false_ne_true)]
      rfl
    | cons y a =>
      have ih' : impliedMul (y :: (a ++ t :: b)) = impliedMul (y :: a) ++ impliedMul (t :: b) := ih
      show impliedMul (x :: y :: (a ++ t :: b)) = impliedMul (x :: y :: a) ++ impliedMul (t :: b)
      rw [impliedMul, impliedMul, ih']
      split <;> rfl

theorem impliedMul_infix (a : List (Tok N)) (o : Op) (b : List (Tok N)) :
    impliedMul (a ++ .op o :: b) = impliedMul a ++ .op o :: impliedMul b := by
  rw [impliedMul_append_of_not (fun x => needsDot_op x o), impliedMul_cons_of_not (needsDot_op_left o)]

theorem impliedMul_par (ts : List (Tok N)) : impliedMul (.lp :: ts ++ [.rp]) = .lp :: impliedMul ts ++ [.rp] := by
  rw [List.cons_append, impliedMul_cons_of_not needsDot_lp_left, impliedMul_append_of_not needsDot_rp]
  rfl

theorem impliedMul_nil_iff (ts : List (Tok N)) : impliedMul ts = [] ↔ ts = [] := by
  cases ts with
  | nil => simp [impliedMul]
  | cons a rest =>
    cases rest with
    | nil => simp [impliedMul]
    | cons b rest => simp only [impliedMul]; split <;> simp

theorem impliedMul_getLast? (ts : List (Tok N)) : (impliedMul ts).getLast? = ts.getLast? := by
  have key (a : Tok N) {l : List (Tok N)} (h : l ≠ []) : (a :: l).getLast? = l.getLast? := by
    obtain ⟨c, cs, rfl⟩ := List.exists_cons_of_ne_nil h
    exact List.getLast?_cons_cons
  have hne (b : Tok N) (rest : List (Tok N)) : impliedMul (b :: rest) ≠ [] :=
    fun h => List.cons_ne_nil _ _ ((impliedMul_nil_iff _).mp h)
  induction ts using impliedMul.induct with
  | case1 a b rest hd ih =>
    rw [impliedMul, if_pos hd, key a (List.cons_ne_nil _ _), key _ (hne b rest), ih, key a (List.cons_ne_nil _ _)]
  | case2 a b rest hd ih =>
    rw [impliedMul, if_neg hd, key a (hne b rest), ih, key a (List.cons_ne_nil _ _)]
  | case3 l hl =>
    rw [impliedMul]
    exact fun a b rest h => hl a b rest h

theorem impliedMul_head? (ts : List (Tok N)) : (impliedMul ts).head? = ts.head? := by
  rcases ts with _ | ⟨a, _ | ⟨b, l⟩⟩
  · rfl
  · rfl
  · rw [impliedMul]; split <;> rfl

end SV.C19
