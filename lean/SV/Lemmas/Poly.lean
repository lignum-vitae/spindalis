import SV.Model.Poly
import SV.Lemmas.Sparse
import Mathlib.Algebra.Polynomial.Derivative
import Mathlib.Algebra.Polynomial.Degree.Lemmas
import Mathlib.Algebra.Polynomial.Eval.Defs
import Mathlib.Algebra.Field.Basic
import Mathlib.Tactic.Ring
/-!
Bridge from the dense coefficient lists of `SV.Model.Poly` (index = power) to Mathlib's `Polynomial`:
`ofCoeffs`.  Under it the `f64::powi` loop is `x ^ n`, `evalSimple` is `Polynomial.eval`, `simpleDeriv` is
`Polynomial.derivative`, and `simpleDeriv (simpleInteg cs) = cs` in characteristic 0.
-/
namespace SV.Poly
open Polynomial

section field
variable {K : Type} [Field K]

/-- The loop multiplies `a ^ b` onto the accumulator.  Fuel `b` suffices because `b` at least halves
in every round; `b = 0` is the case of an exhausted exponent. -/
theorem powiLoop_eq (fuel : Nat) (a : K) (b : Nat) (r : K) (hf : b ≤ fuel) :
    powiLoop fuel a b r = r * a ^ b := by
  induction fuel generalizing a b r with
  | zero => rw [Nat.le_zero.1 hf, powiLoop, pow_zero, mul_one]
  | succ fuel ih =>
    -- one round: the low bit of `b` goes into the accumulator, the rest is `(a²) ^ (b / 2)`
    have round : (if b % 2 = 1 then r * a else r) * (a * a) ^ (b / 2) = r * a ^ b := by
      conv_rhs => rw [← Nat.div_add_mod b 2, pow_add, pow_mul, pow_two]
      rcases Nat.mod_two_eq_zero_or_one b with h | h
      · rw [h, if_neg Nat.zero_ne_one, pow_zero, mul_one]
      · rw [h, if_pos rfl, pow_one, mul_assoc, mul_comm a]
    simp only [powiLoop]
    by_cases h2 : b / 2 = 0
    · rw [if_pos h2, ← round, h2, pow_zero, mul_one]
    · rw [if_neg h2, ih _ _ _ (by omega), round]

theorem powi_nat (x : K) (n : Nat) : powi x (n : Int) = x ^ n := by
  simp only [powi, Int.natAbs_natCast]
  rw [if_neg (Int.natCast_nonneg n).not_gt, powiLoop_eq _ _ _ _ (Nat.le_succ n), one_mul]

theorem powi_eq_zpow (x : K) (n : Int) : powi x n = x ^ n := by
  cases n with
  | ofNat m => rw [Int.ofNat_eq_natCast, powi_nat, zpow_natCast]
  | negSucc m =>
    simp only [powi, Int.natAbs_negSucc]
    rw [if_pos (Int.negSucc_lt_zero m), powiLoop_eq _ _ _ _ (Nat.le_succ _), one_mul, one_div,
      zpow_negSucc]

theorem derivFrom_length (k : ℕ) (cs : List K) : (derivFrom k cs).length = cs.length := by
  induction cs generalizing k with
  | nil => rfl
  | cons c cs ih => rw [derivFrom, List.length_cons, List.length_cons, ih]

theorem derivFrom_getElem? (k : ℕ) (cs : List K) (i : ℕ) :
    (derivFrom k cs)[i]? = cs[i]?.map (· * ((k + i : ℕ) : K)) := by
  induction cs generalizing k i with
  | nil => rfl
  | cons c cs ih =>
    cases i with
    | zero => rfl
    | succ i => rw [derivFrom, List.getElem?_cons_succ, List.getElem?_cons_succ, ih, Nat.add_right_comm,
        Nat.add_assoc]

/-- `coeff * power as f64`, coefficient first as in the code; the multiplier is the cast of the
natural number `k + 1`. -/
theorem simpleDeriv_getElem? (cs : List K) (k : ℕ) :
    (simpleDeriv cs)[k]? = cs[k + 1]?.map (· * ((k + 1 : ℕ) : K)) := by
  cases cs with
  | nil => rfl
  | cons c cs => rw [simpleDeriv, derivFrom_getElem?, List.getElem?_cons_succ, Nat.add_comm]

theorem simpleDeriv_getD (cs : List K) (k : ℕ) :
    (simpleDeriv cs).getD k 0 = cs.getD (k + 1) 0 * ((k + 1 : ℕ) : K) := by
  rw [List.getD_eq_getElem?_getD, List.getD_eq_getElem?_getD, simpleDeriv_getElem?]
  cases cs[k + 1]? with
  | none => exact (zero_mul _).symm
  | some x => rfl

theorem integFrom_length (k : ℕ) (cs : List K) : (integFrom k cs).length = cs.length := by
  induction cs generalizing k with
  | nil => rfl
  | cons c cs ih => rw [integFrom, List.length_cons, List.length_cons, ih]

theorem integFrom_getElem? (k : ℕ) (cs : List K) (i : ℕ) :
    (integFrom k cs)[i]? = cs[i]?.map (· / (((k + i : ℕ) : K) + 1)) := by
  induction cs generalizing k i with
  | nil => rfl
  | cons c cs ih =>
    cases i with
    | zero => rfl
    | succ i => rw [integFrom, List.getElem?_cons_succ, List.getElem?_cons_succ, ih, Nat.add_right_comm,
        Nat.add_assoc]

theorem derivFrom_integFrom [CharZero K] (k : ℕ) (cs : List K) :
    derivFrom (k + 1) (integFrom k cs) = cs := by
  induction cs generalizing k with
  | nil => rfl
  | cons c cs ih =>
    rw [integFrom, derivFrom, ih, Nat.cast_succ, div_mul_cancel₀ _ (Nat.cast_add_one_ne_zero k)]

theorem simpleDeriv_simpleInteg [CharZero K] (cs : List K) : simpleDeriv (simpleInteg cs) = cs :=
  derivFrom_integFrom 0 cs

/-- dense coefficient list, index = power, as a Mathlib polynomial (offset `k`) -/
noncomputable def ofCoeffsFrom : ℕ → List K → K[X]
  | _, [] => 0
  | k, c :: cs => C c * X ^ k + ofCoeffsFrom (k + 1) cs

noncomputable def ofCoeffs (cs : List K) : K[X] := ofCoeffsFrom 0 cs

theorem coeff_ofCoeffsFrom (k : ℕ) (cs : List K) (i : ℕ) :
    (ofCoeffsFrom k cs).coeff i = if k ≤ i then cs.getD (i - k) 0 else 0 := by
  induction cs generalizing k with
  | nil => rw [ofCoeffsFrom, coeff_zero, List.getD_nil, ite_self]
  | cons c cs ih =>
    rw [ofCoeffsFrom, coeff_add, coeff_C_mul_X_pow, ih]
    rcases lt_trichotomy i k with h | rfl | h
    · rw [if_neg h.ne, if_neg (by omega), if_neg (by omega), add_zero]
    · rw [if_pos rfl, if_neg (by omega), if_pos le_rfl, Nat.sub_self, add_zero]
      rfl
    · rw [if_neg h.ne', if_pos (by omega), if_pos (by omega), zero_add,
        show i - k = (i - (k + 1)) + 1 by omega]
      rfl

theorem coeff_ofCoeffs (cs : List K) (i : ℕ) : (ofCoeffs cs).coeff i = cs.getD i 0 := by
  simp [ofCoeffs, coeff_ofCoeffsFrom]

theorem natDegree_ofCoeffs_le (cs : List K) (n : ℕ) (h : cs.length ≤ n + 1) :
    (ofCoeffs cs).natDegree ≤ n := by
  rw [natDegree_le_iff_coeff_eq_zero]
  intro N hN
  rw [coeff_ofCoeffs, List.getD_eq_getElem?_getD, List.getElem?_eq_none (by omega)]; rfl

theorem ofCoeffsFrom_map_mul (c : K) (k : ℕ) (cs : List K) :
    ofCoeffsFrom k (cs.map (c * ·)) = C c * ofCoeffsFrom k cs := by
  induction cs generalizing k with
  | nil => simp [ofCoeffsFrom]
  | cons a cs ih => simp only [List.map_cons, ofCoeffsFrom, ih, map_mul]; ring

theorem ofCoeffs_zipWith_add (cs ds : List K) (hl : cs.length = ds.length) :
    ofCoeffs (List.zipWith (· + ·) cs ds) = ofCoeffs cs + ofCoeffs ds := by
  ext i
  simp only [coeff_add, coeff_ofCoeffs, List.getD_eq_getElem?_getD, List.getElem?_zipWith]
  by_cases h : i < cs.length
  · rw [List.getElem?_eq_getElem h, List.getElem?_eq_getElem (hl ▸ h)]; rfl
  · rw [List.getElem?_eq_none (not_lt.1 h), List.getElem?_eq_none (hl ▸ not_lt.1 h)]
    exact (add_zero (0 : K)).symm

theorem ofCoeffs_pad (cs : List K) (n : ℕ) : ofCoeffs (cs ++ List.replicate n 0) = ofCoeffs cs := by
  ext i
  simp only [coeff_ofCoeffs, List.getD_eq_getElem?_getD]
  by_cases h : i < cs.length
  · rw [List.getElem?_append_left h]
  · rw [List.getElem?_append_right (not_lt.1 h), List.getElem?_eq_none (l := cs) (not_lt.1 h),
      List.getElem?_replicate]
    split <;> rfl

theorem evalSimpleFrom_eq (x : K) (k : ℕ) (cs : List K) (acc : K) :
    evalSimpleFrom x k cs acc = acc + (ofCoeffsFrom k cs).eval x := by
  induction cs generalizing k acc with
  | nil => rw [evalSimpleFrom, ofCoeffsFrom, eval_zero, add_zero]
  | cons c cs ih =>
    rw [evalSimpleFrom, ih, powi_nat, ofCoeffsFrom, eval_add, eval_mul, eval_C, eval_pow, eval_X,
      add_assoc]

theorem evalSimple_eq (cs : List K) (x : K) : evalSimple cs x = (ofCoeffs cs).eval x := by
  rw [evalSimple, evalSimpleFrom_eq, zero_add, ofCoeffs]

theorem eval_ofCoeffs (cs : List K) (x : K) :
    (ofCoeffs cs).eval x = ∑ k ∈ Finset.range cs.length, cs.getD k 0 * x ^ k := by
  cases cs with
  | nil => rw [ofCoeffs, ofCoeffsFrom, eval_zero, List.length_nil, Finset.range_zero, Finset.sum_empty]
  | cons c cs =>
    rw [eval_eq_sum_range' (Nat.lt_succ_of_le (natDegree_ofCoeffs_le (c :: cs) cs.length le_rfl))]
    exact Finset.sum_congr rfl fun k _ => by rw [coeff_ofCoeffs]

theorem ofCoeffsFrom_eval_zero (k : ℕ) (cs : List K) : (ofCoeffsFrom (k + 1) cs).eval 0 = 0 := by
  rw [← coeff_zero_eq_eval_zero, coeff_ofCoeffsFrom, if_neg (Nat.not_succ_le_zero k)]

/-- coefficient by coefficient: `simpleDeriv_getD` is `Polynomial.coeff_derivative` -/
theorem ofCoeffs_simpleDeriv (cs : List K) :
    ofCoeffs (simpleDeriv cs) = derivative (ofCoeffs cs) := by
  ext k
  rw [coeff_derivative, coeff_ofCoeffs, coeff_ofCoeffs, simpleDeriv_getD, Nat.cast_succ]

theorem derivative_ofCoeffs_simpleInteg [CharZero K] (cs : List K) :
    derivative (ofCoeffs (simpleInteg cs)) = ofCoeffs cs := by
  rw [← ofCoeffs_simpleDeriv, simpleDeriv_simpleInteg]

end field

end SV.Poly
