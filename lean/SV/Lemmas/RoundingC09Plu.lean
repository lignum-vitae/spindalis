import SV.Lemmas.RoundingC09
/-!
The partial-pivoting factorisation `SV.C09.plu` (`lu_pivot_decomposition`), in the two steps of
`SV.Lemmas.RoundingC09`:

* **bookkeeping, for every scalar type** (`PluEnt`, `plu_ok_ent`): with `σ` the row permutation
  applied so far (row `r` of the work array started as row `σ r` of the input), every entry of the
  work array is *literally* what the code evaluated for it, in terms of the current array:
  an entry that is still a "U / Schur complement" entry went through `s = min r i` updates
  `lu[r][c] -= lu[r][k] * lu[k][c]` (`subFrom`), a finished multiplier was divided by its pivot
  after `c` of them.  Row swaps move whole rows, values and expressions alike.
* **rounding, at `Fl M`** (`subFrom_weights_of`, `plu_entry_weights`): such a chain of updates satisfies

      a = Σ_{k<s} f k · g k · t k  +  x · t s        exactly,

  where the term `k` carries `k + 1` roundings (its multiplication and the subtractions `0 … k−1`
  that came before it, moved to the other side) and the result `x` the `s` subtractions it went
  through; a multiplier takes one more for its division.  In the end every weight has at most
  `n − 1` roundings (there is no `0.0 + …` here, and the last row/column is never eliminated *from*).
-/

namespace SV.C09
open SV Finset


section anyScalar
variable {S : Type} [Inhabited S] [Sub S] [Mul S] [Div S] [Neg S] [OfNat S 0] [OfNat S 1]
  [LT S] [DecidableRel (α := S) (· < ·)]

omit [Div S] [Neg S] [LT S] [DecidableRel (α := S) (· < ·)] in
/-- the final split reads its own entries: the products `l_rk·u_kc` over `k < m ≤ min r c` are those of
the packed array -/
theorem subFrom_split (n : Nat) (lu : Mat S) (a : S) {r c m : Nat} (hr : r < n) (hc : c < n)
    (hmr : m ≤ r) (hmc : m ≤ c) :
    subFrom a m (fun k => (splitL n lu).get r k * (splitU n lu).get k c)
      = subFrom a m fun k => lu.get r k * lu.get k c :=
  subFrom_congr _ _ _ _ fun k hk => by
    rw [splitL_get n lu hr (by omega), if_neg (by omega), if_pos (by omega),
      splitU_get n lu (by omega) hc, if_pos (by omega)]

theorem PluEnt.split_up {n : Nat} {A : Mat S} {eps : S} {lu p : Mat S} {σ : Equiv.Perm ℕ}
    (h : PluEnt n A eps n (lu, p) σ) {r c : Nat} (hrc : r ≤ c) (hc : c < n) :
    (splitU n lu).get r c = subFrom (A.get (σ r) c) r
      fun k => (splitL n lu).get r k * (splitU n lu).get k c := by
  have hr : r < n := by omega
  rw [subFrom_split n lu _ hr hc (le_refl r) hrc, splitU_get n lu hr hc, if_pos hrc,
    h.up r c hr hc ((Nat.min_le_left r n).trans hrc), Nat.min_eq_left hr.le]

theorem PluEnt.split_lo {n : Nat} {A : Mat S} {eps : S} {lu p : Mat S} {σ : Equiv.Perm ℕ}
    (h : PluEnt n A eps n (lu, p) σ) {r c : Nat} (hcr : c < r) (hr : r < n) :
    (splitL n lu).get r c = subFrom (A.get (σ r) c) c
      (fun k => (splitL n lu).get r k * (splitU n lu).get k c) / (splitU n lu).get c c := by
  have hc : c < n := by omega
  rw [subFrom_split n lu _ hr hc hcr.le (le_refl c), splitL_get n lu hr hc, if_neg hcr.ne',
    if_pos hcr, splitU_get n lu hc hc, if_pos (le_refl c),
    h.lo r c hr (by rw [Nat.min_eq_left hr.le]; exact hcr)]

end anyScalar


section rounding
variable {M : FlModel}

/-- the chain of updates `x = (…((a − f 0·g 0) − f 1·g 1) … − f (s−1)·g (s−1))·e` with `e` a product of
`m` further rounding factors (`x = z·e`): `a = Σ_{k<s} f k·g k·t k + z·t s` exactly, the term `k`
carrying `k + 1` roundings and `z` the `s` subtractions and `m` more -/
theorem subFrom_weights_of (a : Fl M) (f g : ℕ → Fl M) (s m : ℕ) {z e : ℝ} (he : M.Fac m e)
    (hz : (subFrom a s fun k => f k * g k).val = z * e) :
    ∃ t : ℕ → ℝ, M.Fac (s + m) (t s) ∧ (∀ k, k < s → M.Fac (k + 1) (t k)) ∧
      a.val = ∑ k ∈ range s, (f k).val * (g k).val * t k + z * t s := by
  induction s generalizing z e m with
  | zero =>
    refine ⟨fun _ => e, by rwa [Nat.zero_add], fun k hk => absurd hk (Nat.not_lt_zero k), ?_⟩
    rw [Finset.sum_range_zero, zero_add, ← hz]
    rfl
  | succ s ih =>
    obtain ⟨d1, hd1, hmul⟩ := Fl.mul_fac (f s) (g s)
    obtain ⟨d, hd, hsub⟩ := Fl.sub_fac (subFrom a s fun k => f k * g k) (f s * g s)
    have hd0 : d ≠ 0 := hd.pos.ne'
    rw [subFrom_succ, hsub, hmul] at hz
    -- the value before the last update is `(f s·g s·d1 + z·e/d)`: apply the hypothesis to it
    obtain ⟨t, h1, h2, h3⟩ := ih 0 FlModel.fac_zero_one
      (z := (f s).val * (g s).val * d1 + z * (e * d⁻¹)) (by rw [mul_one]; field_simp; linarith)
    refine ⟨Function.update (Function.update t s (d1 * t s)) (s + 1) (e * d⁻¹ * t s), ?_,
      fun k hk => ?_, ?_⟩
    · rw [Function.update_self, show s + 1 + m = m + 1 + (s + 0) by omega]
      exact (he.mul hd.inv).mul h1
    · rw [Function.update_of_ne (by omega)]
      rcases Nat.lt_succ_iff_lt_or_eq.mp hk with hks | rfl
      · rw [Function.update_of_ne (by omega)]
        exact h2 k hks
      · rw [Function.update_self, Nat.add_comm]
        exact hd1.mul h1
    · have hs : ∑ k ∈ range s, (f k).val * (g k).val
            * Function.update (Function.update t s (d1 * t s)) (s + 1) (e * d⁻¹ * t s) k
          = ∑ k ∈ range s, (f k).val * (g k).val * t k :=
        Finset.sum_congr rfl fun k hk => by
          have := Finset.mem_range.1 hk
          rw [Function.update_of_ne (by omega), Function.update_of_ne (by omega)]
      rw [Finset.sum_range_succ, hs, Function.update_self, Function.update_of_ne (by omega),
        Function.update_self, h3]
      ring

/-- With `L = splitL lu`, `U = splitU lu` of the final packed
array and `m = min r c`: `A (σ r) c = Σ_{k ≤ m} L r k · U k c · t k` exactly, every weight an
accumulated factor of at most `n − 1` roundings (`k + 1` for the term `k < m`, `m` resp. `m + 1`
for the last one). -/
theorem plu_entry_weights {n : ℕ} {A : Mat (Fl M)} {eps : Fl M} (heps : 0 < eps.val)
    {lu p : Mat (Fl M)} {σ : Equiv.Perm ℕ} (h : PluEnt n A eps n (lu, p) σ) {r c : ℕ}
    (hr : r < n) (hc : c < n) :
    ∃ t : ℕ → ℝ, (∀ k ∈ range (min r c + 1), M.Fac (n - 1) (t k)) ∧
      (A.get (σ r) c).val = ∑ k ∈ range (min r c + 1),
        ((splitL n lu).get r k).val * ((splitU n lu).get k c).val * t k := by
  rcases le_or_gt r c with hrc | hcr
  · obtain ⟨t, h1, h2, h3⟩ := subFrom_weights_of (A.get (σ r) c) (fun k => (splitL n lu).get r k)
      (fun k => (splitU n lu).get k c) r 0 FlModel.fac_zero_one
      (by rw [← h.split_up hrc hc, mul_one])
    rw [min_eq_left hrc]
    refine ⟨t, fun k hk => ?_, ?_⟩
    · rcases Nat.lt_succ_iff_lt_or_eq.mp (Finset.mem_range.1 hk) with hkr | rfl
      · exact (h2 k hkr).mono (by omega)
      · exact h1.mono (by omega)
    · rw [Finset.sum_range_succ, splitL_get n lu hr hr, if_pos rfl, Fl.one_val, one_mul]
      exact h3
  · obtain ⟨d, hd, hdiv⟩ := Fl.div_fac
      (subFrom (A.get (σ r) c) c fun k => (splitL n lu).get r k * (splitU n lu).get k c)
      ((splitU n lu).get c c)
    have hd0 : d ≠ 0 := hd.pos.ne'
    have hne : ((splitU n lu).get c c).val ≠ 0 := by
      rw [splitU_get n lu hc hc, if_pos (le_refl c)]
      exact ne_zero_of_not_sabs_lt heps (h.piv c hc)
    obtain ⟨t, h1, h2, h3⟩ := subFrom_weights_of (A.get (σ r) c) (fun k => (splitL n lu).get r k)
      (fun k => (splitU n lu).get k c) c 1 hd.inv
      (z := ((splitL n lu).get r c).val * ((splitU n lu).get c c).val)
      (by rw [h.split_lo hcr hr, hdiv]; field_simp)
    rw [min_eq_right hcr.le]
    refine ⟨t, fun k hk => ?_, ?_⟩
    · rcases Nat.lt_succ_iff_lt_or_eq.mp (Finset.mem_range.1 hk) with hkc | rfl
      · exact (h2 k hkc).mono (by omega)
      · exact h1.mono (by omega)
    · rw [Finset.sum_range_succ]
      exact h3

end rounding

end SV.C09
