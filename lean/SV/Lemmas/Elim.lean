import SV.Lemmas.Mat
import Mathlib.Algebra.BigOperators.Intervals
import Mathlib.LinearAlgebra.Matrix.Block
/-!
What the two eliminations (`SV.C08`, scaled pivoting, and `SV.C09.plu`) share: the pivot search is
one fold (`argmaxFrom`; `pivotSearch` and `pivotRow` are it by definition); a pivoting step is a
transposition that moves only rows not yet finished; a row of a triangular product is a short
sum; and the matrix after `i` steps — zeros below the diagonal in the columns `< i` — is singular
as soon as column `i` vanishes from the diagonal down, which is why a regular input never shows a
zero pivot after the search.  Last, the shape of every "accepted iff regular" statement about a
threshold (`ok_iff_of_refuse_accept`).
-/
namespace SV
open Finset

/-- a transposition `swap p i` with `i ≤ p < n` moves only rows of `[i, n)` -/
theorem swap_facts {n i p : Nat} (hip : i ≤ p) (hpn : p < n) (x : Nat) :
    (x < i → Equiv.swap p i x = x) ∧ (n ≤ x → Equiv.swap p i x = x) ∧
    (x < n → Equiv.swap p i x < n) ∧ min (Equiv.swap p i x) i = min x i := by
  rw [Equiv.swap_apply_def]
  split_ifs <;> omega

section argmax
variable {S : Type} [LT S] [DecidableRel (α := S) (· < ·)]

/-- the search loop of both pivoting routines: `(p, big)` starts at `(k, v k)` and is replaced by
`(i, v i)`, `i = k+1, …, n−1`, whenever `big < v i` (strict: the first maximum wins) -/
def argmaxFrom (v : ℕ → S) (n k : ℕ) : ℕ × S :=
  (List.range' (k + 1) (n - (k + 1))).foldl (fun acc i => if acc.2 < v i then (i, v i) else acc)
    (k, v k)

theorem argmaxFrom_range (v : ℕ → S) {n k : ℕ} (hk : k < n) :
    k ≤ (argmaxFrom v n k).1 ∧ (argmaxFrom v n k).1 < n := by
  have h : (argmaxFrom v n k).1 ∈ k :: List.range' (k + 1) (n - (k + 1)) :=
    argmax_fold_mem v _ (k, v k)
  rw [List.mem_cons, List.mem_range'_1] at h
  omega

theorem argmaxFrom_max {α : Type} [LinearOrder α] (key : S → α)
    (hkey : ∀ a b : S, a < b ↔ key a < key b) (v : ℕ → S) (n k : ℕ) :
    (argmaxFrom v n k).2 = v (argmaxFrom v n k).1 ∧
      ∀ i, k ≤ i → i < n → key (v i) ≤ key (v (argmaxFrom v n k).1) := by
  obtain ⟨h1, h2⟩ := argmax_fold key hkey v (List.range' (k + 1) (n - (k + 1))) (k, v k) rfl
  exact ⟨h1, fun i hi1 hi2 => h2 i (by rw [List.mem_cons, List.mem_range'_1]; omega)⟩

end argmax

section sums
variable {K : Type} [AddCommMonoid K]

theorem sum_range_tail_zero {n i : Nat} (hin : i ≤ n) (f : Nat → K)
    (h0 : ∀ k, i ≤ k → k < n → f k = 0) :
    ∑ k ∈ range n, f k = ∑ k ∈ range i, f k :=
  (Finset.sum_subset (Finset.range_subset_range.2 hin) fun k hk hk' =>
    h0 k (by simpa using hk') (mem_range.1 hk)).symm

/-- row `i` of a lower-triangular product: the terms right of the diagonal vanish -/
theorem sum_range_lower {n i : ℕ} (hi : i < n) (f : ℕ → K) (hz : ∀ j, i < j → j < n → f j = 0) :
    ∑ j ∈ range n, f j = ∑ j ∈ range i, f j + f i := by
  rw [← Finset.sum_range_succ]
  exact sum_range_tail_zero hi f hz

/-- row `i` of an upper-triangular product: the terms left of the diagonal vanish -/
theorem sum_range_upper {n i : ℕ} (hi : i < n) (f : ℕ → K) (hz : ∀ j, j < i → f j = 0) :
    ∑ j ∈ range n, f j = f i + ∑ j ∈ Ico (i + 1) n, f j := by
  rw [Finset.range_eq_Ico, ← Finset.sum_Ico_consecutive f (Nat.zero_le i) hi.le,
    Finset.sum_eq_zero fun j hj => hz j (Finset.mem_Ico.mp hj).2, zero_add,
    Finset.sum_eq_sum_Ico_succ_bot hi f]

end sums

/-- A matrix whose rows `≥ i` vanish left of column `i` (the shape after `i` elimination steps) and
in column `i` as well is singular: the trailing block has a zero column. -/
theorem det_stage_zero_column {K : Type} [CommRing K] {m i : ℕ} (hi : i < m) (w : ℕ → ℕ → K)
    (hlow : ∀ r c, i ≤ r → r < m → c < i → w r c = 0)
    (hz : ∀ r, i ≤ r → r < m → w r i = 0) : (Matrix.of fun r c : Fin m => w r c).det = 0 := by
  rw [Matrix.twoBlockTriangular_det' _ fun r : Fin m => i ≤ r.val]
  · rw [Matrix.det_eq_zero_of_column_eq_zero ⟨⟨i, hi⟩, le_refl i⟩, zero_mul]
    intro r
    exact hz r.val r.property r.val.isLt
  · intro r hr c hc
    exact hlow r.val c.val hr r.isLt (not_le.mp hc)

/-- Refusal at every positive threshold when `reg` fails, acceptance below some positive threshold
when it holds: below a positive threshold, acceptance is `reg`. -/
theorem ok_iff_of_refuse_accept {K : Type} [Field K] [LinearOrder K] [IsStrictOrderedRing K]
    {ok : K → Prop} {reg : Prop} (href : ¬ reg → ∀ e, 0 < e → ¬ ok e)
    (hacc : reg → ∃ e0, 0 < e0 ∧ ∀ e, 0 < e → e ≤ e0 → ok e) :
    ∃ e0 : K, 0 < e0 ∧ ∀ e, 0 < e → e ≤ e0 → (ok e ↔ reg) := by
  by_cases h : reg
  · obtain ⟨e0, h0, hok⟩ := hacc h
    exact ⟨e0, h0, fun e he hle => ⟨fun _ => h, fun _ => hok e he hle⟩⟩
  · exact ⟨1, one_pos, fun e he _ => ⟨fun hk => absurd hk (href h e he), fun hr => absurd hr h⟩⟩

end SV
