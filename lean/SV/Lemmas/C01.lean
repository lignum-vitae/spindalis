import SV.Model.C01
import SV.Lemmas.Text
import Mathlib.Algebra.BigOperators.Intervals
/-!
Grammar of the documented univariate language and the lemmas that tie it to the model
`SV.C01.parse` of `parse_simple_polynomial`.

Abstract syntax: a polynomial text is a list of terms `TermSyn = (neg, coef?, body)`; `render`
writes it without white space.  `TermSyn.renderPart` is the piece of the normalised text
(`-` → `+-`, split at `+`) that belongs to one term: the sign stays attached only if it is `-`.

The model is taken apart once: `parseTerm` is `parseCoef` on the text before the variable and
`parseTail` on the text after it, or `parseConst` where the variable does not occur (`parseTerm_var`,
`parseTerm_of_not_mem`); `parseTerms` succeeds iff every part does (`parseTerms_ok_iff`); `parse_ok`
is what an accepting run went through.  Everything else is stated about these pieces, in two
directions: the model on a rendering (`parts_render`, `parseTerm_render`, `find_render`,
`parse_render_eq`) and what it accepts is a rendering (`render_of_parts`, `parseTerm_inv`,
`parse_ok_inv`).
-/
namespace SV.C01
open SV SV.Text SV.Poly

/-- concrete test vectors are decided by the kernel: `rfl` would have the elaborator run the parser
(and decode every string literal) before the kernel does -/
instance : DecidableEq SParsed := fun a b =>
  decidable_of_iff (a.coeffs = b.coeffs ∧ a.var = b.var) (by cases a; cases b; simp)

/-- what follows the coefficient: nothing, the variable, or the variable with `^digits` -/
inductive Body where
  | const
  | var
  | varPow (digits : List Char)

/-- one signed term `[coefficient][variable][^digits]` -/
structure TermSyn where
  neg : Bool
  coef : Option UDec
  body : Body

def Body.pow : Body → Nat
  | .const => 0
  | .var => 1
  | .varPow ds => digitsVal ds

def Body.writesVar : Body → Bool
  | .const => false
  | _ => true

def TermSyn.pow (t : TermSyn) : Nat := t.body.pow

def coefValue : Option UDec → ℚ
  | none => 1
  | some u => u.value

/-- the signed coefficient the term denotes (an omitted coefficient is 1) -/
def TermSyn.value (t : TermSyn) : ℚ := (if t.neg then -1 else 1) * coefValue t.coef

/-- the grammar's side conditions: the spelling is a plain decimal, a constant term has a
coefficient, the exponent is a non-empty ASCII-digit text of value at most `cap` (MAX_POWER) -/
structure TermSyn.WF (cap : Nat) (t : TermSyn) : Prop where
  coef_wf : ∀ u, t.coef = some u → u.WF
  const_coef : t.body = .const → t.coef ≠ none
  exp_wf : ∀ ds, t.body = .varPow ds →
    ds ≠ [] ∧ (∀ c ∈ ds, isAsciiDigit c = true) ∧ digitsVal ds ≤ cap

def WellFormed (cap : Nat) (ts : List TermSyn) : Prop := ∀ t ∈ ts, t.WF cap

def Body.render (v : Char) : Body → List Char
  | .const => []
  | .var => [v]
  | .varPow ds => v :: '^' :: ds

def renderCoef : Option UDec → List Char
  | none => []
  | some u => u.render

/-- the term without its sign -/
def TermSyn.renderAbs (v : Char) (t : TermSyn) : List Char := renderCoef t.coef ++ t.body.render v

/-- the text of the polynomial without white space: the first term carries `-` if negative, `+` if
`leadPlus`, nothing otherwise; every later term carries `+` or `-` -/
def render (v : Char) (leadPlus : Bool) : List TermSyn → List Char
  | [] => []
  | t :: ts =>
    (if t.neg then ['-'] else if leadPlus then ['+'] else []) ++ t.renderAbs v ++
      ts.flatMap fun t => (if t.neg then '-' else '+') :: t.renderAbs v

def writesVar (ts : List TermSyn) : Bool := ts.any fun t => t.body.writesVar

/-- the largest power (0 for the empty list) -/
def maxPow (ts : List TermSyn) : Nat := ts.foldl (fun m t => max m t.pow) 0

/-- the piece of the normalised text that belongs to the term -/
def TermSyn.renderPart (v : Char) (t : TermSyn) : List Char :=
  (if t.neg then ['-'] else []) ++ t.renderAbs v

/-- the coefficient expression the model computes for the term -/
def TermSyn.num (t : TermSyn) : Num :=
  match t.coef with
  | none => if t.neg then Num.negOne else Num.one
  | some u => .dec ⟨t.neg, u.mant, u.fp.length⟩

theorem TermSyn.num_val (t : TermSyn) : t.num.val = t.value := by
  unfold TermSyn.num TermSyn.value coefValue
  rcases t with ⟨neg, _ | u, body⟩
  · cases neg <;> simp
  · simp only [Num.val_dec, Dec.val_mk]

/-- what the proofs need of the variable letter: it is none of the characters of numbers, signs and
`^`.  Every alphabetic character of a sane class qualifies. -/
def VarOK (v : Char) : Prop :=
  isAsciiDigit v = false ∧ v ≠ '.' ∧ v ≠ '+' ∧ v ≠ '-' ∧ v ≠ '^'

theorem VarOK.of_alpha {cc : CharClass} (hcc : cc.Sane) {v : Char} (hv : cc.isAlpha v = true) :
    VarOK v :=
  ⟨hcc.alpha_not_digit v hv, hcc.alpha_not_sym v hv⟩

theorem varOK_x : VarOK 'x' := by unfold VarOK; decide

section
variable {cc : CharClass} {cap : Nat} {v : Char} {lead : Bool} {ts : List TermSyn} {t : TermSyn}
  {varc : Option Char}

/-- a character of a term without sign: digit, `.`, `^` or the variable -/
def Plain (v c : Char) : Prop := isAsciiDigit c = true ∨ c = '.' ∨ c = '^' ∨ c = v

theorem Plain.ne_plus {v c : Char} (hv : VarOK v) (h : Plain v c) : c ≠ '+' := by
  rcases h with h | rfl | rfl | rfl
  · exact digit_ne_plus h
  · decide
  · decide
  · exact hv.2.2.1

theorem Plain.ne_dash {v c : Char} (hv : VarOK v) (h : Plain v c) : c ≠ '-' := by
  rcases h with h | rfl | rfl | rfl
  · exact digit_ne_dash h
  · decide
  · decide
  · exact hv.2.2.2.1

theorem Plain.alpha (hcc : cc.Sane) {v c : Char} (h : Plain v c)
    (hc : cc.isAlpha c = true) : c = v := by
  rcases h with h | h | h | h
  · rw [hcc.not_alpha (Or.inl h)] at hc; cases hc
  · rw [hcc.not_alpha (Or.inr (Or.inl h))] at hc; cases hc
  · rw [hcc.not_alpha (Or.inr (Or.inr (Or.inr (Or.inr h))))] at hc; cases hc
  · exact h

theorem mem_renderCoef {o : Option UDec} (h : ∀ u, o = some u → u.WF) {c : Char}
    (hc : c ∈ renderCoef o) : isAsciiDigit c = true ∨ c = '.' := by
  cases o with
  | none => cases hc
  | some u => exact UDec.mem_render (h u rfl) hc

theorem mem_renderAbs (ht : t.WF cap) {v c : Char} (hc : c ∈ t.renderAbs v) : Plain v c := by
  rcases List.mem_append.1 hc with h | h
  · exact (mem_renderCoef ht.coef_wf h).imp_right Or.inl
  · rcases hb : t.body with _ | _ | ds <;> rw [hb] at h
    · cases h
    · exact Or.inr (Or.inr (Or.inr (List.mem_singleton.1 h)))
    · rcases List.mem_cons.1 h with h | h
      · exact Or.inr (Or.inr (Or.inr h))
      · rcases List.mem_cons.1 h with h | h
        · exact Or.inr (Or.inr (Or.inl h))
        · exact Or.inl ((ht.exp_wf ds hb).2.1 c h)

theorem renderAbs_ne_nil (ht : t.WF cap) (v : Char) : t.renderAbs v ≠ [] := by
  unfold TermSyn.renderAbs
  rcases hc : t.coef with _ | u
  · rcases hb : t.body with _ | _ | ds
    · exact absurd hc (ht.const_coef hb)
    · simp [Body.render]
    · simp [Body.render]
  · simp [renderCoef, UDec.render_ne_nil (ht.coef_wf u hc)]

theorem plus_not_mem_renderAbs (ht : t.WF cap) (hv : VarOK v) :
    '+' ∉ t.renderAbs v := fun h => (mem_renderAbs ht h).ne_plus hv rfl

theorem dash_not_mem_renderAbs (ht : t.WF cap) (hv : VarOK v) :
    '-' ∉ t.renderAbs v := fun h => (mem_renderAbs ht h).ne_dash hv rfl

theorem plus_not_mem_renderPart (ht : t.WF cap) (hv : VarOK v) : '+' ∉ t.renderPart v := by
  intro h
  rcases List.mem_append.1 h with h | h
  · cases t.neg <;> simp at h
  · exact plus_not_mem_renderAbs ht hv h

theorem renderPart_ne_nil (ht : t.WF cap) (v : Char) : t.renderPart v ≠ [] := by
  simp [TermSyn.renderPart, renderAbs_ne_nil ht v]

theorem renderPart_ne_dash (ht : t.WF cap) (hv : VarOK v) : t.renderPart v ≠ ['-'] := by
  unfold TermSyn.renderPart
  cases t.neg with
  | true => simpa using renderAbs_ne_nil ht v
  | false =>
    intro h
    exact dash_not_mem_renderAbs ht hv (by rw [show t.renderAbs v = ['-'] from h]; simp)

theorem writesVar_of_mem_renderAbs (ht : t.WF cap)
    (hv : VarOK v) (h : v ∈ t.renderAbs v) : t.body.writesVar = true := by
  rcases List.mem_append.1 h with h | h
  · rcases mem_renderCoef ht.coef_wf h with h | h
    · rw [hv.1] at h; cases h
    · exact absurd h hv.2.1
  · cases hb : t.body with
    | const => rw [hb] at h; cases h
    | var => rfl
    | varPow ds => rfl

theorem mem_renderAbs_of_writesVar (h : t.body.writesVar = true) (v : Char) :
    v ∈ t.renderAbs v := by
  apply List.mem_append_right
  cases hb : t.body with
  | const => rw [hb] at h; cases h
  | var => exact List.mem_singleton.2 rfl
  | varPow ds => exact List.mem_cons_self

theorem mem_render_cases {c : Char}
    (h : c ∈ render v lead ts) : c = '+' ∨ c = '-' ∨ ∃ t ∈ ts, c ∈ t.renderAbs v := by
  cases ts with
  | nil => cases h
  | cons t ts =>
    simp only [render, List.mem_append, List.mem_flatMap, List.mem_cons] at h
    rcases h with (h | h) | ⟨t', ht', h | h⟩
    · split at h
      · exact Or.inr (Or.inl (List.mem_singleton.1 h))
      · split at h
        · exact Or.inl (List.mem_singleton.1 h)
        · cases h
    · exact Or.inr (Or.inr ⟨t, List.mem_cons_self, h⟩)
    · split at h
      · exact Or.inr (Or.inl h)
      · exact Or.inl h
    · exact Or.inr (Or.inr ⟨t', List.mem_cons_of_mem _ ht', h⟩)

theorem mem_render_of_mem_renderAbs
    (ht : t ∈ ts) {c : Char} (h : c ∈ t.renderAbs v) : c ∈ render v lead ts := by
  cases ts with
  | nil => cases ht
  | cons t0 ts =>
    simp only [render, List.mem_append, List.mem_flatMap, List.mem_cons]
    rcases List.mem_cons.1 ht with rfl | ht
    · exact Or.inl (Or.inr h)
    · exact Or.inr ⟨t, ht, Or.inr h⟩

theorem mem_render (hts : WellFormed cap ts)
    {c : Char} (h : c ∈ render v lead ts) : c = '+' ∨ c = '-' ∨ Plain v c := by
  rcases mem_render_cases h with h | h | ⟨t, ht, h⟩
  · exact Or.inl h
  · exact Or.inr (Or.inl h)
  · exact Or.inr (Or.inr (mem_renderAbs (hts t ht) h))

theorem var_mem_render (h : writesVar ts = true) : v ∈ render v lead ts := by
  obtain ⟨t, ht, hb⟩ := List.any_eq_true.1 h
  exact mem_render_of_mem_renderAbs ht (mem_renderAbs_of_writesVar hb v)

theorem writesVar_of_mem (hv : VarOK v)
    (hts : WellFormed cap ts) (h : v ∈ render v lead ts) : writesVar ts = true := by
  rcases mem_render_cases h with h | h | ⟨t, ht, h⟩
  · exact absurd h hv.2.2.1
  · exact absurd h hv.2.2.2.1
  · exact List.any_eq_true.2 ⟨t, ht, writesVar_of_mem_renderAbs (hts t ht) hv h⟩

theorem not_writesVar (h : writesVar ts = false) : ∀ t ∈ ts, t.body = .const := by
  intro t ht
  have := List.any_eq_false.1 h t ht
  cases hb : t.body with
  | const => rfl
  | var => rw [hb] at this; exact absurd rfl this
  | varPow ds => rw [hb] at this; exact absurd rfl this

end

theorem dash_tail {cap : Nat} {v : Char} (hv : VarOK v) (ts : List TermSyn) (hts : WellFormed cap ts) :
    dashToPlusDash (ts.flatMap fun t => (if t.neg then '-' else '+') :: t.renderAbs v) =
      ts.flatMap fun t => '+' :: t.renderPart v := by
  induction ts with
  | nil => rfl
  | cons t ts ih =>
    have hd := dash_not_mem_renderAbs (hts t List.mem_cons_self) hv
    rw [List.flatMap_cons, List.flatMap_cons, dashToPlusDash_append,
      ih fun t' h' => hts t' (List.mem_cons_of_mem _ h')]
    congr 1
    unfold TermSyn.renderPart
    cases t.neg with
    | true => rw [if_pos rfl, dashToPlusDash_cons_dash, dashToPlusDash_of_not_mem hd]; rfl
    | false =>
      rw [if_neg Bool.false_ne_true, dashToPlusDash_cons_of_ne (by decide),
        dashToPlusDash_of_not_mem hd]
      rfl

/-- the normalised text of a rendering: the parts, each preceded by `+` (the first one only if the
text starts with a sign) -/
theorem normalize_render {cap : Nat} {v : Char} (hv : VarOK v) (lead : Bool) (t : TermSyn)
    (ts : List TermSyn) (hts : WellFormed cap (t :: ts)) :
    dashToPlusDash (render v lead (t :: ts)) =
      (if t.neg || lead then ['+'] else []) ++ t.renderPart v ++
        ts.flatMap fun t => '+' :: t.renderPart v := by
  unfold render
  rw [dashToPlusDash_append, dash_tail hv ts fun t' h' => hts t' (List.mem_cons_of_mem _ h'),
    dashToPlusDash_append,
    dashToPlusDash_of_not_mem (dash_not_mem_renderAbs (hts t List.mem_cons_self) hv)]
  congr 1
  unfold TermSyn.renderPart
  cases t.neg with
  | true => simp [dashToPlusDash]
  | false => cases lead <;> simp [dashToPlusDash]

section
variable {cc : CharClass} {cap : Nat} {v : Char} {lead : Bool} {ts : List TermSyn} {t : TermSyn}
  {varc : Option Char}

theorem parts_of_nil_head {w : List Char} {rest : List (List Char)}
    (h : splitOn '+' w = [] :: rest) : parts w = rest := by
  rw [parts, h]

theorem parts_of_ne_nil_head {w : List Char} {x : List Char} {rest : List (List Char)}
    (h : splitOn '+' w = x :: rest) (hx : x ≠ []) : parts w = x :: rest := by
  rw [parts, h]
  cases x with
  | nil => exact absurd rfl hx
  | cons c x => rfl

theorem mem_splitOn_of_mem_parts {w q : List Char} (h : q ∈ parts w) : q ∈ splitOn '+' w := by
  unfold parts at h
  split at h
  · rename_i rest heq; rw [heq]; exact List.mem_cons_of_mem _ h
  · exact h

theorem mem_parts_of_mem_tail {w x q : List Char} {rest : List (List Char)}
    (h : splitOn '+' w = x :: rest) (hq : q ∈ rest) : q ∈ parts w := by
  cases x with
  | nil => rwa [parts_of_nil_head h]
  | cons c x => exact parts_of_ne_nil_head h (List.cons_ne_nil c x) ▸ List.mem_cons_of_mem _ hq

/-- a non-empty text without `+` put anywhere into a text lengthens one part and leaves the others
as they are -/
theorem parts_insert (a b : List Char) :
    ∃ pre l f post, ∀ m, m ≠ [] → '+' ∉ m → parts (a ++ (m ++ b)) = pre ++ (l ++ (m ++ f)) :: post := by
  obtain ⟨pre, l, f, post, h⟩ := splitOn_insert '+' a b
  cases pre with
  | nil => exact ⟨[], l, f, post, fun m hm hp => parts_of_ne_nil_head (h m hp) (by simp [hm])⟩
  | cons p pre =>
    cases p with
    | nil => exact ⟨pre, l, f, post, fun m _ hp => parts_of_nil_head (h m hp)⟩
    | cons c p =>
      exact ⟨(c :: p) :: pre, l, f, post,
        fun m _ hp => parts_of_ne_nil_head (h m hp) (List.cons_ne_nil c p)⟩

theorem parts_render (hv : VarOK v) (lead : Bool) (ts : List TermSyn) (hts : WellFormed cap ts) :
    parts (dashToPlusDash (render v lead ts)) = ts.map (TermSyn.renderPart v) := by
  cases ts with
  | nil => rfl
  | cons t ts =>
    have ht : t.WF cap := hts t List.mem_cons_self
    have hqs : ∀ r ∈ ts.map (TermSyn.renderPart v), '+' ∉ r := by
      intro r hr
      obtain ⟨t', ht', rfl⟩ := List.mem_map.1 hr
      exact plus_not_mem_renderPart (hts t' (List.mem_cons_of_mem _ ht')) hv
    have hsplit := splitOn_join (t.renderPart v) _ (plus_not_mem_renderPart ht hv) hqs
    rw [List.flatMap_map] at hsplit
    rw [normalize_render hv lead t ts hts]
    by_cases hp : (t.neg || lead) = true
    · apply parts_of_nil_head
      rw [if_pos hp, List.append_assoc, List.singleton_append, splitOn, if_pos rfl, hsplit]
      rfl
    · rw [if_neg hp, List.nil_append]
      exact parts_of_ne_nil_head hsplit (renderPart_ne_nil ht v)

theorem parts_render_ok (hv : VarOK v) (ts : List TermSyn) (hts : WellFormed cap ts) :
    (ts.map (TermSyn.renderPart v)).any (fun p => decide (p = [] ∨ p = ['-'])) = false := by
  rw [List.any_eq_false]
  intro p hp
  obtain ⟨t, ht, rfl⟩ := List.mem_map.1 hp
  simp [renderPart_ne_nil (hts t ht) v, renderPart_ne_dash (hts t ht) hv]

theorem find?_unique {p : Char → Bool} {l : List Char} (hmem : v ∈ l) (hp : p v = true)
    (huniq : ∀ c ∈ l, p c = true → c = v) : l.find? p = some v := by
  obtain ⟨c, hc⟩ := Option.isSome_iff_exists.1 (List.find?_isSome.2 ⟨v, hmem, hp⟩)
  rw [hc, huniq c (List.mem_of_find?_eq_some hc) (List.find?_some hc)]

/-- the first alphabetic character of the normalised text of a rendering is the variable, if some
term writes it; there is none otherwise -/
theorem find_render (hcc : cc.Sane) (hts : WellFormed cap ts)
    (hva : writesVar ts = true → cc.isAlpha v = true) :
    (dashToPlusDash (render v lead ts)).find? cc.isAlpha = if writesVar ts then some v else none := by
  rw [find?_dashToPlusDash (hcc.not_alpha (by simp))]
  -- an alphabetic character of the text can only be the variable letter
  have key : ∀ c ∈ render v lead ts, cc.isAlpha c = true → c = v := by
    intro c hc hca
    rcases mem_render hts hc with rfl | rfl | hp
    · rw [hcc.not_alpha (by simp)] at hca; cases hca
    · rw [hcc.not_alpha (by simp)] at hca; cases hca
    · exact hp.alpha hcc hca
  cases hw : writesVar ts with
  | true => exact find?_unique (var_mem_render hw) (hva hw) key
  | false =>
    rw [if_neg Bool.false_ne_true, List.find?_eq_none]
    intro c hc hca
    obtain rfl := key c hc hca
    rw [writesVar_of_mem (VarOK.of_alpha hcc hca) hts hc] at hw
    cases hw

/-- the coefficient `parseTerm` reads from the text before the variable -/
def parseCoef (s : List Char) : Except PErr Num :=
  if s = [] ∨ s = ['+'] then .ok Num.one
  else if s = ['-'] then .ok Num.negOne
  else match parseDec s with
    | some d => .ok (.dec d)
    | none => .error .invalidCoefficient

/-- the power `parseTerm` reads from the text after the variable -/
def parseTail (cap : Nat) : List Char → Except PErr Nat
  | [] => .ok 1
  | '^' :: ds =>
    match parseUsizeCapped cap ds with
    | some p => .ok p
    | none => .error .invalidExponent
  | _ => .error .unexpectedChar

/-- what `parseTerm` does with a part in which the variable does not occur -/
def parseConst (s : List Char) : Except PErr (Num × Nat) :=
  match parseDec s with
  | some d => .ok (.dec d, 0)
  | none => .error .invalidConstant

theorem parseTerm_none (cap : Nat) (s : List Char) : parseTerm cap none s = parseConst s := rfl

theorem parseTerm_of_not_mem (cap : Nat) {s : List Char} (h : v ∉ s) :
    parseTerm cap (some v) s = parseConst s := by
  simp only [parseTerm, splitAtChar_of_not_mem h]
  rfl

theorem parseTail_cons_of_ne (cap : Nat) {a : Char} (ha : a ≠ '^') (r : List Char) :
    parseTail cap (a :: r) = .error .unexpectedChar := by
  unfold parseTail
  split
  · rename_i heq; cases heq
  · rename_i heq; cases heq; exact absurd rfl ha
  · rfl

/-- a part in which the variable occurs: the coefficient is read first, so its error wins -/
theorem parseTerm_var (cap : Nat) {c : List Char} (h : v ∉ c) (rest : List Char) :
    parseTerm cap (some v) (c ++ v :: rest) =
      match parseCoef c, parseTail cap rest with
      | .ok k, .ok p => .ok (k, p)
      | .error e, _ => .error e
      | _, .error e => .error e := by
  simp only [parseTerm, splitAtChar_append _ h]
  show (match parseCoef c with
    | Except.error e => _
    | Except.ok k => _ : Except PErr (Num × Nat)) = _
  cases parseCoef c with
  | error e => rfl
  | ok k =>
    cases rest with
    | nil => rfl
    | cons a r =>
      by_cases ha : a = '^'
      · subst ha
        simp only [parseTail]
        cases parseUsizeCapped cap r <;> rfl
      · simp only [parseTail_cons_of_ne cap ha]
        split
        · rename_i heq; cases heq
        · rename_i heq; cases heq; exact absurd rfl ha
        · rfl

theorem parseCoef_of_parseDec {s : List Char} {d : Dec} (h : parseDec s = some d) :
    parseCoef s = .ok (.dec d) := by
  have h1 : ¬ (s = [] ∨ s = ['+']) := by rintro (rfl | rfl) <;> cases h
  have h2 : s ≠ ['-'] := by rintro rfl; cases h
  rw [parseCoef, if_neg h1, if_neg h2, h]

theorem parseCoef_error {s : List Char} {e : PErr} (h : parseCoef s = .error e) :
    e = .invalidCoefficient := by
  unfold parseCoef at h
  split_ifs at h
  split at h <;> cases h
  rfl

theorem parseCoef_of_foreign {s : List Char} {c : Char} (hc : c ∈ s) (h1 : isAsciiDigit c = false)
    (h2 : c ≠ '.') (h3 : c ≠ '-') (h4 : c ≠ '+') : parseCoef s = .error .invalidCoefficient := by
  have e1 : ¬ (s = [] ∨ s = ['+']) := by
    rintro (rfl | rfl)
    · cases hc
    · exact h4 (List.mem_singleton.1 hc)
  have e2 : s ≠ ['-'] := by rintro rfl; exact h3 (List.mem_singleton.1 hc)
  rw [parseCoef, if_neg e1, if_neg e2, parseDec_of_foreign hc h1 h2 h3]

theorem parseConst_of_foreign {s : List Char} {c : Char} (hc : c ∈ s) (h1 : isAsciiDigit c = false)
    (h2 : c ≠ '.') (h3 : c ≠ '-') : parseConst s = .error .invalidConstant := by
  rw [parseConst, parseDec_of_foreign hc h1 h2 h3]

/-- a character that no coefficient and no constant contains, standing before the first occurrence of
the variable (if any), spoils the part one way or the other -/
theorem parseTerm_of_foreign (cap : Nat) {v c : Char} {l : List Char} (hl : v ∉ l) (hvc : v ≠ c)
    (h1 : isAsciiDigit c = false) (h2 : c ≠ '.') (h3 : c ≠ '-') (h4 : c ≠ '+') (r : List Char) :
    parseTerm cap (some v) (l ++ c :: r) =
      .error (if v ∈ r then .invalidCoefficient else .invalidConstant) := by
  by_cases hr : v ∈ r
  · obtain ⟨r1, r2, rfl, hr1⟩ := List.eq_append_cons_of_mem hr
    have hn : v ∉ l ++ c :: r1 := by
      simp only [List.mem_append, List.mem_cons, not_or]
      exact ⟨hl, hvc, hr1⟩
    rw [if_pos hr, ← List.cons_append, ← List.append_assoc, parseTerm_var cap hn,
      parseCoef_of_foreign (c := c) (by simp) h1 h2 h3 h4]
  · have hn : v ∉ l ++ c :: r := by
      simp only [List.mem_append, List.mem_cons, not_or]
      exact ⟨hl, hvc, hr⟩
    rw [if_neg hr, parseTerm_of_not_mem cap hn, parseConst_of_foreign (c := c) (by simp) h1 h2 h3]

theorem parseTail_ok {r : List Char} {p : Nat} (h : parseTail cap r = .ok p) :
    (r = [] ∧ p = 1) ∨ ∃ ds, r = '^' :: ds ∧ parseUsizeCapped cap ds = some p := by
  unfold parseTail at h
  split at h
  · cases h; exact Or.inl ⟨rfl, rfl⟩
  · split at h
    · rename_i heq; cases h; exact Or.inr ⟨_, rfl, heq⟩
    · cases h
  · cases h

theorem parseTerm_ok {q : List Char} {r : Num × Nat} (h : parseTerm cap varc q = .ok r) :
    (∃ v pre post, varc = some v ∧ q = pre ++ v :: post ∧ v ∉ pre ∧ parseCoef pre = .ok r.1 ∧
        parseTail cap post = .ok r.2) ∨
      ((∀ v, varc = some v → v ∉ q) ∧ parseConst q = .ok r) := by
  by_cases hv : ∃ v, varc = some v ∧ v ∈ q
  · obtain ⟨v, rfl, hq⟩ := hv
    obtain ⟨pre, post, rfl, hpre⟩ := List.eq_append_cons_of_mem hq
    rw [parseTerm_var cap hpre] at h
    split at h
    · rename_i k p hk hp
      cases h
      exact Or.inl ⟨v, pre, post, rfl, rfl, hpre, hk, hp⟩
    · cases h
    · cases h
  · refine Or.inr ⟨fun v hv' hq => hv ⟨v, hv', hq⟩, ?_⟩
    cases varc with
    | none => exact h
    | some v => rwa [parseTerm_of_not_mem cap fun hq => hv ⟨v, rfl, hq⟩] at h

/-- sign and coefficient text of a term (what stands before the variable) -/
def TermSyn.coefText (t : TermSyn) : List Char := (if t.neg then ['-'] else []) ++ renderCoef t.coef

theorem renderPart_eq (v : Char) (t : TermSyn) : t.renderPart v = t.coefText ++ t.body.render v :=
  (List.append_assoc _ _ _).symm

theorem not_mem_coefText (ht : t.WF cap) {c : Char}
    (h1 : isAsciiDigit c = false) (h2 : c ≠ '.') (h3 : c ≠ '-') : c ∉ t.coefText := by
  intro h
  rcases List.mem_append.1 h with h | h
  · split at h
    · exact h3 (List.mem_singleton.1 h)
    · cases h
  · rcases mem_renderCoef ht.coef_wf h with h | h
    · rw [h1] at h; cases h
    · exact h2 h

theorem parseDec_coefText (ht : t.WF cap) {u : UDec} (hu : t.coef = some u) :
    parseDec t.coefText = some ⟨t.neg, u.mant, u.fp.length⟩ := by
  rw [TermSyn.coefText, hu]
  exact parseDec_render (ht.coef_wf u hu) t.neg

theorem parseCoef_coefText (ht : t.WF cap) : parseCoef t.coefText = .ok t.num := by
  rcases hc : t.coef with _ | u
  · rw [TermSyn.coefText, TermSyn.num, hc]
    cases t.neg <;> rfl
  · rw [parseCoef_of_parseDec (parseDec_coefText ht hc), TermSyn.num, hc]

theorem parseTerm_render (hv : VarOK v) (ht : t.WF cap)
    (varc : Option Char) (hvarc : varc = some v ∨ (varc = none ∧ t.body = .const)) :
    parseTerm cap varc (t.renderPart v) = .ok (t.num, t.pow) := by
  have hnm : v ∉ t.coefText := not_mem_coefText ht hv.1 hv.2.1 hv.2.2.2.1
  rw [renderPart_eq, TermSyn.pow]
  rcases hb : t.body with _ | _ | ds
  · obtain ⟨u, hu⟩ := Option.ne_none_iff_exists'.1 (ht.const_coef hb)
    have : parseTerm cap varc t.coefText = parseConst t.coefText := by
      rcases hvarc with rfl | ⟨rfl, _⟩
      · exact parseTerm_of_not_mem cap hnm
      · rfl
    rw [Body.render, List.append_nil, this, parseConst, parseDec_coefText ht hu, TermSyn.num, hu]
    rfl
  all_goals
    obtain rfl : varc = some v := by
      rcases hvarc with h | ⟨_, h⟩
      · exact h
      · rw [hb] at h; cases h
  · rw [Body.render, parseTerm_var cap hnm, parseCoef_coefText ht]
    rfl
  · obtain ⟨h1, h2, h3⟩ := ht.exp_wf ds hb
    rw [Body.render, parseTerm_var cap hnm, parseCoef_coefText ht, parseTail,
      parseUsizeCapped_eq_some.2 ⟨h1, h2, h3, rfl⟩]
    rfl

theorem parseTerms_ok_iff {ps : List (List Char)} {terms : List (Num × Nat)} :
    parseTerms cap varc ps = .ok terms ↔ ps.map (parseTerm cap varc) = terms.map .ok := by
  induction ps generalizing terms with
  | nil =>
    rw [parseTerms, List.map_nil]
    exact ⟨fun h => by cases h; rfl, fun h => by rw [List.map_eq_nil_iff.1 h.symm]⟩
  | cons q qs ih =>
    rw [parseTerms, List.map_cons]
    constructor
    · intro h
      split at h
      · cases h
      · rename_i r hr
        split at h
        · cases h
        · rename_i rs hrs
          cases h
          rw [hr, ih.1 hrs, List.map_cons]
    · intro h
      cases terms with
      | nil => cases h
      | cons r rs =>
        obtain ⟨hr, hrs⟩ := List.cons.inj h
        rw [hr, ih.2 hrs]

theorem parseTerms_ok_mem {ps : List (List Char)}
    {terms : List (Num × Nat)} (h : parseTerms cap varc ps = .ok terms) {r : Num × Nat}
    (hr : r ∈ terms) : ∃ q ∈ ps, parseTerm cap varc q = .ok r := by
  have : Except.ok r ∈ ps.map (parseTerm cap varc) := by
    rw [parseTerms_ok_iff.1 h]
    exact List.mem_map_of_mem hr
  exact List.mem_map.1 this

theorem parseTerms_error_of_mem {ps : List (List Char)}
    {p : List Char} (hp : p ∈ ps) {e : PErr} (he : parseTerm cap varc p = .error e) :
    ∃ e', parseTerms cap varc ps = .error e' := by
  cases h : parseTerms cap varc ps with
  | error e' => exact ⟨e', rfl⟩
  | ok terms =>
    have : Except.error e ∈ terms.map Except.ok := by
      rw [← parseTerms_ok_iff.1 h, ← he]
      exact List.mem_map_of_mem hp
    obtain ⟨r, _, hr⟩ := List.mem_map.1 this
    cases hr

theorem parseTerms_congr_mid {x x' : List Char}
    (h : parseTerm cap varc x' = parseTerm cap varc x) (pre post : List (List Char)) :
    parseTerms cap varc (pre ++ x' :: post) = parseTerms cap varc (pre ++ x :: post) := by
  induction pre with
  | nil => simp only [List.nil_append, parseTerms, h]
  | cons p pre ih => simp only [List.cons_append, parseTerms, ih]

theorem parseTerms_render (hv : VarOK v) (hts : WellFormed cap ts) :
    parseTerms cap (if writesVar ts then some v else none) (ts.map (TermSyn.renderPart v)) =
      .ok (ts.map fun t => (t.num, t.pow)) := by
  rw [parseTerms_ok_iff, List.map_map, List.map_map]
  refine List.map_congr_left fun t ht => parseTerm_render hv (hts t ht) _ ?_
  cases hw : writesVar ts with
  | true => exact Or.inl rfl
  | false => exact Or.inr ⟨rfl, not_writesVar hw t ht⟩

theorem foldl_max_ge (terms : List (Num × Nat)) (m : Nat) :
    m ≤ terms.foldl (fun m t => max m t.2) m ∧
      ∀ t ∈ terms, t.2 ≤ terms.foldl (fun m t => max m t.2) m := by
  induction terms generalizing m with
  | nil => exact ⟨le_rfl, fun _ h => nomatch h⟩
  | cons t ts ih =>
    obtain ⟨h1, h2⟩ := ih (max m t.2)
    refine ⟨le_trans (le_max_left _ _) h1, fun t' ht' => ?_⟩
    rcases List.mem_cons.1 ht' with rfl | ht'
    · exact le_trans (le_max_right _ _) h1
    · exact h2 t' ht'

theorem foldl_max_attained (terms : List (Num × Nat)) (m : Nat) :
    terms.foldl (fun m t => max m t.2) m = m ∨
      ∃ t ∈ terms, t.2 = terms.foldl (fun m t => max m t.2) m := by
  induction terms generalizing m with
  | nil => exact Or.inl rfl
  | cons t ts ih =>
    rw [List.foldl_cons]
    rcases ih (max m t.2) with h | ⟨t', ht', h⟩
    · rw [h]
      rcases le_total m t.2 with hle | hle
      · exact Or.inr ⟨t, List.mem_cons_self, (max_eq_right hle).symm⟩
      · exact Or.inl (max_eq_left hle)
    · exact Or.inr ⟨t', List.mem_cons_of_mem _ ht', h⟩

theorem dense_length (terms : List (Num × Nat)) :
    (dense terms).length = terms.foldl (fun m t => max m t.2) 0 + 1 := by
  rw [dense, List.length_map, List.length_range]

/-- the terms of power `k` added up, and their values multiplied by `x ^ k`, give the terms
multiplied by their own powers -/
theorem sum_by_pow {α R : Type} [CommSemiring R] (pow : α → ℕ) (val : α → R) (l : List α) (n : ℕ)
    (hn : ∀ a ∈ l, pow a < n) (x : R) :
    (∑ k ∈ Finset.range n, ((l.filter fun a => decide (pow a = k)).map val).sum * x ^ k) =
      (l.map fun a => val a * x ^ pow a).sum := by
  induction l with
  | nil => simp
  | cons a l ih =>
    have hstep : ∀ k, (((a :: l).filter fun a => decide (pow a = k)).map val).sum =
        (if pow a = k then val a else 0) + ((l.filter fun a => decide (pow a = k)).map val).sum := by
      intro k
      by_cases h : pow a = k
      · rw [List.filter_cons_of_pos (by simpa using h), List.map_cons, List.sum_cons, if_pos h]
      · rw [List.filter_cons_of_neg (by simpa using h), if_neg h, zero_add]
    have ha : pow a ∈ Finset.range n := Finset.mem_range.2 (hn a List.mem_cons_self)
    simp only [hstep, add_mul, Finset.sum_add_distrib, ite_mul, zero_mul, Finset.sum_ite_eq, ha,
      if_true, List.map_cons, List.sum_cons]
    rw [ih fun b hb => hn b (List.mem_cons_of_mem _ hb)]

/-! The dense vector under any reading `val` of the coefficient expressions that turns `Num.add` into
`+` and `Num.zero` into `0` (`Num.val` in `ℚ`, or the reading in another field). -/
section
variable {R : Type} [CommSemiring R] (val : Num → R)
  (hadd : ∀ a b, val (Num.add a b) = val a + val b)
include hadd

theorem foldl_add_val (terms : List (Num × Nat)) (k : Nat) (a : Num) :
    val (terms.foldl (fun acc t => if t.2 = k then Num.add acc t.1 else acc) a) =
      val a + ((terms.filter fun t => decide (t.2 = k)).map fun t => val t.1).sum := by
  induction terms generalizing a with
  | nil => exact (add_zero _).symm
  | cons t ts ih =>
    rw [List.foldl_cons, ih]
    by_cases h : t.2 = k
    · rw [if_pos h, List.filter_cons_of_pos (by simpa using h), List.map_cons, List.sum_cons,
        hadd, add_assoc]
    · rw [if_neg h, List.filter_cons_of_neg (by simpa using h)]

theorem dense_val (h0 : val Num.zero = 0) (terms : List (Num × Nat)) (k : Nat) :
    val ((dense terms).getD k Num.zero) =
      ((terms.filter fun t => decide (t.2 = k)).map fun t => val t.1).sum := by
  rw [List.getD_eq_getElem?_getD]
  by_cases hk : k < terms.foldl (fun m t => max m t.2) 0 + 1
  · rw [dense, List.getElem?_map, List.getElem?_range hk, Option.map_some, Option.getD_some,
      foldl_add_val val hadd, h0, zero_add]
  · rw [List.getElem?_eq_none (by rw [dense_length]; omega), Option.getD_none, h0,
      List.filter_eq_nil_iff.2, List.map_nil, List.sum_nil]
    intro t ht
    have := (foldl_max_ge terms 0).2 t ht
    rw [decide_eq_true_eq]
    omega

omit hadd in
theorem getD_map_val (h0 : val Num.zero = 0) (l : List Num) (k : Nat) :
    (l.map val).getD k 0 = val (l.getD k Num.zero) := by
  rw [List.getD_eq_getElem?_getD, List.getD_eq_getElem?_getD, List.getElem?_map]
  cases l[k]? with
  | none => exact h0.symm
  | some a => rfl

/-- the dense vector read as a polynomial is the sum of the terms it was accumulated from -/
theorem dense_eval (h0 : val Num.zero = 0) (terms : List (Num × Nat)) (x : R) :
    (∑ k ∈ Finset.range ((dense terms).map val).length, ((dense terms).map val).getD k 0 * x ^ k) =
      (terms.map fun t => val t.1 * x ^ t.2).sum := by
  rw [List.length_map, dense_length, ← sum_by_pow (·.2) (fun t => val t.1) terms _
    (fun t ht => Nat.lt_succ_of_le ((foldl_max_ge terms 0).2 t ht)) x]
  exact Finset.sum_congr rfl fun k _ => by rw [getD_map_val val h0, dense_val val hadd h0]

end

theorem maxPow_eq (ts : List TermSyn) :
    (ts.map fun t => (t.num, t.pow)).foldl (fun m t => max m t.2) 0 = maxPow ts :=
  List.foldl_map

theorem parse_render_eq (hcc : cc.Sane) (hv : VarOK v) (hts : WellFormed cap ts)
    (hva : writesVar ts = true → cc.isAlpha v = true) {s : List Char}
    (hs : stripWs cc s = render v lead ts) :
    parse cc cap s =
      .ok ⟨dense (ts.map fun t => (t.num, t.pow)), if writesVar ts then some v else none⟩ := by
  simp only [parse, normalize, hs, parts_render hv lead ts hts, parts_render_ok hv ts hts,
    find_render hcc hts hva, parseTerms_render hv hts]
  rfl

/-- the vector accumulated from the terms of a list: one entry per power up to the largest, and
position `k` holds the sum of the signed coefficients of the terms of power `k` -/
theorem dense_terms_spec (ts : List TermSyn) :
    (dense (ts.map fun t => (t.num, t.pow))).length = maxPow ts + 1 ∧
      ∀ k, ((dense (ts.map fun t => (t.num, t.pow))).getD k Num.zero).val =
        ((ts.filter fun t => decide (t.pow = k)).map TermSyn.value).sum := by
  refine ⟨by rw [dense_length, maxPow_eq], fun k => ?_⟩
  simp only [dense_val Num.val Num.val_add Num.val_zero, List.filter_map, List.map_map]
  exact congrArg List.sum (List.map_congr_left fun t _ => t.num_val)

/-- … and read as a polynomial it is the sum of the terms as written -/
theorem dense_terms_eval (ts : List TermSyn) (x : ℚ) :
    (∑ k ∈ Finset.range ((dense (ts.map fun t => (t.num, t.pow))).map Num.val).length,
      ((dense (ts.map fun t => (t.num, t.pow))).map Num.val).getD k 0 * x ^ k) =
        (ts.map fun t => t.value * x ^ t.pow).sum := by
  rw [dense_eval Num.val Num.val_add Num.val_zero, List.map_map]
  exact congrArg List.sum (List.map_congr_left fun t _ => by rw [Function.comp, t.num_val])

/-- the model on (any spacing of) a rendering: accepted; variable, length and every position of the
coefficient vector as the grammar says -/
theorem parse_render_spec (hcc : cc.Sane) (hv : VarOK v) (hts : WellFormed cap ts)
    (hva : writesVar ts = true → cc.isAlpha v = true) {s : List Char}
    (hs : stripWs cc s = render v lead ts) :
    ∃ p, parse cc cap s = .ok p ∧
      p.var = (if writesVar ts then some v else none) ∧
      p.coeffs.length = maxPow ts + 1 ∧
      ∀ k, (p.coeffs.getD k Num.zero).val =
        ((ts.filter fun t => decide (t.pow = k)).map TermSyn.value).sum :=
  ⟨_, parse_render_eq hcc hv hts hva hs, rfl, dense_terms_spec ts⟩

/-- the parser reads its text only through `stripWs` -/
theorem parse_congr_stripWs {s s' : List Char} (h : stripWs cc s = stripWs cc s') :
    parse cc cap s = parse cc cap s' := by
  rw [parse, parse, normalize, normalize, h]

theorem parse_ok {s : List Char} {p : SParsed} (h : parse cc cap s = .ok p) :
    ∃ terms, parseTerms cap ((normalize cc s).find? cc.isAlpha) (parts (normalize cc s)) = .ok terms ∧
      p = ⟨dense terms, (normalize cc s).find? cc.isAlpha⟩ := by
  unfold parse at h
  simp only at h
  split at h
  · cases h
  · split at h
    · cases h
    · rename_i terms hterms
      cases h
      exact ⟨terms, hterms, rfl⟩

/-- a part that the term reader rejects makes the parser reject the text (with the error of the first
such part, or a syntax error) -/
theorem parse_error_of_part {s q : List Char} {e : PErr} (hq : q ∈ parts (normalize cc s))
    (he : parseTerm cap ((normalize cc s).find? cc.isAlpha) q = .error e) :
    ∃ e', parse cc cap s = .error e' := by
  obtain ⟨e', he'⟩ := parseTerms_error_of_mem hq he
  unfold parse
  simp only [he']
  split <;> exact ⟨_, rfl⟩

theorem const_inv {q : List Char} {r : Num × Nat} (h : parseConst q = .ok r) (v : Char) :
    ∃ t : TermSyn, t.WF cap ∧ q = t.renderPart v ∧ t.body = .const := by
  unfold parseConst at h
  split at h
  · rename_i d hd
    obtain ⟨u, hu, hq, _, _⟩ := parseDec_some hd
    refine ⟨⟨d.neg, some u, .const⟩, ⟨fun u' hu' => ?_, fun _ => nofun, nofun⟩, ?_, rfl⟩
    · cases hu'; exact hu
    · simp [TermSyn.renderPart, TermSyn.renderAbs, renderCoef, Body.render, hq]
  · cases h

theorem coef_inv {pre : List Char} {c : Num} (hplus : '+' ∉ pre) (h : parseCoef pre = .ok c) :
    ∃ (neg : Bool) (coef : Option UDec), (∀ u, coef = some u → u.WF) ∧
      pre = (if neg then ['-'] else []) ++ renderCoef coef := by
  unfold parseCoef at h
  split_ifs at h with h1 h2
  · rcases h1 with rfl | rfl
    · exact ⟨false, none, nofun, rfl⟩
    · exact absurd (List.mem_singleton.2 rfl) hplus
  · exact ⟨true, none, nofun, h2⟩
  · split at h
    · rename_i d hd
      obtain ⟨u, hu, hq, _, _⟩ := parseDec_some hd
      exact ⟨d.neg, some u, fun u' hu' => by cases hu'; exact hu, hq⟩
    · cases h

theorem parseTerm_inv {q : List Char} {r : Num × Nat}
    (h : parseTerm cap varc q = .ok r) (hplus : '+' ∉ q) (v : Char)
    (hvc : ∀ v', varc = some v' → v' = v) :
    ∃ t : TermSyn, t.WF cap ∧ q = t.renderPart v ∧ (varc = none → t.body = .const) := by
  rcases parseTerm_ok h with ⟨v', pre, post, rfl, rfl, _, hk, hp⟩ | ⟨_, hc⟩
  · obtain rfl := hvc v' rfl
    obtain ⟨neg, coef, hcw, rfl⟩ := coef_inv (fun hm => hplus (List.mem_append_left _ hm)) hk
    rcases parseTail_ok hp with ⟨rfl, _⟩ | ⟨ds, rfl, hds⟩
    · exact ⟨⟨neg, coef, .var⟩, ⟨hcw, nofun, nofun⟩, (renderPart_eq v' ⟨neg, coef, .var⟩).symm, nofun⟩
    · obtain ⟨h1, h2, h3, _⟩ := parseUsizeCapped_eq_some.1 hds
      refine ⟨⟨neg, coef, .varPow ds⟩, ⟨hcw, nofun, fun ds' hds' => ?_⟩,
        (renderPart_eq v' ⟨neg, coef, .varPow ds⟩).symm, nofun⟩
      cases hds'
      exact ⟨h1, h2, h3⟩
  · obtain ⟨t, ht, hq, hb⟩ := const_inv (cap := cap) hc v
    exact ⟨t, ht, hq, fun _ => hb⟩

theorem parseTerms_inv {ps : List (List Char)}
    {terms : List (Num × Nat)} (h : parseTerms cap varc ps = .ok terms)
    (hplus : ∀ q ∈ ps, '+' ∉ q) (v : Char) (hvc : ∀ v', varc = some v' → v' = v) :
    ∃ ts : List TermSyn, WellFormed cap ts ∧ ps = ts.map (TermSyn.renderPart v) ∧
      (varc = none → ∀ t ∈ ts, t.body = .const) := by
  induction ps generalizing terms with
  | nil => exact ⟨[], nofun, rfl, fun _ => nofun⟩
  | cons q qs ih =>
    have hm := parseTerms_ok_iff.1 h
    cases terms with
    | nil => cases hm
    | cons r rs =>
      obtain ⟨hr, hrs⟩ := List.cons.inj hm
      obtain ⟨t, ht, rfl, hb⟩ := parseTerm_inv hr (hplus q List.mem_cons_self) v hvc
      obtain ⟨ts, hts, rfl, hbs⟩ :=
        ih (parseTerms_ok_iff.2 hrs) fun q' hq' => hplus q' (List.mem_cons_of_mem _ hq')
      exact ⟨t :: ts, List.forall_mem_cons.2 ⟨ht, hts⟩, rfl,
        fun hn => List.forall_mem_cons.2 ⟨hb hn, hbs hn⟩⟩

/-- converse of `parts_render`: a text whose parts are those of a term list renders it.  The text is
its pieces joined by `+`; an empty first piece is a leading sign. -/
theorem render_of_parts (hv : VarOK v) (hts : WellFormed cap ts) {w : List Char}
    (hps : parts (dashToPlusDash w) = ts.map (TermSyn.renderPart v)) :
    ∃ lead, w = render v lead ts := by
  have hj := joinSep_splitOn '+' (dashToPlusDash w)
  obtain ⟨q0, rest, hsp⟩ := List.exists_cons_of_ne_nil (splitOn_ne_nil '+' (dashToPlusDash w))
  rw [hsp] at hj
  cases q0 with
  | nil =>
    rw [parts_of_nil_head hsp] at hps
    subst hps
    simp only [joinSep, List.nil_append, List.flatMap_map] at hj
    cases ts with
    | nil => exact ⟨false, dashToPlusDash_injective hj.symm⟩
    | cons t ts =>
      refine ⟨true, dashToPlusDash_injective ?_⟩
      rw [normalize_render hv true t ts hts, ← hj]
      simp
  | cons c q0 =>
    rw [parts_of_ne_nil_head hsp (List.cons_ne_nil _ _)] at hps
    cases ts with
    | nil => cases hps
    | cons t ts =>
      obtain ⟨hq0, rfl⟩ := List.cons.inj hps
      simp only [joinSep, List.flatMap_map] at hj
      rw [hq0] at hj
      -- the first piece is not a `-` term: the normalised text never starts with `-`
      have hneg : t.neg = false := by
        cases hn : t.neg with
        | false => rfl
        | true =>
          refine absurd ?_ (dashToPlusDash_head? w)
          rw [← hj]
          simp [TermSyn.renderPart, hn]
      refine ⟨false, dashToPlusDash_injective ?_⟩
      rw [normalize_render hv false t ts hts, ← hj, hneg]
      simp

/-- the model accepts only (spacings of) renderings of well-formed term lists: the normalised text
is reproduced character for character, and the result is the one `parse_render_eq` gives for that
reading -/
theorem parse_ok_inv (hcc : cc.Sane) {s : List Char} {p : SParsed} (h : parse cc cap s = .ok p) :
    ∃ (v : Char) (lead : Bool) (ts : List TermSyn), VarOK v ∧
      (writesVar ts = true → cc.isAlpha v = true) ∧ WellFormed cap ts ∧
      stripWs cc s = render v lead ts ∧
      p = ⟨dense (ts.map fun t => (t.num, t.pow)), if writesVar ts then some v else none⟩ := by
  obtain ⟨terms, hterms, -⟩ := parse_ok h
  -- the variable letter, or any letter if there is none
  obtain ⟨v, hvok, hvc, hva⟩ : ∃ v, VarOK v ∧
      (∀ v', (normalize cc s).find? cc.isAlpha = some v' → v' = v) ∧
      ((normalize cc s).find? cc.isAlpha ≠ none → cc.isAlpha v = true) := by
    rcases hf : (normalize cc s).find? cc.isAlpha with _ | v'
    · exact ⟨'x', varOK_x, nofun, fun h => absurd rfl h⟩
    · have ha : cc.isAlpha v' = true := List.find?_some hf
      exact ⟨v', VarOK.of_alpha hcc ha, fun _ h => (Option.some.inj h).symm, fun _ => ha⟩
  obtain ⟨ts, hts, hps, hconst⟩ := parseTerms_inv hterms
    (fun q hq => not_mem_of_mem_splitOn (mem_splitOn_of_mem_parts hq)) v hvc
  obtain ⟨lead, hw⟩ := render_of_parts hvok hts hps
  have hva' : writesVar ts = true → cc.isAlpha v = true := fun hw' => hva fun hnone => by
    obtain ⟨t, ht, hb⟩ := List.any_eq_true.1 hw'
    rw [hconst hnone t ht] at hb
    cases hb
  exact ⟨v, lead, ts, hvok, hva', hts, hw,
    Except.ok.inj (h.symm.trans (parse_render_eq hcc hvok hts hva' hw))⟩

theorem pow_le_maxPow (ht : t ∈ ts) : t.pow ≤ maxPow ts := by
  rw [← maxPow_eq]
  exact (foldl_max_ge _ 0).2 (t.num, t.pow) (List.mem_map.2 ⟨t, ht, rfl⟩)

theorem maxPow_attained (hne : ts ≠ []) : ∃ t ∈ ts, t.pow = maxPow ts := by
  rcases foldl_max_attained (ts.map fun t => (t.num, t.pow)) 0 with h | ⟨r, hr, h⟩
  · rw [maxPow_eq] at h
    obtain ⟨t, ht⟩ := List.exists_mem_of_ne_nil ts hne
    exact ⟨t, ht, le_antisymm (pow_le_maxPow ht) (h ▸ Nat.zero_le _)⟩
  · rw [maxPow_eq] at h
    obtain ⟨t, ht, rfl⟩ := List.mem_map.1 hr
    exact ⟨t, ht, h⟩

theorem parseTerm_pow_le {q : List Char} {r : Num × Nat}
    (h : parseTerm cap varc q = .ok r) : r.2 ≤ max cap 1 := by
  rcases parseTerm_ok h with ⟨_, _, post, _, _, _, _, hp⟩ | ⟨_, hc⟩
  · rcases parseTail_ok hp with ⟨_, h1⟩ | ⟨ds, _, hds⟩
    · rw [h1]
      exact le_max_right _ _
    · obtain ⟨_, _, hle, h2⟩ := parseUsizeCapped_eq_some.1 hds
      rw [h2]
      exact le_trans hle (le_max_left _ _)
  · unfold parseConst at hc
    split at hc <;> cases hc
    exact Nat.zero_le _

theorem parse_length_le {s : List Char} {p : SParsed}
    (h : parse cc cap s = .ok p) : 1 ≤ p.coeffs.length ∧ p.coeffs.length ≤ max cap 1 + 1 := by
  obtain ⟨terms, hterms, rfl⟩ := parse_ok h
  rw [dense_length]
  refine ⟨Nat.le_add_left _ _, Nat.succ_le_succ ?_⟩
  rcases foldl_max_attained terms 0 with h0 | ⟨r, hr, h1⟩
  · rw [h0]; exact Nat.zero_le _
  · obtain ⟨q, _, hq⟩ := parseTerms_ok_mem hterms hr
    exact h1 ▸ parseTerm_pow_le hq

theorem Plain.not_ws (hcc : cc.Sane) {v c : Char} (hv : cc.isAlpha v = true)
    (h : Plain v c) : cc.isWs c = false := by
  rcases h with h | rfl | rfl | rfl
  · exact hcc.digit_not_ws c h
  · exact hcc.sym_not_ws.1
  · exact hcc.sym_not_ws.2.2.2
  · exact hcc.alpha_not_ws _ hv

theorem stripWs_render (hcc : cc.Sane)
    (hv : cc.isAlpha v = true) (lead : Bool) (hts : WellFormed cap ts) :
    stripWs cc (render v lead ts) = render v lead ts := by
  apply stripWs_eq_self
  intro c hc
  rcases mem_render hts hc with rfl | rfl | h
  · exact hcc.sym_not_ws.2.1
  · exact hcc.sym_not_ws.2.2.1
  · exact h.not_ws hcc hv

/-- the terms after the first one, each with its sign -/
def renderTail (v : Char) (ts : List TermSyn) : List Char :=
  ts.flatMap fun t => (if t.neg then '-' else '+') :: t.renderAbs v

theorem render_cons (v : Char) (lead : Bool) (t : TermSyn) (ts : List TermSyn) :
    render v lead (t :: ts) =
      (if t.neg then ['-'] else if lead then ['+'] else []) ++ t.renderAbs v ++ renderTail v ts :=
  rfl

theorem render_eq_append_last (v : Char) (lead : Bool) (hne : ts ≠ []) :
    ∃ init, render v lead ts = init ++ (ts.getLast hne).renderAbs v := by
  cases ts with
  | nil => exact absurd rfl hne
  | cons t ts =>
    rcases List.eq_nil_or_concat ts with rfl | ⟨ts', l, rfl⟩
    · exact ⟨if t.neg then ['-'] else if lead then ['+'] else [], by simp [render]⟩
    · exact ⟨(if t.neg then ['-'] else if lead then ['+'] else []) ++ t.renderAbs v ++
        (ts'.flatMap fun t => (if t.neg then '-' else '+') :: t.renderAbs v) ++
        [if l.neg then '-' else '+'], by simp [render]⟩

theorem exists_snoc {l : List Char} (hne : l ≠ []) {P : Char → Prop} (h : ∀ c ∈ l, P c) :
    ∃ init c, l = init ++ [c] ∧ P c :=
  ⟨l.dropLast, l.getLast hne, (List.dropLast_append_getLast hne).symm, h _ (List.getLast_mem hne)⟩

theorem renderAbs_snoc (ht : t.WF cap) (v : Char) :
    ∃ init c, t.renderAbs v = init ++ [c] ∧ (isAsciiDigit c = true ∨ c = '.' ∨ c = v) := by
  unfold TermSyn.renderAbs
  rcases hb : t.body with _ | _ | ds
  · obtain ⟨u, hu⟩ := Option.ne_none_iff_exists'.1 (ht.const_coef hb)
    have hwf := ht.coef_wf u hu
    obtain ⟨init, c, h1, h2⟩ := exists_snoc (UDec.render_ne_nil hwf) fun c => UDec.mem_render hwf
    exact ⟨init, c, by rw [hu, Body.render, List.append_nil]; exact h1, h2.imp_right Or.inl⟩
  · exact ⟨renderCoef t.coef, v, rfl, Or.inr (Or.inr rfl)⟩
  · obtain ⟨h1, h2, _⟩ := ht.exp_wf ds hb
    obtain ⟨init, c, h3, h4⟩ := exists_snoc h1 h2
    exact ⟨renderCoef t.coef ++ v :: '^' :: init, c, by simp [Body.render, h3], Or.inl h4⟩

theorem render_snoc (lead : Bool) (hts : WellFormed cap ts) (hne : ts ≠ []) :
    ∃ init c, render v lead ts = init ++ [c] ∧ (isAsciiDigit c = true ∨ c = '.' ∨ c = v) := by
  obtain ⟨init, e⟩ := render_eq_append_last v lead hne
  obtain ⟨init', c, h1, h2⟩ := renderAbs_snoc (hts _ (List.getLast_mem hne)) v
  exact ⟨init ++ init', c, by rw [e, h1, List.append_assoc], h2⟩

end

/-! ### decidable well-formedness (for examples) -/

def UDec.wfb (u : UDec) : Bool :=
  u.ip.all isAsciiDigit && u.fp.all isAsciiDigit && (!u.ip.isEmpty || !u.fp.isEmpty) &&
    (u.dot || u.fp.isEmpty)

theorem UDec.wf_of_wfb {u : UDec} (h : UDec.wfb u = true) : u.WF := by
  simp only [UDec.wfb, Bool.and_eq_true, Bool.or_eq_true, Bool.not_eq_true', List.all_eq_true,
    List.isEmpty_eq_false_iff, List.isEmpty_iff] at h
  obtain ⟨⟨⟨h1, h2⟩, h3⟩, h4⟩ := h
  exact ⟨h1, h2, h3, fun hd => h4.resolve_left (by rw [hd]; exact Bool.false_ne_true)⟩

def TermSyn.wfb (cap : Nat) (t : TermSyn) : Bool :=
  (match t.coef with
    | none => true
    | some u => UDec.wfb u) &&
  (match t.body with
    | .const => t.coef.isSome
    | .var => true
    | .varPow ds => !ds.isEmpty && ds.all isAsciiDigit && decide (digitsVal ds ≤ cap))

theorem TermSyn.wf_of_wfb {cap : Nat} {t : TermSyn} (h : t.wfb cap = true) : t.WF cap := by
  rcases t with ⟨neg, coef, body⟩
  simp only [TermSyn.wfb, Bool.and_eq_true] at h
  obtain ⟨h1, h2⟩ := h
  refine ⟨fun u hu => ?_, fun hb hc => ?_, fun ds hb => ?_⟩
  · cases hu
    exact UDec.wf_of_wfb h1
  · cases hb
    cases hc
    cases h2
  · cases hb
    simpa only [Bool.and_eq_true, Bool.not_eq_true', List.isEmpty_eq_false_iff, List.all_eq_true,
      decide_eq_true_eq, and_assoc] using h2

theorem wellFormed_of_all {cap : Nat} {ts : List TermSyn} (h : ts.all (TermSyn.wfb cap) = true) :
    WellFormed cap ts := fun t ht => TermSyn.wf_of_wfb (List.all_eq_true.1 h t ht)

end SV.C01
