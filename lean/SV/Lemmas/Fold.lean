/-!
Folding a list with a binary choice (`if a > b then a else b` and the like): the result is an element
of the list and bounds every element.  Core Lean only.
-/
namespace SV

/-- `pick x y` is one of `x`, `y`, and both are `le` it -/
def Picks {β : Type} (le : β → β → Prop) (pick : β → β → β) : Prop :=
  ∀ x y, (pick x y = x ∨ pick x y = y) ∧ le x (pick x y) ∧ le y (pick x y)

theorem foldl_picks {β : Type} {le : β → β → Prop} {pick : β → β → β} (hp : Picks le pick)
    (hrefl : ∀ x, le x x) (htrans : ∀ x y z, le x y → le y z → le x z) (xs : List β) (x : β) :
    xs.foldl pick x ∈ x :: xs ∧ ∀ y ∈ x :: xs, le y (xs.foldl pick x) := by
  induction xs generalizing x with
  | nil => exact ⟨List.mem_singleton.mpr rfl, fun y hy => List.mem_singleton.mp hy ▸ hrefl x⟩
  | cons y ys ih =>
    obtain ⟨h1, h2⟩ := ih (pick x y)
    obtain ⟨hsel, hx, hy⟩ := hp x y
    have top := h2 _ (List.mem_cons_self ..)
    rw [List.foldl_cons]
    refine ⟨?_, fun z hz => ?_⟩
    · rcases List.mem_cons.mp h1 with e | e
      · rw [e]; rcases hsel with e' | e' <;> rw [e'] <;> simp
      · exact List.mem_cons_of_mem _ (List.mem_cons_of_mem _ e)
    · rcases List.mem_cons.mp hz with rfl | e
      · exact htrans _ _ _ hx top
      · rcases List.mem_cons.mp e with rfl | e
        · exact htrans _ _ _ hy top
        · exact h2 z (List.mem_cons_of_mem _ e)

/-- a fold over steps that each leave the start value fixed returns it -/
theorem foldl_fix {α β : Type} (f : α → β → α) (s : α) (l : List β)
    (h : ∀ k ∈ l, f s k = s) : l.foldl f s = s := by
  induction l with
  | nil => rfl
  | cons a l ih =>
    rw [List.foldl_cons, h a (by simp)]
    exact ih fun k hk => h k (by simp [hk])

end SV
