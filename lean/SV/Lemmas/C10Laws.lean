import SV.Lemmas.C10
/-!
What the algebraic laws of `inverse` (`SV.Props.C10Laws`) use besides `SV.Lemmas.C10` and the
denotation of `dot` (`SV.C11.dot_denotes`): the run of `plu` on the identity array, where the state
`(1, 1)` is a fixed point of every pass.
-/
namespace SV.C10
open SV SV.C09 SV.Props.C09 Finset

section identity
variable {K : Type} [Field K] [LinearOrder K] [IsStrictOrderedRing K] [Inhabited K]

/-- the pivot search on the identity stays on the diagonal: the diagonal entry is the only non-zero
one of its column -/
theorem pivotRow_ident {n i : Nat} (hi : i < n) : pivotRow (Mat.ident n : Mat K) n i = i := by
  obtain ⟨_, hr, hmax⟩ := pivotRow_spec (Mat.ident n : Mat K) n i hi
  by_contra hne
  have := hmax i le_rfl hi
  rw [Mat.get_ident hi hi, if_pos rfl, Mat.get_ident hr hi, if_neg hne, abs_one, abs_zero] at this
  exact not_le.mpr one_pos this

omit [IsStrictOrderedRing K] in
theorem pluElim_of_zero_column {n i : Nat} {lu : Mat K} (hlu : Square n lu)
    (h0 : ∀ k, i < k → k < n → lu.get k i = 0) : pluElim n lu i = lu := by
  have hE : Square n (pluElim n lu i) := by
    unfold pluElim
    exact ⟨rfl, rfl, Mat.tab_WF _ _ _⟩
  apply Mat.ext_get hE.2.2 hlu.2.2 (hE.1.trans hlu.1.symm) (hE.2.1.trans hlu.2.1.symm)
  intro k j hk hj
  rw [hE.1] at hk
  rw [hE.2.1] at hj
  rw [pluElim_get n lu i hk hj]
  split_ifs with hik hji
  · rw [hji, h0 k hik hk, zero_div]
  · rw [h0 k hik hk, zero_div, zero_mul, sub_zero]
  · rfl
  · rfl

/-- one pass of the factorisation loop on `(1, 1)`: no exchange, pivot 1, all multipliers 0 -/
theorem pluStep_ident {eps : K} (hle : eps ≤ 1) {n i : Nat} (hi : i < n) :
    pluStep eps n ((Mat.ident n : Mat K), (Mat.ident n : Mat K)) i
      = some (Mat.ident n, Mat.ident n) := by
  have hsw : pluSwap n ((Mat.ident n : Mat K), (Mat.ident n : Mat K)) i
      = (Mat.ident n, Mat.ident n) := by
    unfold pluSwap
    exact if_pos (pivotRow_ident hi)
  unfold pluStep
  rw [hsw]
  dsimp only
  rw [Mat.get_ident hi hi, if_pos rfl, sabs_eq_abs, abs_one, if_neg (not_lt.mpr hle),
    pluElim_of_zero_column (ident_square n)
      fun k hik hk => by rw [Mat.get_ident hk hi, if_neg (by omega)]]

theorem iter_fixed {σ : Type} (step : σ → Nat → Option σ) (s : σ) (k : Nat) :
    ∀ i, (∀ j, i ≤ j → j < i + k → step s j = some s) → iter step k i s = some s := by
  induction k with
  | zero => intro i _; rfl
  | succ k ih =>
    intro i h
    rw [iter, h i (le_refl _) (by omega)]
    exact ih (i + 1) (fun j h1 h2 => h j (by omega) (by omega))

theorem plu_ident {eps : K} (hle : eps ≤ 1) (n : Nat) :
    plu eps (Mat.ident n : Mat K) =
      .ok (splitL n (Mat.ident n), splitU n (Mat.ident n), Mat.ident n) := by
  have hit : iter (pluStep eps n) n 0 ((Mat.ident n : Mat K), (Mat.ident n : Mat K))
      = some (Mat.ident n, Mat.ident n) :=
    iter_fixed _ _ n 0 fun j _ hj => pluStep_ident hle (by omega)
  exact plu_eq_ok_iff.2 ⟨rfl, _, hit, rfl, rfl, rfl⟩

end identity
end SV.C10
