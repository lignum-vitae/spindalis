import SV.Lemmas.C17
/-!
Lemmas for the print / parse round trips of C17, part 2: `displaySimple` (`Display for SimplePolynomial`)
against the univariate parser model `SV.C01.parse`.

Route: the printer in closed form — one `piece` per item that is not skipped (`displaySimple_eq`); a
piece is the rendering of the term `termOf prec p` behind its operator, so the printed text without
white space is `SV.C01.render v false (simpleTerms prec items)` (`stripWs_displaySimple`); the terms of
power `k` sum to the read-back value of item `k` (`simpleTerms_sum`); then `parse_render_spec` of
`SV.Lemmas.C01` applies.  What is said about a list of `(power, item)` pairs and a term per pair
(`printed`, `orZero`, `sum_pow`, `maxPow_lt`) is shared with the model string of `SV.Lemmas.C17Model`.
-/
namespace SV.C17
open SV SV.Text SV.C01


/-- the text one non-zero item contributes -/
def piece (prec : Bool) (v : Char) (first : Bool) (i : Nat) (it : Item) : List Char :=
  (if !first ∧ it.sign = .pos then " + ".toList else if it.sign = .neg then " - ".toList else []) ++
    ((if !it.isOne ∨ i = 0 then numText prec it.text else []) ++
      (match i with
        | 0 => []
        | 1 => [v]
        | _ => [v, '^'] ++ natText i))

theorem go_nil (prec : Bool) (v : Char) (first : Bool) (acc : List Char) :
    displaySimple.go prec v [] first acc = if first then acc ++ ['0'] else acc := by
  rw [displaySimple.go]

theorem go_cons (prec : Bool) (v : Char) (i : Nat) (it : Item) (rest : List (Nat × Item))
    (first : Bool) (acc : List Char) :
    displaySimple.go prec v ((i, it) :: rest) first acc =
      if it.sign = .zero then displaySimple.go prec v rest first acc
      else displaySimple.go prec v rest false (acc ++ piece prec v first i it) := by
  rw [displaySimple.go]
  split
  · rfl
  · show displaySimple.go prec v rest false _ = _
    congr 1
    unfold piece
    -- every step of the loop appends to the accumulator
    rw [← List.append_assoc, ← List.append_assoc, ← append_ite_nil, ← append_ite, ← append_ite_nil]
    rcases i with _ | _ | i
    · exact (List.append_nil _).symm
    · rfl
    · exact List.append_assoc ..

/-- position and item of a coefficient vector, lowest power first -/
def pairs (items : List Item) : List (Nat × Item) := (List.range items.length).zip items

def printed (l : List (Nat × Item)) : List (Nat × Item) := l.filter fun p => p.2.sign ≠ .zero

theorem printed_cons_zero {p : Nat × Item} (l : List (Nat × Item)) (h : p.2.sign = .zero) :
    printed (p :: l) = printed l :=
  List.filter_cons_of_neg (by simpa using h)

theorem printed_cons_nonzero {p : Nat × Item} (l : List (Nat × Item)) (h : p.2.sign ≠ .zero) :
    printed (p :: l) = p :: printed l :=
  List.filter_cons_of_pos (by simpa using h)

theorem mem_printed {p : Nat × Item} {l : List (Nat × Item)} :
    p ∈ printed l ↔ p ∈ l ∧ p.2.sign ≠ .zero := by
  simp [printed]

theorem printed_reverse (l : List (Nat × Item)) : printed l.reverse = (printed l).reverse :=
  List.filter_reverse ..

theorem go_later (prec : Bool) (v : Char) (l : List (Nat × Item)) (acc : List Char) :
    displaySimple.go prec v l false acc =
      acc ++ (printed l).flatMap fun p => piece prec v false p.1 p.2 := by
  induction l generalizing acc with
  | nil => rw [go_nil]; exact (List.append_nil acc).symm
  | cons p rest ih =>
    rcases p with ⟨i, it⟩
    rw [go_cons]
    split
    · rename_i hz; rw [printed_cons_zero rest hz]; exact ih acc
    · rename_i hz; rw [printed_cons_nonzero rest hz, ih, List.flatMap_cons, List.append_assoc]

theorem go_first (prec : Bool) (v : Char) (l : List (Nat × Item)) (acc : List Char) :
    displaySimple.go prec v l true acc =
      acc ++ match printed l with
        | [] => ['0']
        | p :: ps => piece prec v true p.1 p.2 ++ ps.flatMap fun p => piece prec v false p.1 p.2 := by
  induction l with
  | nil => rw [go_nil]; rfl
  | cons p rest ih =>
    rcases p with ⟨i, it⟩
    rw [go_cons]
    split
    · rename_i hz; rw [printed_cons_zero rest hz]; exact ih
    · rename_i hz; rw [printed_cons_nonzero rest hz, go_later, List.append_assoc]

/-- **the printer in closed form**: the printed pairs from the highest power down -/
theorem displaySimple_eq (prec : Bool) (var : Option Char) (items : List Item) :
    displaySimple prec var items =
      match printed (pairs items).reverse with
      | [] => ['0']
      | p :: ps => piece prec (var.getD 'x') true p.1 p.2 ++
          ps.flatMap fun p => piece prec (var.getD 'x') false p.1 p.2 :=
  go_first prec (var.getD 'x') (pairs items).reverse []

theorem displaySimple_zero (prec : Bool) (var : Option Char) {items : List Item}
    (h : ∀ it ∈ items, it.sign = .zero) : displaySimple prec var items = ['0'] := by
  have : printed (pairs items).reverse = [] :=
    List.filter_eq_nil_iff.2 fun p hp => by
      simpa using h p.2 (List.of_mem_zip (List.mem_reverse.1 hp)).2
  rw [displaySimple_eq, this]

def bodyOf (i : Nat) : Body :=
  match i with
  | 0 => .const
  | 1 => .var
  | _ => .varPow (natText i)

/-- the term a non-zero item at position `i` is printed as: sign, coefficient unless it is a unit and the
variable follows, power `i` -/
def termOf (prec : Bool) (p : Nat × Item) : TermSyn :=
  ⟨decide (p.2.sign = .neg),
    if !p.2.isOne ∨ p.1 = 0 then some (udecOf (numText prec p.2.text)) else none,
    bodyOf p.1⟩

/-- the term the zero polynomial is printed as: `0` -/
def zeroTerm : TermSyn := ⟨false, some ⟨['0'], [], false⟩, .const⟩

/-- the terms of a printed text: those of the printed items, or `0` if there is none -/
def orZero : List TermSyn → List TermSyn
  | [] => [zeroTerm]
  | ts => ts

def simpleTerms (prec : Bool) (items : List Item) : List TermSyn :=
  orZero ((printed (pairs items).reverse).map (termOf prec))

theorem bodyOf_pow (i : Nat) : (bodyOf i).pow = i := by
  rcases i with _ | _ | i
  · rfl
  · rfl
  · exact digitsVal_natText _

theorem termOf_pow (prec : Bool) (p : Nat × Item) : (termOf prec p).pow = p.1 := bodyOf_pow p.1

theorem bodyOf_render (v : Char) (i : Nat) :
    (bodyOf i).render v = (match i with
        | 0 => []
        | 1 => [v]
        | _ => [v, '^'] ++ natText i) := by
  rcases i with _ | _ | i <;> rfl

theorem bodyOf_const {i : Nat} (h : bodyOf i = .const) : i = 0 := by
  rw [← bodyOf_pow i, h]; rfl

theorem bodyOf_varPow {i : Nat} {ds : List Char} (h : bodyOf i = .varPow ds) : ds = natText i := by
  rcases i with _ | _ | i
  · cases h
  · cases h
  · exact (Body.varPow.inj h).symm

theorem termOf_wf {cap : Nat} (prec : Bool) {p : Nat × Item} (ht : IsSpelling p.2.text)
    (hp : p.1 ≤ cap) : (termOf prec p).WF cap := by
  refine ⟨?_, ?_, ?_⟩
  · intro u hu
    simp only [termOf] at hu
    split at hu
    · cases hu
      exact (ht.numText prec).udecOf.1
    · cases hu
  · intro hb
    simp [termOf, bodyOf_const hb]
  · intro ds hb
    obtain rfl := bodyOf_varPow hb
    exact ⟨natText_ne_nil _, natText_digits _, by rw [digitsVal_natText]; exact hp⟩

theorem zeroTerm_wf (cap : Nat) : zeroTerm.WF cap :=
  ⟨fun u hu => Option.some.inj hu ▸ UDec.wf_of_wfb (by decide), fun _ h => (nomatch h),
    fun _ h => (nomatch h)⟩

theorem orZero_cons (t : TermSyn) (ts : List TermSyn) : orZero (t :: ts) = t :: ts := rfl

theorem orZero_wf {cap : Nat} {ts : List TermSyn} (h : WellFormed cap ts) :
    WellFormed cap (orZero ts) := by
  cases ts with
  | nil => intro t ht; rw [List.mem_singleton.1 ht]; exact zeroTerm_wf cap
  | cons t ts => exact h

theorem piece_eq (prec : Bool) (v : Char) (first : Bool) (i : Nat) {it : Item}
    (ht : IsSpelling it.text) :
    piece prec v first i it =
      (if !first ∧ it.sign = .pos then " + ".toList else if it.sign = .neg then " - ".toList else []) ++
        (termOf prec (i, it)).renderAbs v := by
  unfold piece TermSyn.renderAbs
  congr 2
  · simp only [termOf]
    split
    · exact ((ht.numText prec).udecOf.2.2).symm
    · rfl
  · exact (bodyOf_render v i).symm

theorem stripWs_renderAbs {cc : CharClass} (hcc : cc.Sane) {cap : Nat} {v : Char}
    (hv : cc.isAlpha v = true) {t : TermSyn} (ht : t.WF cap) :
    stripWs cc (t.renderAbs v) = t.renderAbs v :=
  stripWs_eq_self fun _ hc => (mem_renderAbs ht hc).not_ws hcc hv

/-- a pair that is printed, with its power within the cap and its text a spelling -/
def GoodPair (cap : Nat) (p : Nat × Item) : Prop :=
  p.2.sign ≠ .zero ∧ p.1 ≤ cap ∧ IsSpelling p.2.text

theorem GoodPair.wf {cap : Nat} {p : Nat × Item} (h : GoodPair cap p) (prec : Bool) :
    (termOf prec p).WF cap := termOf_wf prec h.2.2 h.2.1

theorem stripWs_piece_later {cc : CharClass} (hcc : cc.Sane) (hsp : cc.isWs ' ' = true) {cap : Nat}
    {v : Char} (hv : cc.isAlpha v = true) (prec : Bool) {p : Nat × Item} (h : GoodPair cap p) :
    stripWs cc (piece prec v false p.1 p.2) =
      (if (termOf prec p).neg then '-' else '+') :: (termOf prec p).renderAbs v := by
  rw [piece_eq prec v false p.1 h.2.2, ← stripWs_operator hcc hsp (termOf prec p).neg
    (stripWs_renderAbs hcc hv (h.wf prec))]
  congr 2
  obtain ⟨i, s, o, t⟩ := p
  cases s
  · rfl
  · exact absurd rfl h.1
  · rfl

theorem stripWs_piece_first {cc : CharClass} (hcc : cc.Sane) (hsp : cc.isWs ' ' = true) {cap : Nat}
    {v : Char} (hv : cc.isAlpha v = true) (prec : Bool) {p : Nat × Item} (h : GoodPair cap p) :
    stripWs cc (piece prec v true p.1 p.2) =
      (if (termOf prec p).neg then ['-'] else []) ++ (termOf prec p).renderAbs v := by
  rw [piece_eq prec v true p.1 h.2.2, stripWs_append, stripWs_renderAbs hcc hv (h.wf prec)]
  congr 1
  obtain ⟨i, s, o, t⟩ := p
  cases s
  · simp [termOf, stripWs, hsp, hcc.sym_not_ws.2.2.1]
  · rfl
  · rfl

/-- the formatter hypothesis for a coefficient vector: every non-zero item is spelled as a plain
decimal with an integer digit -/
def ItemsSpelled (items : List Item) : Prop := ∀ it ∈ items, it.sign ≠ .zero → IsSpelling it.text

theorem of_mem_pairs {items : List Item} {p : Nat × Item} (h : p ∈ pairs items) :
    p.1 < items.length ∧ p.2 ∈ items :=
  ⟨List.mem_range.1 (List.of_mem_zip h).1, (List.of_mem_zip h).2⟩

theorem goodPairs_of_items {cap : Nat} {items : List Item} (hlen : items.length ≤ cap + 1)
    (h : ItemsSpelled items) : ∀ p ∈ printed (pairs items).reverse, GoodPair cap p := by
  intro p hp
  obtain ⟨hmem, hz⟩ := mem_printed.1 hp
  obtain ⟨h1, h2⟩ := of_mem_pairs (List.mem_reverse.1 hmem)
  exact ⟨hz, by omega, h p.2 h2 hz⟩

theorem simpleTerms_wf {cap : Nat} (prec : Bool) {items : List Item}
    (hlen : items.length ≤ cap + 1) (h : ItemsSpelled items) :
    WellFormed cap (simpleTerms prec items) := by
  refine orZero_wf fun t ht => ?_
  obtain ⟨p, hp, rfl⟩ := List.mem_map.1 ht
  exact (goodPairs_of_items hlen h p hp).wf prec

theorem stripWs_displaySimple {cc : CharClass} (hcc : cc.Sane) (hsp : cc.isWs ' ' = true) {cap : Nat}
    (prec : Bool) (var : Option Char) (hv : cc.isAlpha (var.getD 'x') = true) {items : List Item}
    (hlen : items.length ≤ cap + 1) (h : ItemsSpelled items) :
    stripWs cc (displaySimple prec var items) = render (var.getD 'x') false (simpleTerms prec items) := by
  have hgood := goodPairs_of_items hlen h
  rw [displaySimple_eq]
  unfold simpleTerms
  generalize printed (pairs items).reverse = l at hgood
  rcases l with _ | ⟨p, ps⟩
  · exact stripWs_zero hcc
  · rw [List.map_cons, orZero_cons, render_cons, if_neg Bool.false_ne_true, stripWs_append, stripWs_flatMap,
      stripWs_piece_first hcc hsp hv prec (hgood p (by simp)), renderTail, List.flatMap_map]
    congr 1
    exact List.flatMap_congr fun q hq => stripWs_piece_later hcc hsp hv prec (hgood q (by simp [hq]))

/-- the magnitude read back for item `i`: 1 if the coefficient was elided, else the value of its text -/
def magOf (i : Nat) (it : Item) : ℚ := if !it.isOne ∨ i = 0 then textValue it.text else 1

def rv (p : Nat × Item) : ℚ :=
  match p.2.sign with
  | .zero => 0
  | .pos => magOf p.1 p.2
  | .neg => -magOf p.1 p.2

/-- position `k` of a vector read item by item (`g` reads one item at its position) -/
def readWith (g : Nat × Item → ℚ) (items : List Item) (k : Nat) : ℚ :=
  match items[k]? with
  | some it => g (k, it)
  | none => 0

def readBack (items : List Item) (k : Nat) : ℚ := readWith rv items k

theorem zeroTerm_value : zeroTerm.value = 0 := by
  simp [zeroTerm, TermSyn.value, coefValue, UDec.value, UDec.mant, digitsVal, digitVal]

theorem orZero_sum (ts : List TermSyn) (k : Nat) :
    (((orZero ts).filter fun t => decide (t.pow = k)).map TermSyn.value).sum =
      ((ts.filter fun t => decide (t.pow = k)).map TermSyn.value).sum := by
  cases ts with
  | nil =>
    show ((([zeroTerm] : List TermSyn).filter fun t => decide (t.pow = k)).map TermSyn.value).sum = 0
    rw [List.filter_cons]
    split <;> simp [zeroTerm_value]
  | cons t ts => rfl

theorem maxPow_orZero (ts : List TermSyn) : maxPow (orZero ts) = maxPow ts := by
  cases ts <;> rfl

theorem writesVar_orZero (ts : List TermSyn) : writesVar (orZero ts) = writesVar ts := by
  cases ts <;> rfl

theorem termOf_value (prec : Bool) {p : Nat × Item} (hz : p.2.sign ≠ .zero)
    (ht : IsSpelling p.2.text) : (termOf prec p).value = rv p := by
  have hc : coefValue (termOf prec p).coef = magOf p.1 p.2 := by
    simp only [termOf, magOf]
    split
    · exact textValue_numText ht prec
    · rfl
  unfold TermSyn.value
  rw [hc]
  obtain ⟨i, s, o, t⟩ := p
  cases s
  · exact neg_one_mul _
  · exact absurd rfl hz
  · exact one_mul _

/-- a term per printed pair, of the pair's power and of value `g`: the terms of power `k` sum to what
`g` reads at the pairs of position `k` -/
theorem sum_pow {f : Nat × Item → TermSyn} {g : Nat × Item → ℚ} (hpow : ∀ p, (f p).pow = p.1)
    (hzero : ∀ p, p.2.sign = .zero → g p = 0) (k : Nat) (l : List (Nat × Item))
    (hval : ∀ p ∈ printed l, (f p).value = g p) :
    ((((printed l).map f).filter fun t => decide (t.pow = k)).map TermSyn.value).sum =
      (l.map fun p => if p.1 = k then g p else 0).sum := by
  induction l with
  | nil => rfl
  | cons p rest ih =>
    rw [List.map_cons, List.sum_cons]
    by_cases hz : p.2.sign = .zero
    · rw [printed_cons_zero rest hz] at hval ⊢
      rw [ih hval, hzero p hz, ite_self, zero_add]
    · rw [printed_cons_nonzero rest hz] at hval ⊢
      rw [← ih fun q hq => hval q (List.mem_cons_of_mem _ hq), List.map_cons, List.filter_cons, hpow,
        ← hval p List.mem_cons_self]
      by_cases hk : p.1 = k
      · simp [hk]
      · simp [hk]

theorem zip_range'_sum (g : Nat × Item → ℚ) (k : Nat) (items : List Item) (s : Nat) :
    (((List.range' s items.length).zip items).map fun p => if p.1 = k then g p else 0).sum =
      if s ≤ k then (match items[k - s]? with
        | some it => g (k, it)
        | none => 0) else 0 := by
  induction items generalizing s with
  | nil => simp
  | cons it rest ih =>
    rw [List.length_cons, List.range'_succ, List.zip_cons_cons, List.map_cons, List.sum_cons, ih (s + 1)]
    rcases Nat.lt_trichotomy s k with hlt | rfl | hgt
    · have e : k - s = k - (s + 1) + 1 := by omega
      rw [e, List.getElem?_cons_succ, if_neg (show s ≠ k by omega), if_pos (show s + 1 ≤ k by omega),
        if_pos (show s ≤ k by omega), zero_add]
    · rw [if_pos rfl, if_neg (Nat.not_succ_le_self s), if_pos le_rfl, Nat.sub_self, add_zero]
      rfl
    · rw [if_neg (show s ≠ k by omega), if_neg (show ¬ s + 1 ≤ k by omega),
        if_neg (show ¬ s ≤ k by omega), add_zero]

theorem pairs_sum (g : Nat × Item → ℚ) (k : Nat) (items : List Item) :
    ((pairs items).map fun p => if p.1 = k then g p else 0).sum = readWith g items k := by
  have := zip_range'_sum g k items 0
  rwa [← List.range_eq_range', if_pos (Nat.zero_le k)] at this

theorem simpleTerms_sum {cap : Nat} (prec : Bool) {items : List Item}
    (hlen : items.length ≤ cap + 1) (h : ItemsSpelled items) (k : Nat) :
    (((simpleTerms prec items).filter fun t => decide (t.pow = k)).map TermSyn.value).sum =
      readBack items k := by
  unfold simpleTerms
  rw [orZero_sum, sum_pow (termOf_pow prec) (fun p hz => by simp [rv, hz]) k _ fun p hp =>
      have hg := goodPairs_of_items hlen h p hp
      termOf_value prec hg.1 hg.2.2,
    List.map_reverse, List.sum_reverse, pairs_sum]
  rfl

/-- pairs below `n` give terms of power below `n` (one entry for the zero polynomial) -/
theorem maxPow_lt {f : Nat × Item → TermSyn} (hpow : ∀ p, (f p).pow = p.1) {l : List (Nat × Item)}
    {n : Nat} (h : ∀ p ∈ l, p.1 < n) : maxPow (orZero ((printed l).map f)) < max n 1 := by
  rw [maxPow_orZero]
  by_cases hne : (printed l).map f = []
  · rw [hne]; exact lt_of_lt_of_le Nat.zero_lt_one (le_max_right _ _)
  · obtain ⟨t, ht, hp⟩ := maxPow_attained hne
    obtain ⟨p, hmem, rfl⟩ := List.mem_map.1 ht
    rw [← hp, hpow]
    exact lt_of_lt_of_le (h p (mem_printed.1 hmem).1) (le_max_left _ _)

theorem parse_displaySimple {cc : CharClass} (hcc : cc.Sane) (hsp : cc.isWs ' ' = true) (cap : Nat)
    (prec : Bool) (var : Option Char) (hv : cc.isAlpha (var.getD 'x') = true) {items : List Item}
    (hlen : items.length ≤ cap + 1) (h : ItemsSpelled items) :
    ∃ p, parse cc cap (displaySimple prec var items) = .ok p ∧
      p.var = (if writesVar (simpleTerms prec items) then some (var.getD 'x') else none) ∧
      p.coeffs.length = maxPow (simpleTerms prec items) + 1 ∧
      ∀ k, (p.coeffs.getD k Num.zero).val = readBack items k := by
  obtain ⟨p, hp, hvar, hl, hval⟩ := parse_render_spec hcc (VarOK.of_alpha hcc hv)
    (simpleTerms_wf prec hlen h) (fun _ => hv)
    (stripWs_displaySimple hcc hsp prec var hv hlen h)
  exact ⟨p, hp, hvar, hl, fun k => by rw [hval k, simpleTerms_sum prec hlen h k]⟩

theorem mem_pairs {items : List Item} {k : Nat} {it : Item} :
    (k, it) ∈ pairs items ↔ items[k]? = some it := by
  unfold pairs
  constructor
  · intro h
    obtain ⟨j, hj, hje⟩ := List.mem_iff_getElem.1 h
    rw [List.getElem_zip, List.getElem_range] at hje
    simp only [Prod.mk.injEq] at hje
    obtain ⟨rfl, rfl⟩ := hje
    rw [List.length_zip, List.length_range, Nat.min_self] at hj
    exact List.getElem?_eq_getElem hj
  · intro h
    obtain ⟨hk, rfl⟩ := List.getElem?_eq_some_iff.1 h
    have hk' : k < ((List.range items.length).zip items).length := by
      rw [List.length_zip, List.length_range, Nat.min_self]; exact hk
    refine List.mem_iff_getElem.2 ⟨k, hk', ?_⟩
    rw [List.getElem_zip, List.getElem_range]

theorem mem_simpleTerms {prec : Bool} {items : List Item} {t : TermSyn} :
    t ∈ (printed (pairs items).reverse).map (termOf prec) ↔
      ∃ k it, items[k]? = some it ∧ it.sign ≠ .zero ∧ t = termOf prec (k, it) := by
  simp only [List.mem_map, mem_printed, List.mem_reverse]
  constructor
  · rintro ⟨⟨k, it⟩, ⟨hmem, hz⟩, rfl⟩
    exact ⟨k, it, mem_pairs.1 hmem, hz, rfl⟩
  · rintro ⟨k, it, hk, hz, rfl⟩
    exact ⟨(k, it), ⟨mem_pairs.2 hk, hz⟩, rfl⟩

theorem maxPow_simpleTerms (prec : Bool) (items : List Item) :
    (∀ k it, items[k]? = some it → it.sign ≠ .zero → k ≤ maxPow (simpleTerms prec items)) ∧
      (maxPow (simpleTerms prec items) = 0 ∨
        ∃ it, items[maxPow (simpleTerms prec items)]? = some it ∧ it.sign ≠ .zero) := by
  unfold simpleTerms
  rw [maxPow_orZero]
  constructor
  · intro k it hk hz
    have := pow_le_maxPow (mem_simpleTerms.2 ⟨k, it, hk, hz, rfl⟩ : termOf prec (k, it) ∈ _)
    rwa [termOf_pow] at this
  · by_cases hne : (printed (pairs items).reverse).map (termOf prec) = []
    · left; rw [hne]; rfl
    · right
      obtain ⟨t, ht, hpow⟩ := maxPow_attained hne
      obtain ⟨k, it, hk, hz, rfl⟩ := mem_simpleTerms.1 ht
      rw [termOf_pow] at hpow
      exact ⟨it, hpow ▸ hk, hz⟩

theorem bodyOf_writesVar (i : Nat) : (bodyOf i).writesVar = decide (i ≠ 0) := by
  rcases i with _ | _ | i <;> rfl

theorem writesVar_simpleTerms (prec : Bool) (items : List Item) :
    writesVar (simpleTerms prec items) = true ↔
      ∃ k it, 1 ≤ k ∧ items[k]? = some it ∧ it.sign ≠ .zero := by
  unfold simpleTerms
  rw [writesVar_orZero]
  unfold writesVar
  rw [List.any_eq_true]
  constructor
  · rintro ⟨t, ht, hw⟩
    obtain ⟨k, it, hk, hz, rfl⟩ := mem_simpleTerms.1 ht
    simp only [termOf, bodyOf_writesVar, decide_eq_true_eq] at hw
    exact ⟨k, it, by omega, hk, hz⟩
  · rintro ⟨k, it, h1, hk, hz⟩
    refine ⟨_, mem_simpleTerms.2 ⟨k, it, hk, hz, rfl⟩, ?_⟩
    simp only [termOf, bodyOf_writesVar, decide_eq_true_eq]
    omega

/-- sign class of a number (the printers test `c < 0`, `c > 0`, `c == 0`) -/
def signOfQ (c : ℚ) : Sign := if c < 0 then .neg else if 0 < c then .pos else .zero

/-- **Formatter hypothesis for one coefficient** `c` and its item:
the sign class is the sign of `c`; the unit flag is set only if `|c| = 1` (it is computed from the
float, so in the code it is set *iff* `|c| = 1`; only this direction is needed); if `c ≠ 0` the text is
a plain decimal spelling with an integer digit, and its value is `|c|` (`digits = none`: Rust's
shortest round-trip `{}`) resp. within half a unit of the `d`-th decimal of `|c|` (`digits = some d`:
`{:.d}`). -/
structure ItemOK (digits : Option Nat) (it : Item) (c : ℚ) : Prop where
  sign : it.sign = signOfQ c
  one : it.isOne = true → |c| = 1
  spelled : c ≠ 0 → IsSpelling it.text
  value : c ≠ 0 → match digits with
    | none => textValue it.text = |c|
    | some d => |textValue it.text - abs c| ≤ 1 / 2 * (1 / 10 : ℚ) ^ d

/-- decided field by field; `value` is `Close digits (textValue it.text) |c|` written out -/
instance (digits : Option Nat) (it : Item) (c : ℚ) : Decidable (ItemOK digits it c) :=
  decidable_of_iff (it.sign = signOfQ c ∧ (it.isOne = true → |c| = 1) ∧ (c ≠ 0 → IsSpelling it.text) ∧
      (c ≠ 0 → Close digits (textValue it.text) |c|))
    ⟨fun ⟨h1, h2, h3, h4⟩ => ⟨h1, h2, h3, h4⟩, fun ⟨h1, h2, h3, h4⟩ => ⟨h1, h2, h3, h4⟩⟩

def ItemsOK (digits : Option Nat) (items : List Item) (cs : List ℚ) : Prop :=
  items.length = cs.length ∧ ∀ k it, items[k]? = some it → ItemOK digits it (cs.getD k 0)

theorem signOfQ_zero {c : ℚ} : signOfQ c = .zero ↔ c = 0 := by
  unfold signOfQ
  split_ifs with h1 h2
  · simp; exact ne_of_lt h1
  · simp; exact ne_of_gt h2
  · simp; exact le_antisymm (not_lt.1 h2) (not_lt.1 h1)

theorem signOfQ_pos {c : ℚ} : signOfQ c = .pos ↔ 0 < c := by
  unfold signOfQ
  split_ifs with h1 h2
  · simp; exact le_of_lt h1
  · simp [h2]
  · simp [h2]

theorem signOfQ_neg {c : ℚ} : signOfQ c = .neg ↔ c < 0 := by
  unfold signOfQ
  split_ifs with h1 h2
  · simp [h1]
  · simp [h1]
  · simp [h1]

/-- a property of item and coefficient that holds at the head and position by position in the tail
holds position by position -/
theorem pointwise_cons {P : Item → ℚ → Prop} {it : Item} {c : ℚ} {items : List Item} {cs : List ℚ}
    (h : P it c) (hs : ∀ k it', items[k]? = some it' → P it' (cs.getD k 0)) :
    ∀ k it', (it :: items)[k]? = some it' → P it' ((c :: cs).getD k 0)
  | 0, _, hk => Option.some.inj hk ▸ h
  | k + 1, it', hk => hs k it' hk

theorem pointwise_mem {P : Item → ℚ → Prop} {items : List Item} {cs : List ℚ}
    (hs : ∀ k it, items[k]? = some it → P it (cs.getD k 0)) {it : Item} (hit : it ∈ items) :
    ∃ c, P it c := by
  obtain ⟨k, hk⟩ := List.getElem?_of_mem hit
  exact ⟨_, hs k it hk⟩

theorem ItemsOK.nil (digits : Option Nat) : ItemsOK digits [] [] :=
  ⟨rfl, fun _ _ hk => nomatch hk⟩

theorem ItemsOK.cons {digits : Option Nat} {it : Item} {c : ℚ} {items : List Item} {cs : List ℚ}
    (h : ItemOK digits it c) (hs : ItemsOK digits items cs) : ItemsOK digits (it :: items) (c :: cs) :=
  ⟨congrArg Nat.succ hs.1, pointwise_cons h hs.2⟩

theorem ItemsOK.of_forall₂ {digits : Option Nat} {items : List Item} {cs : List ℚ}
    (h : List.Forall₂ (ItemOK digits) items cs) : ItemsOK digits items cs := by
  induction h with
  | nil => exact .nil _
  | cons h _ ih => exact .cons h ih

theorem ItemsOK.spelled {digits : Option Nat} {items : List Item} {cs : List ℚ}
    (h : ItemsOK digits items cs) : ItemsSpelled items := by
  intro it hit hz
  obtain ⟨c, hok⟩ := pointwise_mem h.2 hit
  exact hok.spelled fun hc => hz (hok.sign.trans (signOfQ_zero.2 hc))

theorem ItemOK.rv_close {digits : Option Nat} {it : Item} {c : ℚ} (h : ItemOK digits it c) (k : Nat) :
    Close digits (rv (k, it)) c := by
  have hm : c ≠ 0 → Close digits (magOf k it) |c| := fun hc => by
    unfold magOf
    split
    · exact h.value hc
    · rename_i hne
      rw [h.one (by simpa using (not_or.1 hne).1)]
      exact Close.rfl' _ _
  unfold rv
  dsimp only
  rw [h.sign]
  rcases lt_trichotomy c 0 with hc | rfl | hc
  · rw [signOfQ_neg.2 hc]; exact (hm hc.ne).neg_abs hc
  · rw [signOfQ_zero.2 rfl]; exact Close.rfl' _ _
  · rw [signOfQ_pos.2 hc]; exact (hm hc.ne').of_abs hc.le

theorem readWith_close {digits : Option Nat} {items : List Item} {cs : List ℚ} {g : Nat × Item → ℚ}
    (hlen : items.length = cs.length)
    (h : ∀ k it, items[k]? = some it → Close digits (g (k, it)) (cs.getD k 0)) (k : Nat) :
    Close digits (readWith g items k) (cs.getD k 0) := by
  unfold readWith
  cases hk : items[k]? with
  | none =>
    have : cs.length ≤ k := hlen ▸ List.getElem?_eq_none_iff.1 hk
    rw [List.getD_eq_getElem?_getD, List.getElem?_eq_none this]
    exact Close.rfl' _ _
  | some it => exact h k it hk

theorem readBack_close {digits : Option Nat} {items : List Item} {cs : List ℚ}
    (h : ItemsOK digits items cs) (k : Nat) : Close digits (readBack items k) (cs.getD k 0) :=
  readWith_close h.1 (fun k it hk => (h.2 k it hk).rv_close k) k

end SV.C17
