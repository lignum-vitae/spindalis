import SV.Lemmas.C02
import SV.Lemmas.C02Text
/-!
The documented multivariate language as abstract syntax, its rendering to text and its meaning —
the vocabulary of `SV.Props.C02.parse_render_inter`.

    polynomial ::= [+|-] term { (+|-) term }
    term       ::= coefficient factor*  |  factor+
    coefficient::= udec | udec '/' udec            (denominator ≠ 0)
    factor     ::= letter [ '^' exponent ]          (letter: one ASCII letter; distinct within a term)
    exponent   ::= [-] udec | [-] udec '/' udec     (denominator ≠ 0)
    udec       ::= digits | digits '.' | '.' digits | digits '.' digits

`render` writes a term list without white space; the theorems quantify over every text whose
non-white-space characters are a rendering.  `TermSyn.sem` is the meaning: (signed coefficient value,
list of (letter, exponent value) sorted by letter), in ℚ.

`TermSyn.WF` asks for distinct letters within a term, as the documented language does; the parser also
accepts a repeated letter (`xx`, `xyx^2`) and adds the exponents, so the lemmas are stated for
`TermSyn.WF'` (= `WF` without distinctness) and for `TermSyn.read`, the term the parser returns then.
-/
namespace SV.C02
open SV SV.Text

/-- coefficient spelling: absent (implicit 1), a decimal, or a fraction of decimals -/
inductive Coef where
  | none
  | dec (u : UDec)
  | frac (a b : UDec)

def Coef.WF : Coef → Prop
  | .none => True
  | .dec u => u.WF
  | .frac a b => a.WF ∧ b.WF ∧ b.mant ≠ 0

def Coef.render : Coef → List Char
  | .none => []
  | .dec u => u.render
  | .frac a b => a.render ++ '/' :: b.render

def Coef.value : Coef → ℚ
  | .none => 1
  | .dec u => u.value
  | .frac a b => a.value / b.value

def sgn (neg : Bool) : ℚ := if neg then -1 else 1

/-- explicit exponent spelling: optionally negative decimal or fraction of decimals -/
inductive Expo where
  | dec (neg : Bool) (u : UDec)
  | frac (neg : Bool) (a b : UDec)

def Expo.WF : Expo → Prop
  | .dec _ u => u.WF
  | .frac _ a b => a.WF ∧ b.WF ∧ b.mant ≠ 0

def Expo.render : Expo → List Char
  | .dec neg u => signChars neg ++ u.render
  | .frac neg a b => signChars neg ++ a.render ++ '/' :: b.render

def Expo.value : Expo → ℚ
  | .dec neg u => sgn neg * u.value
  | .frac neg a b => sgn neg * a.value / b.value

/-- a variable factor: an ASCII letter with an optional exponent -/
structure Factor where
  letter : Char
  exp : Option Expo

def Factor.render (f : Factor) : List Char :=
  f.letter :: (match f.exp with | none => [] | some e => '^' :: e.render)

def Factor.expValue (f : Factor) : ℚ := match f.exp with | none => 1 | some e => e.value

def renderFactors (fs : List Factor) : List Char := fs.flatMap Factor.render

structure TermSyn where
  neg : Bool
  coef : Coef
  factors : List Factor

structure TermSyn.WF (t : TermSyn) : Prop where
  coef_wf : t.coef.WF
  letters : ∀ f ∈ t.factors, isAsciiLetter f.letter = true
  exps_wf : ∀ f ∈ t.factors, ∀ e, f.exp = some e → e.WF
  /-- the property's quantifier: distinct variables within a term -/
  distinct : (t.factors.map (·.letter)).Nodup
  /-- a term has a coefficient or at least one variable -/
  nonempty : t.coef ≠ .none ∨ t.factors ≠ []

/-- well-formed written term **without** the distinctness requirement of `TermSyn.WF`: the same letter
may be written several times in one term (`xx`, `xyx^2`) -/
structure TermSyn.WF' (t : TermSyn) : Prop where
  coef_wf : t.coef.WF
  letters : ∀ f ∈ t.factors, SV.Text.isAsciiLetter f.letter = true
  exps_wf : ∀ f ∈ t.factors, ∀ e, f.exp = some e → e.WF
  /-- a term has a coefficient or at least one variable -/
  nonempty : t.coef ≠ .none ∨ t.factors ≠ []

theorem TermSyn.WF.wf' {t : TermSyn} (h : t.WF) : t.WF' :=
  ⟨h.coef_wf, h.letters, h.exps_wf, h.nonempty⟩

theorem TermSyn.WF'.wf {t : TermSyn} (h : t.WF') (hd : (t.factors.map (·.letter)).Nodup) : t.WF :=
  ⟨h.coef_wf, h.letters, h.exps_wf, hd, h.nonempty⟩

def TermSyn.body (t : TermSyn) : List Char := t.coef.render ++ renderFactors t.factors

/-- a term list as text without white space: the first term is written `-t`, `+t` (when `leadPlus`) or
`t`, every later term `-t` or `+t` -/
def render (leadPlus : Bool) : List TermSyn → List Char
  | [] => []
  | t :: ts => (if t.neg then ['-'] else if leadPlus then ['+'] else []) ++ t.body ++
      ts.flatMap fun u => (if u.neg then '-' else '+') :: u.body

/-- meaning of a written term: signed coefficient value and the (letter, exponent value) pairs sorted
by letter -/
def TermSyn.sem (t : TermSyn) : ℚ × List (String × ℚ) :=
  (sgn t.neg * t.coef.value,
   (t.factors.map fun f => (String.singleton f.letter, f.expValue)).mergeSort
     (fun a b => decide (a.1 ≤ b.1)))

/-- meaning of a parsed term: coefficient value and (name, exponent value) pairs in stored order -/
def ITerm.sem (t : ITerm) : ℚ × List (String × ℚ) :=
  (numVal t.coef, t.vars.map fun v => (v.1, numVal v.2))

def Coef.num (neg : Bool) : Coef → Num
  | .none => if neg then Num.negOne else Num.one
  | .dec u => .dec ⟨neg, u.mant, u.fp.length⟩
  | .frac a b => .div (.dec ⟨neg, a.mant, a.fp.length⟩) (.dec ⟨false, b.mant, b.fp.length⟩)

def Expo.num : Expo → Num
  | .dec neg u => .dec ⟨neg, u.mant, u.fp.length⟩
  | .frac neg a b => .div (.dec ⟨neg, a.mant, a.fp.length⟩) (.dec ⟨false, b.mant, b.fp.length⟩)

def Factor.num (f : Factor) : Num := match f.exp with | none => Num.one | some e => e.num

def Factor.entry (f : Factor) : String × Num := (String.singleton f.letter, f.num)

/-- the term the parser returns for a written term -/
def TermSyn.toITerm (t : TermSyn) : ITerm :=
  ⟨t.coef.num t.neg, (t.factors.map Factor.entry).mergeSort leName⟩

/-- the variable list the parser builds from the written factors, before sorting: a repeated letter
adds its exponent to the first occurrence -/
def mergeFactors (fs : List Factor) (acc : List (String × SV.Text.Num)) : List (String × SV.Text.Num) :=
  fs.foldl (fun acc f => addVar acc (String.singleton f.letter) f.num) acc

/-- the term the parser returns for a written term (letters may repeat) -/
def TermSyn.read (t : TermSyn) : ITerm :=
  ⟨t.coef.num t.neg, (mergeFactors t.factors []).mergeSort leName⟩

/-- the part of the normalised text that belongs to a term: `-` if negative, then the body -/
def TermSyn.piece (t : TermSyn) : List Char := signChars t.neg ++ t.body

theorem numVal_coefNum (neg : Bool) (c : Coef) : numVal (c.num neg) = sgn neg * c.value := by
  cases c with
  | none => cases neg <;> simp [Coef.num, Coef.value, sgn]
  | dec u => simp only [Coef.num, numVal, decVal_mk, sgn, Coef.value]
  | frac a b =>
    simp only [Coef.num, numVal, decVal_mk, sgn, Coef.value, Bool.false_eq_true, if_false, one_mul]
    rw [mul_div_assoc]

theorem numVal_expoNum (e : Expo) : numVal e.num = e.value := by
  cases e with
  | dec neg u => simp only [Expo.num, numVal, decVal_mk, sgn, Expo.value]
  | frac neg a b =>
    simp only [Expo.num, numVal, decVal_mk, sgn, Expo.value, Bool.false_eq_true, if_false, one_mul]

theorem numVal_factorNum (f : Factor) : numVal f.num = f.expValue := by
  unfold Factor.num Factor.expValue
  cases f.exp with
  | none => simp
  | some e => exact numVal_expoNum e

theorem sem_toITerm (t : TermSyn) : t.toITerm.sem = t.sem := by
  unfold ITerm.sem TermSyn.sem TermSyn.toITerm
  simp only [numVal_coefNum]
  congr 1
  rw [List.map_mergeSort (r := leName) (s := fun (a b : String × ℚ) => decide (a.1 ≤ b.1))
    (f := fun v : String × Num => (v.1, numVal v.2)) (fun a _ b _ => rfl)]
  congr 1
  rw [List.map_map]
  apply List.map_congr_left
  intro f _
  simp [Factor.entry, numVal_factorNum]

theorem renderFactors_cons (f : Factor) (fs : List Factor) :
    renderFactors (f :: fs) = f.render ++ renderFactors fs := by
  simp [renderFactors]

theorem piece_eq (t : TermSyn) :
    t.piece = signChars t.neg ++ t.coef.render ++ renderFactors t.factors := by
  simp [TermSyn.piece, TermSyn.body]

theorem coefChars {k : Coef} (hk : k.WF) :
    ∀ c ∈ k.render, isAsciiDigit c = true ∨ c = '.' ∨ c = '/' := by
  intro c hc
  cases k with
  | none => simp [Coef.render] at hc
  | dec u => rcases UDec.mem_render hk hc with h | h <;> simp [h]
  | frac a b =>
    simp only [Coef.render, List.mem_append, List.mem_cons] at hc
    rcases hc with h | h | h
    · rcases UDec.mem_render hk.1 h with h | h <;> simp [h]
    · simp [h]
    · rcases UDec.mem_render hk.2.1 h with h | h <;> simp [h]

theorem mem_signChars {neg : Bool} {c : Char} (h : c ∈ signChars neg) : c = '-' := by
  cases neg <;> simp [signChars] at h
  exact h

theorem expoChars {e : Expo} (he : e.WF) :
    ∀ c ∈ e.render, isAsciiDigit c = true ∨ c = '.' ∨ c = '/' ∨ c = '-' := by
  intro c hc
  cases e with
  | dec neg u =>
    simp only [Expo.render, List.mem_append] at hc
    rcases hc with h | h
    · simp [mem_signChars h]
    · rcases UDec.mem_render he h with h | h <;> simp [h]
  | frac neg a b =>
    simp only [Expo.render, List.mem_append, List.mem_cons] at hc
    rcases hc with (h | h) | h | h
    · simp [mem_signChars h]
    · rcases UDec.mem_render he.1 h with h | h <;> simp [h]
    · simp [h]
    · rcases UDec.mem_render he.2.1 h with h | h <;> simp [h]

def BodyChar (c : Char) : Prop :=
  isAsciiDigit c = true ∨ isAsciiLetter c = true ∨ c = '.' ∨ c = '/' ∨ c = '-' ∨ c = '^'

theorem BodyChar.ne_plus {c : Char} (h : BodyChar c) : c ≠ '+' := by
  rcases h with h | h | h | h | h | h
  · exact digit_ne_plus h
  · exact letter_ne_plus h
  all_goals (subst h; decide)

theorem BodyChar.not_ws {cc : CharClass} (hcc : Sane cc) {c : Char} (h : BodyChar c) :
    cc.isWs c = false := by
  rcases h with h | h | h | h | h | h
  · exact hcc.digit_not_ws c h
  · exact hcc.letter_not_ws c h
  · subst h; exact hcc.sym_not_ws.1
  · subst h; exact hcc.sym_not_ws.2.1
  · subst h; exact hcc.sym_not_ws.2.2.1
  · subst h; exact hcc.sym_not_ws.2.2.2.2

theorem bodyChar_dash : BodyChar '-' := Or.inr (Or.inr (Or.inr (Or.inr (Or.inl rfl))))

theorem mem_factor_render {f : Factor} {c : Char} (hc : c ∈ f.render) :
    c = f.letter ∨ ∃ e, f.exp = some e ∧ (c = '^' ∨ c ∈ e.render) := by
  unfold Factor.render at hc
  rcases List.mem_cons.1 hc with h | h
  · exact Or.inl h
  · cases hx : f.exp with
    | none => rw [hx] at h; cases h
    | some e => rw [hx] at h; exact Or.inr ⟨e, rfl, List.mem_cons.1 h⟩

theorem bodyChar_body {t : TermSyn} (ht : t.WF') {c : Char} (hc : c ∈ t.body) : BodyChar c := by
  unfold TermSyn.body renderFactors at hc
  rcases List.mem_append.1 hc with h | h
  · rcases coefChars ht.coef_wf c h with h | h | h <;> simp [BodyChar, h]
  · obtain ⟨f, hf, hcf⟩ := List.mem_flatMap.1 h
    rcases mem_factor_render hcf with rfl | ⟨e, he, rfl | h⟩
    · exact Or.inr (Or.inl (ht.letters f hf))
    · simp [BodyChar]
    · rcases expoChars (ht.exps_wf f hf e he) c h with h | h | h | h <;> simp [BodyChar, h]

theorem bodyChar_piece {t : TermSyn} (ht : t.WF') {c : Char} (hc : c ∈ t.piece) : BodyChar c := by
  unfold TermSyn.piece at hc
  rcases List.mem_append.1 hc with h | h
  · exact mem_signChars h ▸ bodyChar_dash
  · exact bodyChar_body ht h

theorem plus_not_mem_piece {t : TermSyn} (ht : t.WF') : '+' ∉ t.piece :=
  fun h => (bodyChar_piece ht h).ne_plus rfl

theorem mem_render_cases {lead : Bool} {ts : List TermSyn} {c : Char} (hc : c ∈ render lead ts) :
    c = '+' ∨ c = '-' ∨ ∃ t ∈ ts, c ∈ t.body := by
  cases ts with
  | nil => cases hc
  | cons t ts =>
    simp only [render, List.mem_append, List.mem_flatMap, List.mem_cons] at hc
    rcases hc with (h | h) | ⟨u, hu, rfl | h⟩
    · split at h
      · exact Or.inr (Or.inl (List.mem_singleton.1 h))
      · split at h
        · exact Or.inl (List.mem_singleton.1 h)
        · cases h
    · exact Or.inr (Or.inr ⟨t, by simp, h⟩)
    · split
      · exact Or.inr (Or.inl rfl)
      · exact Or.inl rfl
    · exact Or.inr (Or.inr ⟨u, by simp [hu], h⟩)

theorem mem_render {lead : Bool} {ts : List TermSyn} (hwf : ∀ t ∈ ts, t.WF') {c : Char}
    (hc : c ∈ render lead ts) : c = '+' ∨ BodyChar c := by
  rcases mem_render_cases hc with rfl | rfl | ⟨t, ht, h⟩
  · exact Or.inl rfl
  · exact Or.inr bodyChar_dash
  · exact Or.inr (bodyChar_body (hwf t ht) h)

/-- a letter in a rendering is the letter of a factor: signs, coefficients and exponents contain none -/
theorem letter_of_mem_render {lead : Bool} {ts : List TermSyn} (hwf : ∀ t ∈ ts, t.WF') {c : Char}
    (hl : isAsciiLetter c = true) (hc : c ∈ render lead ts) :
    ∃ t ∈ ts, ∃ f ∈ t.factors, c = f.letter := by
  rcases mem_render_cases hc with rfl | rfl | ⟨t, ht, hcb⟩
  · exact absurd rfl (letter_ne_plus hl)
  · exact absurd rfl (letter_ne_dash hl)
  unfold TermSyn.body renderFactors at hcb
  rcases List.mem_append.1 hcb with h1 | h1
  · rcases coefChars (hwf t ht).coef_wf c h1 with h2 | h2 | h2
    · rw [letter_not_digit hl] at h2; cases h2
    · exact absurd h2 (letter_ne_dot hl)
    · exact absurd h2 (letter_ne_slash hl)
  · obtain ⟨f, hf, hcf⟩ := List.mem_flatMap.1 h1
    rcases mem_factor_render hcf with rfl | ⟨e, he, h2 | h2⟩
    · exact ⟨t, ht, f, hf, rfl⟩
    · exact absurd h2 (letter_ne_caret hl)
    · rcases expoChars ((hwf t ht).exps_wf f hf e he) c h2 with h4 | h4 | h4 | h4
      · rw [letter_not_digit hl] at h4; cases h4
      · exact absurd h4 (letter_ne_dot hl)
      · exact absurd h4 (letter_ne_slash hl)
      · exact absurd h4 (letter_ne_dash hl)

theorem Coef.render_ne_nil {k : Coef} (hk : k.WF) (hne : k ≠ .none) : k.render ≠ [] := by
  cases k with
  | none => exact absurd rfl hne
  | dec u => exact UDec.render_ne_nil hk
  | frac a b => simp [Coef.render]

theorem body_ne_nil {t : TermSyn} (ht : t.WF') : t.body ≠ [] := by
  unfold TermSyn.body
  rcases ht.nonempty with h | h
  · intro e
    exact Coef.render_ne_nil ht.coef_wf h (List.append_eq_nil_iff.1 e).1
  · cases hf : t.factors with
    | nil => exact absurd hf h
    | cons f fs => simp [renderFactors, Factor.render]

theorem stripWs_render {cc : CharClass} (hbody : ∀ c, BodyChar c → cc.isWs c = false)
    (hplus : cc.isWs '+' = false) (lead : Bool) (ts : List TermSyn) (hwf : ∀ t ∈ ts, t.WF') :
    stripWs cc (render lead ts) = render lead ts :=
  stripWs_eq_self fun c hc => by
    rcases mem_render hwf hc with rfl | h
    · exact hplus
    · exact hbody c h

/-- A rendering ends in a digit, `.` or a letter, never in an operator (`EndsOK`): so the normalisation
cannot take the `-` of the next separator for the sign of an exponent (`protectDash_body`), a lone `-`
is no term, and no accepted text ends in a dangling operator. -/
def EndChar (c : Char) : Prop := isAsciiDigit c = true ∨ c = '.' ∨ isAsciiLetter c = true

theorem EndChar.not_op {c : Char} (h : EndChar c) : c ≠ '+' ∧ c ≠ '-' ∧ c ≠ '^' ∧ c ≠ '/' := by
  rcases h with h | rfl | h
  · exact ⟨digit_ne_plus h, digit_ne_dash h, digit_ne_caret h, digit_ne_slash h⟩
  · decide
  · exact ⟨letter_ne_plus h, letter_ne_dash h, letter_ne_caret h, letter_ne_slash h⟩

def EndsOK (l : List Char) : Prop := l ≠ [] ∧ ∀ c, l.getLast? = some c → EndChar c

theorem EndsOK.append_left (a : List Char) {b : List Char} (h : EndsOK b) : EndsOK (a ++ b) := by
  refine ⟨by simp [h.1], fun c hc => h.2 c ?_⟩
  rw [List.getLast?_append] at hc
  cases hb : b.getLast? with
  | none => exact absurd (List.getLast?_eq_none_iff.1 hb) h.1
  | some x =>
    rw [hb] at hc
    simpa using hc

theorem endsOK_of_all {l : List Char} (hne : l ≠ []) (h : ∀ c ∈ l, EndChar c) : EndsOK l :=
  ⟨hne, fun c hc => h c (List.mem_of_getLast? hc)⟩

theorem endsOK_udec {u : UDec} (hu : u.WF) : EndsOK u.render :=
  endsOK_of_all (UDec.render_ne_nil hu) (fun c hc => by
    rcases UDec.mem_render hu hc with h | h
    · exact Or.inl h
    · exact Or.inr (Or.inl h))

theorem endsOK_expo {e : Expo} (he : e.WF) : EndsOK e.render := by
  cases e with
  | dec neg u => exact (endsOK_udec he).append_left _
  | frac neg a b =>
    have : (Expo.frac neg a b).render = (signChars neg ++ a.render ++ ['/']) ++ b.render := by
      simp [Expo.render]
    rw [this]
    exact (endsOK_udec he.2.1).append_left _

theorem endsOK_factor {f : Factor} (hl : isAsciiLetter f.letter = true)
    (he : ∀ e, f.exp = some e → e.WF) : EndsOK f.render := by
  unfold Factor.render
  cases hx : f.exp with
  | none =>
    exact endsOK_of_all (by simp) (fun c hc => by
      have : c = f.letter := by simpa using hc
      subst this
      exact Or.inr (Or.inr hl))
  | some e =>
    have : f.letter :: '^' :: e.render = [f.letter, '^'] ++ e.render := rfl
    simp only
    rw [this]
    exact (endsOK_expo (he e hx)).append_left _

theorem endsOK_factors {fs : List Factor} (hl : ∀ f ∈ fs, isAsciiLetter f.letter = true)
    (he : ∀ f ∈ fs, ∀ e, f.exp = some e → e.WF) (hne : fs ≠ []) : EndsOK (renderFactors fs) := by
  induction fs with
  | nil => exact absurd rfl hne
  | cons f fs ih =>
    rw [renderFactors_cons]
    cases fs with
    | nil =>
      have : renderFactors [] = [] := rfl
      rw [this, List.append_nil]
      exact endsOK_factor (hl f (by simp)) (he f (by simp))
    | cons g gs =>
      exact (ih (fun x hx => hl x (by simp [hx])) (fun x hx => he x (by simp [hx]))
        (by simp)).append_left _

theorem endsOK_coef {k : Coef} (hk : k.WF) (hne : k ≠ .none) : EndsOK k.render := by
  cases k with
  | none => exact absurd rfl hne
  | dec u => exact endsOK_udec hk
  | frac a b =>
    have : (Coef.frac a b).render = (a.render ++ ['/']) ++ b.render := by simp [Coef.render]
    rw [this]
    exact (endsOK_udec hk.2.1).append_left _

theorem endsOK_body {t : TermSyn} (ht : t.WF') : EndsOK t.body := by
  unfold TermSyn.body
  by_cases hf : t.factors = []
  · have hk : t.coef ≠ .none := by
      rcases ht.nonempty with h | h
      · exact h
      · exact absurd hf h
    rw [hf]
    have : renderFactors [] = [] := rfl
    rw [this, List.append_nil]
    exact endsOK_coef ht.coef_wf hk
  · exact (endsOK_factors ht.letters ht.exps_wf hf).append_left _

end SV.C02
