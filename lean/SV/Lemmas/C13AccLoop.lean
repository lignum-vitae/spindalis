import SV.Lemmas.C13
import SV.Lemmas.C13AccSpec
import SV.Props.C13
/-!
# C13 accuracy, layer 3 — the loop of the model runs on scalar multiples of the exact iterates

Over `ℝ`, for a symmetric matrix with a dominant eigenvalue (`Dominant`): every iterate of
`SV.C13.loop` is a non-zero multiple of `iter M k = Mᵏ·1`, so no normaliser is zero, no pass takes
the `NoConvergence` exit, and the Rayleigh quotient computed in the pass with counter `done = j` is
`d₁ · rho (j+2)` (scale invariance).  With the contraction of layer 1 the stopping test fires at the
latest in the pass at which the exact sequence passes the test (`loop_accurate`), and the call
returns (`powerCap_accurate`).  `resid_iter_le` turns the a-posteriori error bound into the residual
bound for the iterate, `resid_smul_le` carries it to every scalar multiple.
-/
namespace SV.C13.Acc
open SV SV.C11 SV.C13 Finset Matrix

/-- a residual bound relative to the squared norm holds for every multiple of the vector -/
theorem resid_smul_le {n : ℕ} (M : Matrix (Fin n) (Fin n) ℝ) (X : Fin n → ℝ) (lam c t : ℝ)
    (hX : (M *ᵥ X - lam • X) ⬝ᵥ (M *ᵥ X - lam • X) ≤ c * (X ⬝ᵥ X)) :
    (M *ᵥ (t • X) - lam • (t • X)) ⬝ᵥ (M *ᵥ (t • X) - lam • (t • X))
      ≤ c * ((t • X) ⬝ᵥ (t • X)) := by
  have e : M *ᵥ (t • X) - lam • (t • X) = t • (M *ᵥ X - lam • X) := by
    rw [Matrix.mulVec_smul, smul_comm lam t X, smul_sub]
  rw [e, smul_dotProduct, dotProduct_smul, smul_dotProduct, dotProduct_smul, smul_eq_mul,
    smul_eq_mul, smul_eq_mul, smul_eq_mul]
  calc t * (t * _) = t * t * _ := (mul_assoc _ _ _).symm
    _ ≤ t * t * (c * (X ⬝ᵥ X)) := mul_le_mul_of_nonneg_left hX (mul_self_nonneg t)
    _ = c * (t * (t * (X ⬝ᵥ X))) := by ring

theorem normaliser_ne_zero (n : ℕ) (y : Mat ℝ) (hy : y.HasShape n 1) (c : ℝ)
    (h : normaliser y = some c) (hne : vec n y ≠ 0) : c ≠ 0 := by
  rintro rfl
  exact hne (funext fun i => normaliser_eq_zero n y hy h i i.isLt)

theorem resid_sum_eq (n : ℕ) (A v : Mat ℝ) (lam : ℝ) :
    ∑ i ∈ range n, ((∑ k ∈ range n, A.get i k * v.get k 0) - lam * v.get i 0) ^ 2
      = (A.toMatrix n n *ᵥ vec n v - lam • vec n v) ⬝ᵥ
          (A.toMatrix n n *ᵥ vec n v - lam • vec n v) := by
  unfold dotProduct
  rw [Finset.sum_range]
  apply Finset.sum_congr rfl
  intro i _
  have e : (A.toMatrix n n *ᵥ vec n v - lam • vec n v) i
      = (∑ k ∈ range n, A.get i k * v.get k 0) - lam * v.get i 0 := by
    rw [Finset.sum_range]
    rfl
  rw [e, sq]

theorem norm_sum_eq (n : ℕ) (v : Mat ℝ) :
    ∑ i ∈ range n, v.get i 0 ^ 2 = vec n v ⬝ᵥ vec n v := by
  unfold dotProduct
  rw [Finset.sum_range]
  apply Finset.sum_congr rfl
  intro i _
  rw [sq]
  rfl

section loop
variable {n : ℕ} (A : Mat ℝ) {q : Fin n → Fin n → ℝ} {d : Fin n → ℝ} {i₁ : Fin n}
  (hA : A.HasShape n n)
  (hsym : ∀ i j : Fin n, A.toMatrix n n i j = A.toMatrix n n j i)
  (heig : ∀ a i, ∑ j, A.toMatrix n n i j * q a j = d a * q a i)
  (h : Dominant q d i₁)
include hA hsym heig h

omit hA in
theorem iter_ne_zero (k : ℕ) (s : ℝ) (hs : s ≠ 0) : s • iter (A.toMatrix n n) k ≠ 0 := by
  intro h0
  have hX : iter (A.toMatrix n n) k = 0 := by
    rcases smul_eq_zero.mp h0 with h1 | h1
    · exact absurd h1 hs
    · exact h1
  have hp := norm_iter_pos (A.toMatrix n n) hsym heig h k
  rw [hX, dotProduct_zero] at hp
  exact lt_irrefl 0 hp

/-- **one pass on a multiple of `Mʲ⁺¹·1`**: the normaliser is not zero, the new iterate is a
non-zero multiple of `Mʲ⁺²·1`, and the new eigenvalue estimate is `d₁ · rho (j+2)` -/
theorem pass_iter (j : ℕ) (ev : Mat ℝ) (lam : ℝ) (hev : ev.HasShape n 1) (s : ℝ) (hs : s ≠ 0)
    (hvec : vec n ev = s • iter (A.toMatrix n n) (j + 1)) :
    ∃ p : Pass ℝ, pass A ev lam = some p ∧ p.c ≠ 0 ∧ p.nv.HasShape n 1 ∧
      (∃ s' : ℝ, s' ≠ 0 ∧ vec n p.nv = s' • iter (A.toMatrix n n) (j + 2)) ∧
      p.next = d i₁ * rhoOf h (j + 2) ∧ p.ea = |(p.next - lam) / p.next| := by
  obtain ⟨p, hp, hnvC⟩ := pass_some n h.hn A ev lam hA hev
  obtain ⟨hc, hnv, hray, hea⟩ := pass_spec A ev lam p hp
  have hmC := mulOp_colVec n A ev hA hev
  have hm : vec n (mulOp A ev) = s • iter (A.toMatrix n n) (j + 2) := by
    rw [vec_mulOp n A ev hA hev, hvec, Matrix.mulVec_smul]
    rfl
  have hc0 : p.c ≠ 0 := normaliser_ne_zero n _ hmC p.c hc
    (by rw [hm]; exact iter_ne_zero A hsym heig h (j + 2) s hs)
  have hs' : p.c⁻¹ * s ≠ 0 := mul_ne_zero (inv_ne_zero hc0) hs
  have hnvv : vec n p.nv = (p.c⁻¹ * s) • iter (A.toMatrix n n) (j + 2) := by
    rw [hnv, vec_divS n _ _ hmC.1 hmC.2.1, hm, smul_smul]
  refine ⟨p, hp, hc0, hnvC, ⟨_, hs', hnvv⟩, ?_, ?_⟩
  · have := rayleigh_vec n A p.nv hA hnvC
    rw [hray, hnvv, rq_smul _ _ _ hs', rq_iter (A.toMatrix n n) hsym heig h] at this
    exact Option.some.inj this
  · rw [hea, sabs_eq_abs]

omit hA hsym heig in
theorem change_scale (a b : ℝ) : |(d i₁ * a - d i₁ * b) / (d i₁ * a)| = |(a - b) / a| := by
  rw [← mul_sub, mul_div_mul_left _ _ h.hD]

/-- `(lamR, v, p)` comes from a pass `2 ≤ p ≤ N` whose new estimate is `d₁ · rho (p+1)`, whose
stopping test compared it with `d₁ · rho p`, and whose vector is `t` times `Mᵖ⁺¹·1` -/
structure FromPass (tol : ℝ) (N : ℕ) (lamR : ℝ) (v : Mat ℝ) (p : ℕ) (t : ℝ) : Prop where
  two_le : 2 ≤ p
  le_N : p ≤ N
  lam_eq : lamR = d i₁ * rhoOf h (p + 1)
  test : |(rhoOf h (p + 1) - rhoOf h p) / rhoOf h (p + 1)| < tol
  vec_eq : vec n v = t • iter (A.toMatrix n n) (p + 1)

/-- **The loop returns, and what it returns**: if the stopping test on the exact sequence `rho` is
passed at index `N`, then started in the pass with counter `j < N` on a non-zero multiple of
`Mʲ⁺¹·1` (and, if `j > 0`, with the Rayleigh quotient of that vector as the previous estimate),
with enough fuel to reach the pass with counter `N - 1`, the loop returns from a pass `p ≤ N`. -/
theorem loop_accurate (tol : ℝ) (N : ℕ) (hN2 : 2 ≤ N)
    (hN : |(rhoOf h (N + 1) - rhoOf h N) / rhoOf h (N + 1)| < tol) :
    ∀ (fuel j : ℕ) (ev : Mat ℝ) (lam : ℝ), ev.HasShape n 1 →
      (∃ s : ℝ, s ≠ 0 ∧ vec n ev = s • iter (A.toMatrix n n) (j + 1)) →
      (0 < j → lam = d i₁ * rhoOf h (j + 1)) → j < N → N ≤ j + fuel →
      ∃ (lamR : ℝ) (v : Mat ℝ) (p : ℕ) (t : ℝ),
        loop A tol fuel j ev lam = .ok (lamR, v, p) ∧ FromPass A h tol N lamR v p t := by
  intro fuel
  induction fuel with
  | zero => intro j ev lam _ _ _ hj hf; omega
  | succ fuel ih =>
    intro j ev lam hev ⟨s, hs, hvec⟩ hlam hjN hfuel
    obtain ⟨p, hp, hc0, hnvC, ⟨s', hs', hnvv⟩, hnext, hea⟩ :=
      pass_iter A hA hsym heig h j ev lam hev s hs hvec
    have hc : ¬(p.c == 0) = true := fun e => hc0 (beq_iff_eq.mp e)
    by_cases hstop : Stops tol j p
    · obtain ⟨c, hm⟩ := pass_maxOf_some A ev lam p hp
      rw [loop_stop hp hc hstop, hm]
      refine ⟨p.next, divS p.nv c, j + 1, c⁻¹ * s', rfl, by have := hstop.1; omega, by omega,
        hnext, ?_, ?_⟩
      · have := hstop.2.2
        rw [hea, hnext, hlam hstop.1, change_scale h] at this
        exact this
      · rw [vec_divS n _ _ hnvC.1 hnvC.2.1, hnvv, smul_smul]
    · rw [loop_continue hp hc hstop]
      have hj : j + 1 < N := by
        by_contra hge
        obtain rfl : N = j + 1 := by omega
        have hj0 : 0 < j := by omega
        have hpos : 1 / 4 ≤ rhoOf h (j + 2) :=
          rho_ge h.hw h.hr h.h₁ (j + 2) (h.U_le (j + 2) (by omega))
        refine hstop ⟨hj0, fun e => ?_, ?_⟩
        · rw [beq_iff_eq, hnext] at e
          rcases mul_eq_zero.mp e with h0 | h0
          · exact h.hD h0
          · rw [h0] at hpos
            norm_num at hpos
        · rw [hea, hnext, hlam hj0, change_scale h]
          exact hN
      exact ih (j + 1) p.nv p.next hnvC ⟨s', hs', hnvv⟩ (fun _ => hnext) hj (by omega)

/-- **`power_method` returns** for every cap `≥ N`, from a pass as described in `loop_accurate` -/
theorem powerCap_accurate (cap : ℕ) (tol : ℝ) (N : ℕ) (hN2 : 2 ≤ N) (hcap : N ≤ cap)
    (hN : |(rhoOf h (N + 1) - rhoOf h N) / rhoOf h (N + 1)| < tol) :
    ∃ (lamR : ℝ) (v : Mat ℝ) (p : ℕ) (t : ℝ),
      powerCap cap A tol = .ok (lamR, v, p) ∧ FromPass A h tol N lamR v p t := by
  obtain ⟨lam0, hl, hevC, hpc⟩ := powerCap_square n h.hn A hA
  have hmC := mulOp_colVec n A _ hA (ones_colVec n)
  have hm : vec n (mulOp A (ones n)) = (1 : ℝ) • iter (A.toMatrix n n) 1 := by
    rw [vec_mulOp n A _ hA (ones_colVec n), vec_ones, one_smul]
    rfl
  have hl0 : lam0 ≠ 0 := normaliser_ne_zero n _ hmC lam0 hl
    (by rw [hm]; exact iter_ne_zero A hsym heig h 1 1 one_ne_zero)
  rw [hpc, if_neg (fun e => hl0 (beq_iff_eq.mp e))]
  exact loop_accurate A hA hsym heig h tol N hN2 hN cap 0 _ lam0 hevC
    ⟨lam0⁻¹ * 1, mul_ne_zero (inv_ne_zero hl0) one_ne_zero, by
      rw [vec_divS n _ _ hmC.1 hmC.2.1, hm, smul_smul]⟩
    (fun h0 => absurd h0 (lt_irrefl 0)) (by omega) (by omega)

omit hA in
/-- **residual of the iterate**: if the error of `rho k` is below `tol · rho k` and `rho k ≥ 1/4`,
the squared residual of `Mᵏ·1` against `λ = d₁ · rho k` is at most `6·tol·λ²` times its squared
norm -/
theorem resid_iter_le (k : ℕ) (tol : ℝ) (he : epsOf h k < tol * rhoOf h k)
    (hr : 1 / 4 ≤ rhoOf h k) :
    (A.toMatrix n n *ᵥ iter (A.toMatrix n n) k
        - (d i₁ * rhoOf h k) • iter (A.toMatrix n n) k) ⬝ᵥ
      (A.toMatrix n n *ᵥ iter (A.toMatrix n n) k
        - (d i₁ * rhoOf h k) • iter (A.toMatrix n n) k)
    ≤ 6 * tol * (d i₁ * rhoOf h k) ^ 2 *
        (iter (A.toMatrix n n) k ⬝ᵥ iter (A.toMatrix n n) k) := by
  have hid := SV.Props.C13.rayleigh_residual_identity (A.toMatrix n n) (iter (A.toMatrix n n) k)
  rw [rq_iter (A.toMatrix n n) hsym heig h k] at hid
  have e2 := norm_iter (A.toMatrix n n) hsym heig h (k + 1)
  rw [Nat.mul_add, Nat.mul_one, pow_add] at e2
  have hab : 0 ≤ d i₁ ^ (2 * k) * d i₁ ^ 2 :=
    mul_nonneg ((even_two_mul k).pow_nonneg _) (sq_nonneg _)
  rw [hid, show A.toMatrix n n *ᵥ iter (A.toMatrix n n) k = iter (A.toMatrix n n) (k + 1) from rfl,
    e2, norm_iter (A.toMatrix n n) hsym heig h k]
  linarith [mul_le_mul_of_nonneg_left (resid_le_tol h.hw h.hr h.h₁ k tol he hr) hab]

/-- **Accuracy after at most `N` passes**, for every `N ≥ 2` within the cap and every tolerance
above `96 / 4ᴺ` (`4·eps N ≤ 4·(3/2)·16 / 4ᴺ`, so the stopping test is passed at `N` at the
latest): the call returns from a pass `2 ≤ p ≤ N` with the residual and eigenvalue bounds. -/
theorem powerCap_accuracy (cap : ℕ) (tol : ℝ) (N : ℕ) (hN2 : 2 ≤ N) (hcap : N ≤ cap)
    (hN : 96 / 4 ^ N < tol) :
    ∃ lam v p, powerCap cap A tol = .ok (lam, v, p) ∧ 2 ≤ p ∧ p ≤ N ∧
      (∑ i ∈ range n, ((∑ k ∈ range n, A.get i k * v.get k 0) - lam * v.get i 0) ^ 2)
        ≤ 6 * tol * lam ^ 2 * (∑ i ∈ range n, v.get i 0 ^ 2) ∧
      |lam - d i₁| ≤ tol * |d i₁| ∧
      0 < lam / d i₁ ∧ |d i₁| / 4 ≤ |lam| ∧ |lam| ≤ |d i₁| := by
  have htest : |(rhoOf h (N + 1) - rhoOf h N) / rhoOf h (N + 1)| < tol := by
    refine apriori_stop h.hw h.hr h.h₁ N (h.U_le N hN2) tol (lt_of_le_of_lt ?_ hN)
    calc 4 * epsOf h N ≤ 4 * (3 / 2 * 4 ^ 2 / 4 ^ N) :=
          mul_le_mul_of_nonneg_left (eps_le_pow h.hw h.hr h.h₁ (4 ^ 2) h.hτ N)
            (by norm_num)
      _ = 96 / 4 ^ N := by ring
  obtain ⟨lam, v, p, t, hp, hF⟩ := powerCap_accurate A hA hsym heig h cap tol N hN2 hcap htest
  have heps : epsOf h (p + 1) < tol * rhoOf h (p + 1) :=
    aposteriori h.hw h.hr h.h₁ p (h.U_le p hF.two_le) tol hF.test
  have hge : 1 / 4 ≤ rhoOf h (p + 1) :=
    rho_ge h.hw h.hr h.h₁ (p + 1) (h.U_le (p + 1) (by have := hF.two_le; omega))
  refine ⟨lam, v, p, hp, hF.two_le, hF.le_N, ?_, ?_⟩
  · rw [resid_sum_eq, norm_sum_eq, hF.vec_eq, hF.lam_eq]
    exact resid_smul_le _ _ _ _ t (resid_iter_le A hsym heig h (p + 1) tol heps hge)
  · rw [hF.lam_eq]
    exact near_of_ratio h.hD (rho_eq h.hw h.hr h.h₁ (p + 1))
      (eps_nonneg h.hw h.hr h.h₁ (p + 1)) heps hge

end loop
end SV.C13.Acc
