import SV.Model.C07
import SV.Lemmas.C06
import Mathlib.Algebra.Polynomial.Derivative
import Mathlib.Algebra.Polynomial.Eval.Defs
import Mathlib.Algebra.BigOperators.Group.List.Basic
import Mathlib.Algebra.Order.Field.Basic
import Mathlib.Analysis.Calculus.MeanValue
import Mathlib.Analysis.Calculus.Deriv.Polynomial
import Mathlib.Analysis.Calculus.Deriv.Pow
import Mathlib.Tactic.Linarith
import Mathlib.Tactic.Ring
import Mathlib.Tactic.FieldSimp
import Mathlib.Tactic.Positivity
/-!
Lemmas for C07 (Newton–Raphson).

The loop is analysed once: what an `ok` answer means, with an invariant of the update
(`newtonLoop_ok`), and for total `g`, `g'` in terms of the Newton map `x ↦ x − g x / g' x`.

The monotone case rests on one fact about a single step, `StepsToward`: on a region `I` the Newton
map goes a fraction `θ ∈ [1/n, 1]` of the way to `m`.  The exit bound and termination (the distance
to `m` decays geometrically) follow from it on either side of `m`.  For `c·Π(X − rᵢ)` at or beyond
an extreme root the fact holds with `n` the number of roots, because `g/g' = 1/Σ 1/(x − rᵢ)`.

The residual bound uses a second-order Taylor bound for real polynomials, proved from the mean
value inequalities of Mathlib.
-/

namespace SV.C07
open SV SV.Poly Polynomial
open SV.C06 (SolveMode SErr target evOf)

variable {K : Type} [Field K] [LinearOrder K] [IsStrictOrderedRing K]

theorem converged_iff (x xo tol : K) :
    converged x xo tol = true ↔
      (x ≠ 0 ∧ |x - xo| * 100 < tol * |x|) ∨ (x = 0 ∧ xo = 0 ∧ 0 < tol) := by
  rw [converged]
  by_cases hx : x = 0
  · subst hx
    simp only [beq_self_eq_true, Bool.not_true, Bool.false_eq_true, if_false, beq_iff_eq, ne_eq,
      not_true_eq_false, false_and, true_and, false_or, @eq_comm K 0 xo]
    split_ifs with h
    · simp only [decide_eq_true_eq, h, true_and]
    · simp only [h, false_and]
  · have hb : (!(x == 0)) = true := by rwa [Bool.not_eq_true', beq_eq_false_iff_ne]
    rw [if_pos hb, decide_eq_true_eq, sabs_eq_abs, sabs_eq_abs, abs_mul, abs_div, abs_abs,
      Nat.abs_cast, Nat.cast_ofNat, div_mul_eq_mul_div, div_lt_iff₀ (abs_pos.mpr hx)]
    simp only [ne_eq, hx, not_false_eq_true, true_and, false_and, or_false]

theorem abs_sub_le_of_converged {x xo tol : K} (h : converged x xo tol = true) :
    |x - xo| ≤ tol / 100 * |x| := by
  rcases (converged_iff x xo tol).mp h with ⟨_, hlt⟩ | ⟨e0, e1, _⟩
  · rw [div_mul_eq_mul_div, le_div_iff₀ (by norm_num)]
    exact hlt.le
  · rw [e0, e1, sub_zero, abs_zero, mul_zero]

theorem converged_of_step_le {x xo tol d L : K} (hd : |x - xo| ≤ d) (hL : 0 < L) (hx : L ≤ |x|)
    (h : d * 100 < tol * L) : converged x xo tol = true := by
  have h100 : (0 : K) ≤ 100 := by norm_num
  have htol : 0 < tol :=
    (pos_iff_pos_of_mul_pos
      (lt_of_le_of_lt (mul_nonneg (le_trans (abs_nonneg _) hd) h100) h)).mpr hL
  exact (converged_iff x xo tol).mpr (Or.inl ⟨abs_pos.mp (lt_of_lt_of_le hL hx),
    lt_of_le_of_lt (mul_le_mul_of_nonneg_right hd h100)
      (lt_of_lt_of_le h (mul_le_mul_of_nonneg_left hx htol.le))⟩)

theorem NRes.ext {S : Type} {r s : NRes S} (h1 : r.out = s.out) (h2 : r.passes = s.passes) : r = s := by
  cases r
  cases s
  cases h1
  cases h2
  rfl

section program
omit [IsStrictOrderedRing K]

theorem newtonStep_eq_next {ev dv : K → Except PErr K} {xo x : K}
    (h : newtonStep ev dv xo = .next x) :
    ∃ gv d, ev xo = .ok gv ∧ dv xo = .ok d ∧ d ≠ 0 ∧ x = xo - gv / d := by
  unfold newtonStep at h
  cases hgv : ev xo with
  | error e => rw [hgv] at h; cases h
  | ok gv =>
    cases hd : dv xo with
    | error e => rw [hgv, hd] at h; cases h
    | ok d =>
      rw [hgv, hd] at h
      dsimp only at h
      split_ifs at h with hz
      cases h
      exact ⟨gv, d, rfl, rfl, fun h0 => hz (beq_iff_eq.mpr h0), rfl⟩

/-- what an `ok` answer means; `I` is any invariant of the update, so that more can be said about
the iterate before the last -/
theorem newtonLoop_ok (ev dv : K → Except PErr K) (tol : K) (I : K → Prop)
    (hI : ∀ xo gv d, I xo → ev xo = .ok gv → dv xo = .ok d → d ≠ 0 → I (xo - gv / d)) :
    ∀ (fuel k : Nat) (xs x : K), I xs → (newtonLoop ev dv tol fuel k xs).out = .ok x →
      ∃ xo gv d, I xo ∧ ev xo = .ok gv ∧ dv xo = .ok d ∧ d ≠ 0 ∧ x = xo - gv / d ∧
        converged x xo tol = true := by
  intro fuel
  induction fuel with
  | zero =>
    intro k xs x _ h
    rw [newtonLoop] at h
    split at h <;> cases h
  | succ fuel ih =>
    intro k xs x hxs h
    rw [newtonLoop] at h
    split at h
    · cases h
    · cases h
    · rename_i x1 hstep
      obtain ⟨gv, d, hgv, hd, hd0, rfl⟩ := newtonStep_eq_next hstep
      split_ifs at h with hc
      · cases h
        exact ⟨xs, gv, d, hxs, hgv, hd, hd0, rfl, hc⟩
      · exact ih (k + 1) _ x (hI xs gv d hxs hgv hd hd0) h

theorem newtonLoop_total (ev dv : K → Except PErr K) (tol : K) :
    ∀ (fuel k : Nat) (xs : K), (newtonLoop ev dv tol fuel k xs).out ≠ .panic ∧
      k + 1 ≤ (newtonLoop ev dv tol fuel k xs).passes ∧
      (newtonLoop ev dv tol fuel k xs).passes ≤ k + 1 + fuel := by
  intro fuel
  induction fuel with
  | zero =>
    intro k xs
    rw [newtonLoop]
    split <;> exact ⟨nofun, le_rfl, le_rfl⟩
  | succ fuel ih =>
    intro k xs
    rw [newtonLoop]
    split
    · exact ⟨nofun, le_rfl, Nat.le_add_right _ _⟩
    · exact ⟨nofun, Nat.le_add_right _ _, le_rfl⟩
    · split_ifs
      · exact ⟨nofun, le_rfl, Nat.le_add_right _ _⟩
      · obtain ⟨h1, h2, h3⟩ := ih (k + 1) ‹_›
        exact ⟨h1, by omega, by omega⟩

theorem newtonCore_of_two_le (ev dv : K → Except PErr K) (x0 tol : K) {itermax : Nat}
    (h : 2 ≤ itermax) :
    newtonCore ev dv x0 tol itermax = newtonLoop ev dv tol (itermax - 2 + 1) 0 x0 := by
  rw [newtonCore, show itermax - 1 = itermax - 2 + 1 by omega]

def newtonMap (g g' : K → K) (x : K) : K := x - g x / g' x

theorem newtonStep_evOf (g g' : K → K) (xo : K) :
    newtonStep (evOf g) (evOf g') xo =
      if g' xo = 0 then .poisoned else .next (newtonMap g g' xo) := by
  unfold newtonStep evOf newtonMap
  simp only [beq_iff_eq]

/-- the last pass the cap allows ends in `MaxIterationsReached` whatever it computes -/
theorem newtonLoop_evOf_zero (g g' : K → K) (tol : K) (k : Nat) (xs : K) :
    newtonLoop (evOf g) (evOf g') tol 0 k xs = ⟨.err .maxIterationsReached, k + 1⟩ := by
  rw [newtonLoop, newtonStep_evOf]
  split_ifs <;> rfl

theorem newtonLoop_evOf_succ (g g' : K → K) (tol : K) (fuel k : Nat) (xs : K) :
    newtonLoop (evOf g) (evOf g') tol (fuel + 1) k xs =
      if g' xs = 0 then ⟨.err .maxIterationsReached, k + 1 + (fuel + 1)⟩
      else if converged (newtonMap g g' xs) xs tol then ⟨.ok (newtonMap g g' xs), k + 1⟩
      else newtonLoop (evOf g) (evOf g') tol fuel (k + 1) (newtonMap g g' xs) := by
  rw [newtonLoop, newtonStep_evOf]
  by_cases hd : g' xs = 0
  · rw [if_pos hd, if_pos hd]
  · rw [if_neg hd, if_neg hd]

theorem newtonLoop_evOf_ok (g g' : K → K) (tol : K) (I : K → Prop)
    (hI : ∀ x, I x → g' x ≠ 0 → I (newtonMap g g' x)) (fuel k : Nat) (xs x : K) (hxs : I xs)
    (h : (newtonLoop (evOf g) (evOf g') tol fuel k xs).out = .ok x) :
    ∃ xo, I xo ∧ g' xo ≠ 0 ∧ x = newtonMap g g' xo ∧ converged x xo tol = true := by
  obtain ⟨xo, gv, d, h0, h1, h2, h3, h4, h5⟩ := newtonLoop_ok (evOf g) (evOf g') tol I
    (fun xo gv d h0 h1 h2 h3 => by cases h1; cases h2; exact hI xo h0 h3) fuel k xs x hxs h
  cases h1
  cases h2
  exact ⟨xo, h0, h3, h4, h5⟩

/-- the loop returns at the latest on the pass whose stopping test fires -/
theorem newtonLoop_evOf_returns (g g' : K → K) (tol : K) :
    ∀ (fuel k : Nat) (xs : K), (∀ j ≤ fuel, g' ((newtonMap g g')^[j] xs) ≠ 0) →
      converged ((newtonMap g g')^[fuel + 1] xs) ((newtonMap g g')^[fuel] xs) tol = true →
      ∃ x, (newtonLoop (evOf g) (evOf g') tol (fuel + 1) k xs).out = .ok x := by
  intro fuel
  induction fuel with
  | zero =>
    intro k xs hd hc
    have h0 : g' xs ≠ 0 := hd 0 le_rfl
    have hc : converged (newtonMap g g' xs) xs tol = true := hc
    rw [newtonLoop_evOf_succ, if_neg h0, if_pos hc]
    exact ⟨_, rfl⟩
  | succ fuel ih =>
    intro k xs hd hc
    have h0 : g' xs ≠ 0 := hd 0 (Nat.zero_le _)
    rw [newtonLoop_evOf_succ, if_neg h0]
    split_ifs
    · exact ⟨_, rfl⟩
    · exact ih (k + 1) _ (fun j hj => hd (j + 1) (Nat.succ_le_succ hj)) hc

end program

/-- `x - θ * (x - m)` is the point reached from `x` by going the fraction `θ` of the way to `m` -/
theorem toward_bounds {m n x θ : K} (hn : 0 < n) (h1 : 1 / n ≤ θ) (h2 : θ ≤ 1) :
    |x - θ * (x - m) - m| ≤ (1 - 1 / n) * |x - m| ∧ |x - θ * (x - m) - x| ≤ |x - m| ∧
      |x - θ * (x - m) - m| ≤ (n - 1) * |x - θ * (x - m) - x| := by
  have h0 : 0 ≤ θ := le_trans (one_div_pos.mpr hn).le h1
  have e1 : x - θ * (x - m) - m = (1 - θ) * (x - m) := by ring
  have e2 : x - θ * (x - m) - x = -(θ * (x - m)) := by ring
  have hθ : 1 - θ ≤ (n - 1) * θ := by
    rw [sub_mul, one_mul, mul_comm]
    exact sub_le_sub_right ((div_le_iff₀ hn).mp h1) θ
  rw [e1, e2, abs_neg, abs_mul, abs_mul, abs_of_nonneg (sub_nonneg.mpr h2), abs_of_nonneg h0,
    ← mul_assoc]
  exact ⟨mul_le_mul_of_nonneg_right (sub_le_sub_left h1 1) (abs_nonneg _),
    mul_le_of_le_one_left (abs_nonneg _) h2, mul_le_mul_of_nonneg_right hθ (abs_nonneg _)⟩

theorem toward_mem {m x θ : K} (h0 : 0 ≤ θ) (h1 : θ ≤ 1) :
    (m ≤ x → m ≤ x - θ * (x - m) ∧ x - θ * (x - m) ≤ x) ∧
      (x ≤ m → x ≤ x - θ * (x - m) ∧ x - θ * (x - m) ≤ m) := by
  have e1 : x - θ * (x - m) - m = (1 - θ) * (x - m) := by ring
  have h1' : 0 ≤ 1 - θ := sub_nonneg.mpr h1
  refine ⟨fun hx => ⟨?_, sub_le_self x (mul_nonneg h0 (sub_nonneg.mpr hx))⟩,
    fun hx => ⟨(le_sub_self_iff x).mpr (mul_nonpos_of_nonneg_of_nonpos h0 (sub_nonpos.mpr hx)), ?_⟩⟩
  · rw [← sub_nonneg, e1]
    exact mul_nonneg h1' (sub_nonneg.mpr hx)
  · rw [← sub_nonpos, e1]
    exact mul_nonpos_of_nonneg_of_nonpos h1' (sub_nonpos.mpr hx)

/-- on `I` the derivative vanishes at most at `m`, and the Newton map of `(g, g')` stays in `I` and
goes a fraction `θ ∈ [1/n, 1]` of the way to `m` -/
def StepsToward (g g' : K → K) (m n : K) (I : K → Prop) : Prop :=
  ∀ x, I x → (x ≠ m → g' x ≠ 0) ∧ I (newtonMap g g' x) ∧
    ∃ θ, 1 / n ≤ θ ∧ θ ≤ 1 ∧ newtonMap g g' x = x - θ * (x - m)

section toward
variable {g g' : K → K} {m n : K} {I : K → Prop}

theorem StepsToward.iterate (hs : StepsToward g g' m n I) (hn : 0 < n) {xs : K} (hxs : I xs) :
    ∀ j, I ((newtonMap g g')^[j] xs) ∧
      |(newtonMap g g')^[j] xs - m| ≤ |xs - m| * (1 - 1 / n) ^ j := by
  intro j
  induction j with
  | zero => exact ⟨hxs, by rw [pow_zero, mul_one]; exact le_rfl⟩
  | succ j ih =>
    obtain ⟨_, hI, θ, h1, h2, e⟩ := hs _ ih.1
    rw [Function.iterate_succ_apply']
    refine ⟨hI, ?_⟩
    rw [e, pow_succ, ← mul_assoc, mul_comm _ (1 - 1 / n)]
    exact le_trans (toward_bounds hn h1 h2).1
      (mul_le_mul_of_nonneg_left ih.2 (sub_nonneg.mpr (le_trans h1 h2)))

theorem StepsToward.exit (hs : StepsToward g g' m n I) (hn : 0 < n) (tol : K) (fuel k : Nat)
    {xs x : K} (hxs : I xs) (h : (newtonLoop (evOf g) (evOf g') tol fuel k xs).out = .ok x) :
    I x ∧ |x - m| ≤ (n - 1) * (tol / 100) * |x| := by
  obtain ⟨xo, hxo, _, rfl, hc⟩ :=
    newtonLoop_evOf_ok g g' tol I (fun y hy _ => (hs y hy).2.1) fuel k xs x hxs h
  obtain ⟨_, hI, θ, h1, h2, e⟩ := hs xo hxo
  refine ⟨hI, ?_⟩
  have hlast := abs_sub_le_of_converged hc
  rw [e] at hlast ⊢
  have hn1 : 0 ≤ n - 1 := sub_nonneg.mpr ((div_le_one hn).mp (le_trans h1 h2))
  rw [mul_assoc]
  exact le_trans (toward_bounds hn h1 h2).2.2 (mul_le_mul_of_nonneg_left hlast hn1)

/-- a value is returned within `fuel + 1` passes when `|xs − m|·(1 − 1/n)^fuel` is below `tol` per
cent of a lower bound `L` for the absolute value of the iterates that close to `m` -/
theorem StepsToward.returns (hs : StepsToward g g' m n I) (hn : 0 < n) (hsimple : g' m ≠ 0)
    {tol L : K} (hL : 0 < L) (fuel k : Nat) {xs : K} (hxs : I xs)
    (hlow : ∀ y, I y → |y - m| ≤ |xs - m| * (1 - 1 / n) ^ fuel → L ≤ |y|)
    (hb : |xs - m| * (1 - 1 / n) ^ fuel * 100 < tol * L) :
    ∃ x, (newtonLoop (evOf g) (evOf g') tol (fuel + 1) k xs).out = .ok x := by
  have hd : ∀ x, I x → g' x ≠ 0 := fun x hx =>
    (eq_or_ne x m).elim (fun e => e ▸ hsimple) (hs x hx).1
  apply newtonLoop_evOf_returns g g' tol fuel k xs (fun j _ => hd _ (hs.iterate hn hxs j).1)
  obtain ⟨hy, hdist⟩ := hs.iterate hn hxs fuel
  rw [Function.iterate_succ_apply']
  obtain ⟨_, hI, θ, h1, h2, e⟩ := hs _ hy
  obtain ⟨b1, b2, _⟩ := toward_bounds hn h1 h2 (x := (newtonMap g g')^[fuel] xs) (m := m)
  rw [← e] at b1 b2
  have hq : 1 - 1 / n ≤ 1 := sub_le_self 1 (one_div_pos.mpr hn).le
  exact converged_of_step_le (le_trans b2 hdist) hL
    (hlow _ hI (le_trans b1 (le_trans (mul_le_of_le_one_left (abs_nonneg _) hq) hdist))) hb

/-- for `m ≠ 0`: once the distance to `m` is below `|m|/2` every iterate has `|x| ≥ |m|/2` -/
theorem StepsToward.returns_ne (hs : StepsToward g g' m n I) (hn : 0 < n) (hsimple : g' m ≠ 0)
    (hm0 : m ≠ 0) {tol : K} (fuel k : Nat) {xs : K} (hxs : I xs)
    (hb : |xs - m| * (1 - 1 / n) ^ fuel * 100 < tol * (|m| / 2))
    (hnear : |xs - m| * (1 - 1 / n) ^ fuel * 2 ≤ |m|) :
    ∃ x, (newtonLoop (evOf g) (evOf g') tol (fuel + 1) k xs).out = .ok x := by
  refine hs.returns hn hsimple (half_pos (abs_pos.mpr hm0)) fuel k hxs (fun y _ hy => ?_) hb
  have h2 : |m| - |y| ≤ |m| / 2 :=
    le_trans (abs_sub_abs_le_abs_sub m y)
      (le_trans (abs_sub_comm m y ▸ hy) ((le_div_iff₀ two_pos).mpr hnear))
  rw [← sub_half |m|]
  exact sub_le_comm.mp h2

end toward

section taylor
open Set

theorem taylor01 (Q : ℝ[X]) (C : ℝ)
    (h : ∀ s ∈ Icc (0 : ℝ) 1, |(derivative (derivative Q)).eval s| ≤ C) :
    |Q.eval 1 - Q.eval 0 - (derivative Q).eval 0| ≤ C / 2 := by
  -- the derivative moves by at most `C * s`
  have h1 : ∀ s ∈ Icc (0 : ℝ) 1, ‖(derivative Q).eval s - (derivative Q).eval 0‖ ≤ C * (s - 0) :=
    norm_image_sub_le_of_norm_deriv_le_segment' (fun x _ => (derivative Q).hasDerivWithinAt x _)
      fun x hx => h x (Ico_subset_Icc_self hx)
  -- so `f s = Q s - Q 0 - Q' 0 * s` is fenced by `B s = C/2 * s^2`
  have hd : ∀ x : ℝ, HasDerivAt (fun s => Q.eval s - Q.eval 0 - (derivative Q).eval 0 * s)
      ((derivative Q).eval x - (derivative Q).eval 0) x := fun x =>
    (((Q.hasDerivAt x).sub_const (Q.eval 0)).sub
      ((hasDerivAt_id x).const_mul ((derivative Q).eval 0))).congr_deriv (by rw [mul_one])
  have hB : ∀ x : ℝ, HasDerivAt (fun s => C / 2 * s ^ 2) (C * x) x := fun x =>
    ((hasDerivAt_pow 2 x).const_mul (C / 2)).congr_deriv (by ring)
  have h2 := image_norm_le_of_norm_deriv_right_le_deriv_boundary' (a := 0) (b := 1)
    (continuous_iff_continuousAt.2 fun x => (hd x).continuousAt).continuousOn
    (fun x _ => (hd x).hasDerivWithinAt) (by simp)
    (continuous_iff_continuousAt.2 fun x => (hB x).continuousAt).continuousOn
    (fun x _ => (hB x).hasDerivWithinAt)
    (fun x hx => by simpa using h1 x (Ico_subset_Icc_self hx))
  simpa [Real.norm_eq_abs] using h2 (right_mem_Icc.2 zero_le_one)

theorem taylor2 (P : ℝ[X]) (a x M : ℝ)
    (h : ∀ t ∈ uIcc a x, |(derivative (derivative P)).eval t| ≤ M) :
    |P.eval x - P.eval a - (derivative P).eval a * (x - a)| ≤ M / 2 * (x - a) ^ 2 := by
  -- the segment from `a` to `x`, parametrised by `[0, 1]`
  obtain ⟨L, hLd, hLe⟩ : ∃ L : ℝ[X], derivative L = C (x - a) ∧ ∀ s, L.eval s = a + s * (x - a) :=
    ⟨C a + X * C (x - a),
      by rw [derivative_add, derivative_C, zero_add, derivative_mul, derivative_X, one_mul,
        derivative_C, mul_zero, add_zero],
      fun s => by rw [eval_add, eval_C, eval_mul, eval_X, eval_C]⟩
  have hQ1 : derivative (P.comp L) = C (x - a) * (derivative P).comp L := by
    rw [derivative_comp, hLd]
  have hQ2 : derivative (derivative (P.comp L))
      = C (x - a) * (C (x - a) * (derivative (derivative P)).comp L) := by
    rw [hQ1, derivative_mul, derivative_C, zero_mul, zero_add, derivative_comp, hLd]
  have key := taylor01 (P.comp L) (M * (x - a) ^ 2) fun s hs => by
    have hmem : a + s * (x - a) ∈ uIcc a x :=
      (convex_uIcc a x).add_smul_sub_mem left_mem_uIcc right_mem_uIcc hs
    rw [hQ2, eval_mul, eval_mul, eval_C, eval_comp, hLe, abs_mul, abs_mul, ← mul_assoc,
      abs_mul_abs_self, ← sq, mul_comm]
    exact mul_le_mul_of_nonneg_right (h _ hmem) (sq_nonneg _)
  rw [hQ1, eval_comp, eval_comp, eval_mul, eval_C, eval_comp, hLe, hLe, zero_mul, add_zero,
    one_mul, add_sub_cancel, mul_comm (x - a)] at key
  rwa [mul_div_right_comm] at key

end taylor

/-- `Π (X - r)` over a list of roots -/
noncomputable def rootsProd (rs : List K) : K[X] := (rs.map fun r => X - C r).prod

/-- `Σ 1/(x - r)` -/
def invSum (rs : List K) (x : K) : K := (rs.map fun r => 1 / (x - r)).sum

section
-- stated in the full context of the file, of which they use the field only
set_option linter.unusedSectionVars false
@[simp] theorem rootsProd_nil : rootsProd ([] : List K) = 1 := rfl
@[simp] theorem invSum_nil (x : K) : invSum ([] : List K) x = 0 := rfl
end

section algebra
omit [LinearOrder K] [IsStrictOrderedRing K]

@[simp] theorem rootsProd_cons (r : K) (rs : List K) :
    rootsProd (r :: rs) = (X - C r) * rootsProd rs := by
  simp [rootsProd]

@[simp] theorem invSum_cons (r : K) (rs : List K) (x : K) :
    invSum (r :: rs) x = 1 / (x - r) + invSum rs x := by
  simp [invSum]

theorem rootsProd_eval_mem (rs : List K) (m : K) (hmem : m ∈ rs) : (rootsProd rs).eval m = 0 := by
  induction rs with
  | nil => cases hmem
  | cons r rs ih =>
    rw [rootsProd_cons, eval_mul]
    rcases List.mem_cons.mp hmem with e | e
    · subst e; simp
    · rw [ih e, mul_zero]

theorem rootsProd_comp_neg (rs : List K) :
    (rootsProd rs).comp (-X) = C ((-1 : K) ^ rs.length) * rootsProd (rs.map fun r => -r) := by
  induction rs with
  | nil =>
    show (1 : K[X]).comp (-X) = C ((-1 : K) ^ 0) * 1
    rw [one_comp, pow_zero, C_1, mul_one]
  | cons r rs ih =>
    rw [rootsProd_cons, mul_comp, ih, List.map_cons, rootsProd_cons, List.length_cons, pow_succ]
    simp only [sub_comp, X_comp, C_comp, map_mul, map_neg, map_one]
    ring

end algebra

theorem rootsProd_eval_deriv (rs : List K) (x : K) (h : ∀ r ∈ rs, x ≠ r) :
    (rootsProd rs).eval x ≠ 0 ∧
      (derivative (rootsProd rs)).eval x = (rootsProd rs).eval x * invSum rs x := by
  induction rs with
  | nil => simp
  | cons r rs ih =>
    have hr : x - r ≠ 0 := sub_ne_zero.mpr (h r List.mem_cons_self)
    obtain ⟨ip, id⟩ := ih (fun q hq => h q (List.mem_cons_of_mem _ hq))
    simp only [rootsProd_cons, derivative_mul, derivative_sub, derivative_X, derivative_C, sub_zero,
      one_mul, eval_add, eval_mul, eval_sub, eval_X, eval_C, id, invSum_cons]
    exact ⟨mul_ne_zero hr ip,
      by rw [mul_add, mul_right_comm, mul_one_div_cancel hr, one_mul, mul_assoc]⟩

/-- `m` lies between `r` and `x`, and `x ≠ m`: the weight `(x − m)/(x − r)` is in `[0, 1]` -/
theorem weight_mem {r m x : K} (h : r ≤ m ∧ m < x ∨ m ≤ r ∧ x < m) :
    x ≠ r ∧ 0 ≤ (x - m) / (x - r) ∧ (x - m) / (x - r) ≤ 1 := by
  rcases h with ⟨h1, h2⟩ | ⟨h1, h2⟩
  · have hxr : 0 < x - r := sub_pos.mpr (lt_of_le_of_lt h1 h2)
    exact ⟨(sub_pos.mp hxr).ne', div_nonneg (sub_pos.mpr h2).le hxr.le,
      (div_le_one hxr).mpr (sub_le_sub_left h1 x)⟩
  · have hxr : x - r < 0 := sub_neg.mpr (lt_of_lt_of_le h2 h1)
    exact ⟨(sub_neg.mp hxr).ne, div_nonneg_of_nonpos (sub_neg.mpr h2).le hxr.le,
      (div_le_one_of_neg hxr).mpr (sub_le_sub_left h1 x)⟩

/-- with `m` between every root and `x`, `Σ (x − m)/(x − r)` is at most the number of roots, and
at least 1 when `m` is one of them -/
theorem invSum_mul_sub (rs : List K) {m x : K} (h : ∀ r ∈ rs, r ≤ m ∧ m < x ∨ m ≤ r ∧ x < m) :
    0 ≤ invSum rs x * (x - m) ∧ invSum rs x * (x - m) ≤ rs.length ∧
      (m ∈ rs → 1 ≤ invSum rs x * (x - m)) := by
  induction rs with
  | nil => simp
  | cons r rs ih =>
    obtain ⟨i0, i1, i2⟩ := ih (fun q hq => h q (List.mem_cons_of_mem _ hq))
    obtain ⟨hxr, w0, w1⟩ := weight_mem (h r List.mem_cons_self)
    rw [invSum_cons, add_mul, one_div_mul_eq_div, List.length_cons, Nat.cast_succ]
    refine ⟨add_nonneg w0 i0, ?_, fun hmem => ?_⟩
    · rw [add_comm]
      exact add_le_add i1 w1
    · rcases List.mem_cons.mp hmem with rfl | hin
      · rw [div_self (sub_ne_zero.mpr hxr)]
        exact le_add_of_nonneg_right i0
      · exact le_add_of_nonneg_of_le w0 (i2 hin)

/-- **The Newton map of `c·Π(X − rᵢ)` at or beyond an extreme root `m`** (every root on the other
side of `m` from `x`): the derivative vanishes at most at `m`, and the map goes the fraction
`θ = 1/Σ (x − m)/(x − rᵢ) ∈ [1/n, 1]` of the way to `m`, because `g/g' = 1/Σ 1/(x − rᵢ)`. -/
theorem newtonMap_rootsProd {c : K} (hc : c ≠ 0) {rs : List K} {m : K} (hmem : m ∈ rs) {x : K}
    (hx : ∀ r ∈ rs, r ≤ m ∧ m ≤ x ∨ m ≤ r ∧ x ≤ m) :
    (x ≠ m → (derivative (C c * rootsProd rs)).eval x ≠ 0) ∧
    ∃ θ, 1 / (rs.length : K) ≤ θ ∧ θ ≤ 1 ∧
      newtonMap (fun t => (C c * rootsProd rs).eval t)
        (fun t => (derivative (C c * rootsProd rs)).eval t) x = x - θ * (x - m) := by
  by_cases hxm : x = m
  · subst hxm
    refine ⟨fun h => absurd rfl h, 1, (one_div _).trans_le (Nat.cast_inv_le_one _), le_rfl, ?_⟩
    simp only [newtonMap, eval_mul, eval_C, rootsProd_eval_mem rs x hmem, mul_zero, zero_div,
      sub_zero, sub_self]
  · have hs : ∀ r ∈ rs, r ≤ m ∧ m < x ∨ m ≤ r ∧ x < m := fun r hr =>
      (hx r hr).imp (fun h => ⟨h.1, lt_of_le_of_ne h.2 (Ne.symm hxm)⟩)
        (fun h => ⟨h.1, lt_of_le_of_ne h.2 hxm⟩)
    obtain ⟨_, hTn, hT1⟩ := invSum_mul_sub rs hs
    obtain ⟨hR, hR'⟩ := rootsProd_eval_deriv rs x fun r hr => (weight_mem (hs r hr)).1
    have hT : 0 < invSum rs x * (x - m) := lt_of_lt_of_le one_pos (hT1 hmem)
    have hS : invSum rs x ≠ 0 := left_ne_zero_of_mul hT.ne'
    have hP' : (derivative (C c * rootsProd rs)).eval x
        = c * ((rootsProd rs).eval x * invSum rs x) := by
      rw [derivative_C_mul, eval_mul, eval_C, hR']
    refine ⟨fun _ => ?_, 1 / (invSum rs x * (x - m)), one_div_le_one_div_of_le hT hTn,
      (div_le_one hT).mpr (hT1 hmem), ?_⟩
    · rw [hP']
      exact mul_ne_zero hc (mul_ne_zero hR hS)
    · rw [newtonMap, hP', eval_mul, eval_C, mul_div_mul_left _ _ hc, div_mul_cancel_left₀ hR,
        one_div_mul_eq_div, div_mul_cancel_right₀ (sub_ne_zero.mpr hxm)]

theorem natCast_length_pos {rs : List K} {m : K} (hmem : m ∈ rs) : (0 : K) < rs.length :=
  Nat.cast_pos.mpr (List.length_pos_of_mem hmem)

section extreme
variable {c : K} (hc : c ≠ 0) {rs : List K} {m : K} (hmem : m ∈ rs)
include hc hmem

theorem stepsToward_right (h : ∀ r ∈ rs, r ≤ m) (x0 : K) :
    StepsToward (fun t => (C c * rootsProd rs).eval t)
      (fun t => (derivative (C c * rootsProd rs)).eval t) m rs.length fun y => m ≤ y ∧ y ≤ x0 := by
  intro x hx
  obtain ⟨hd, θ, h1, h2, e⟩ :=
    newtonMap_rootsProd hc hmem (x := x) fun r hr => Or.inl ⟨h r hr, hx.1⟩
  obtain ⟨a, b⟩ := (toward_mem (le_trans (by positivity) h1) h2).1 hx.1
  exact ⟨hd, by rw [e]; exact ⟨a, le_trans b hx.2⟩, θ, h1, h2, e⟩

theorem stepsToward_left (h : ∀ r ∈ rs, m ≤ r) (x0 : K) :
    StepsToward (fun t => (C c * rootsProd rs).eval t)
      (fun t => (derivative (C c * rootsProd rs)).eval t) m rs.length fun y => x0 ≤ y ∧ y ≤ m := by
  intro x hx
  obtain ⟨hd, θ, h1, h2, e⟩ :=
    newtonMap_rootsProd hc hmem (x := x) fun r hr => Or.inr ⟨h r hr, hx.2⟩
  obtain ⟨a, b⟩ := (toward_mem (le_trans (by positivity) h1) h2).2 hx.2
  exact ⟨hd, by rw [e]; exact ⟨le_trans hx.1 a, b⟩, θ, h1, h2, e⟩

end extreme

section bridge
open SV.C06 (evOf targetPoly SolveMode target)

variable (powf : K → K → K)
omit [IsStrictOrderedRing K]

theorem newton_eq_core {p q dq : AnyPoly K} {mode : SolveMode} (hq : target p mode = .ok q)
    (hdq : q.derivUni = .ok dq) (x0 tol : K) (itermax : Nat) :
    newton powf p x0 tol itermax mode =
      newtonCore (q.evalUni powf) (dq.evalUni powf) x0 tol itermax := by
  unfold newton newtonCore
  rw [hq]
  simp only [hdq]

theorem newton_cases (p : AnyPoly K) (x0 tol : K) (itermax : Nat) (mode : SolveMode) :
    (∃ e, newton powf p x0 tol itermax mode = ⟨.err (.functionError e), 0⟩) ∨
      ∃ q dq, target p mode = .ok q ∧ q.derivUni = .ok dq ∧ newton powf p x0 tol itermax mode =
        newtonCore (q.evalUni powf) (dq.evalUni powf) x0 tol itermax := by
  cases hq : target p mode with
  | error e => exact Or.inl ⟨e, by rw [newton, hq]⟩
  | ok q =>
    cases hdq : q.derivUni with
    | error e => exact Or.inl ⟨e, by rw [newton, hq]; simp only [hdq]⟩
    | ok dq => exact Or.inr ⟨q, dq, rfl, hdq, newton_eq_core powf hq hdq x0 tol itermax⟩

theorem newton_simple (cs : List K) (v : Option Char) (mode : SolveMode) (x0 tol : K) (itermax : Nat) :
    newton powf (.simple ⟨cs, v⟩) x0 tol itermax mode =
      newtonCore (evOf fun x => (targetPoly cs mode).eval x)
        (evOf fun x => (derivative (targetPoly cs mode)).eval x) x0 tol itermax := by
  cases mode
  · rw [newton_eq_core powf (q := .simple ⟨cs, v⟩) (dq := .simple ⟨simpleDeriv cs, v⟩) rfl rfl,
      SV.C06.evalUni_simple, SV.C06.evalUni_simple, ofCoeffs_simpleDeriv]
    rfl
  · rw [newton_eq_core powf (q := .simple ⟨simpleDeriv cs, v⟩)
      (dq := .simple ⟨simpleDeriv (simpleDeriv cs), v⟩) rfl rfl,
      SV.C06.evalUni_simple, SV.C06.evalUni_simple, ofCoeffs_simpleDeriv, ofCoeffs_simpleDeriv,
      ofCoeffs_simpleDeriv]
    rfl

end bridge

end SV.C07
