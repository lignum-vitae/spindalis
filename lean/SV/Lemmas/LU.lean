import SV.Model.C09
import SV.Lemmas.Mat
import SV.Lemmas.Elim
import Mathlib.Algebra.Order.Field.Basic
import Mathlib.Algebra.Group.End
import Mathlib.Algebra.BigOperators.Ring.Finset
import Mathlib.Tactic.Ring
import Mathlib.Tactic.FieldSimp
import Mathlib.Tactic.Linarith
import Mathlib.LinearAlgebra.Matrix.Determinant.Basic
import Mathlib.LinearAlgebra.Matrix.Block
import Mathlib.LinearAlgebra.Matrix.NonsingularInverse
import Mathlib.LinearAlgebra.Matrix.Nondegenerate
import Mathlib.Algebra.Ring.Int.Units
/-!
Helper lemmas for C09.  Both factorisations are analysed through *Doolittle's equations* for a
matrix `a` and a pair of entry functions `l`, `u`:

  `u r c = a r c - ∑ k < r, l r k * u k c`  (`r ≤ c`),
  `l r c * u c c = a r c - ∑ k < c, l r k * u k c`  (`c < r`).

`lu` evaluates them literally, a row of `u` and a column of `l` per pass (`LuInv`); `plu` reaches
them by elimination in one packed array, for the rows of the input permuted so far, and keeps the
Schur complement in the rows not yet finished (`PluInv`).  What is read off them is proved once:
the unit lower × upper product is `a` (`sum_unit_row`, `sum_upper_col`, `doolittle_sum`), and the
leading minors of `a` are the products of the pivots (`det_doolittle`, `det_of_doolittle`).
-/

namespace SV.C09
open SV Finset

theorem iter_inv {σ : Type} (step : σ → Nat → Option σ) (Inv : Nat → σ → Prop) (n : Nat)
    (hstep : ∀ i s s', i < n → Inv i s → step s i = some s' → Inv (i+1) s') :
    ∀ k i s s', i + k ≤ n → Inv i s → iter step k i s = some s' → Inv (i+k) s' := by
  intro k
  induction k with
  | zero =>
    intro i s s' _ hI h
    simp only [iter, Option.some.injEq] at h
    subst h
    simpa using hI
  | succ k ih =>
    intro i s s' hle hI h
    simp only [iter] at h
    cases hs : step s i with
    | none => simp [hs] at h
    | some s1 =>
      simp only [hs] at h
      have := ih (i+1) s1 s' (by omega) (hstep i s s1 (by omega) hI hs) h
      have e : i + 1 + k = i + (k + 1) := by omega
      rwa [e] at this

theorem iter_snoc {σ : Type} (step : σ → Nat → Option σ) :
    ∀ k i s, iter step (k+1) i s = (iter step k i s).bind (fun s' => step s' (i+k)) := by
  intro k
  induction k with
  | zero =>
    intro i s
    simp only [iter, Nat.add_zero, Option.bind_some]
    cases step s i <;> rfl
  | succ k ih =>
    intro i s
    rw [iter]
    cases hs : step s i with
    | none => simp [iter, hs]
    | some s1 =>
      simp only
      rw [ih (i+1) s1]
      have e : i + 1 + k = i + (k + 1) := by omega
      rw [e]
      conv_rhs => rw [iter]
      simp only [hs]

theorem iter_succ {σ : Type} {step : σ → Nat → Option σ} {k : Nat} {s0 s s' : σ}
    (h : iter step k 0 s0 = some s) (hs : step s k = some s') :
    iter step (k+1) 0 s0 = some s' := by
  rw [iter_snoc, h, Option.bind_some, Nat.zero_add, hs]

theorem iter_mono {σ : Type} {step step' : σ → Nat → Option σ}
    (hmono : ∀ s i s', step s i = some s' → step' s i = some s') :
    ∀ k i s s', iter step k i s = some s' → iter step' k i s = some s' := by
  intro k
  induction k with
  | zero => intro i s s' h; exact h
  | succ k ih =>
    intro i s s' h
    rw [iter] at h ⊢
    cases hs : step s i with
    | none => simp [hs] at h
    | some s1 =>
      simp only [hs] at h
      rw [hmono s i s1 hs]
      exact ih (i+1) s1 s' h

section
variable {S : Type} [Sub S]

/-- `acc -= f k` for `k = 0, …, s−1`, starting from `a`: what the passes `0 … s−1` of the elimination
do to one entry -/
def subFrom (a : S) (s : Nat) (f : Nat → S) : S := (List.range s).foldl (fun acc k => acc - f k) a

theorem subFrom_succ (a : S) (s : Nat) (f : Nat → S) :
    subFrom a (s + 1) f = subFrom a s f - f s := by
  unfold subFrom
  rw [List.range_succ, List.foldl_append]
  rfl

theorem subFrom_congr (a : S) (s : Nat) (f g : Nat → S) (h : ∀ k, k < s → f k = g k) :
    subFrom a s f = subFrom a s g := by
  induction s with
  | zero => rfl
  | succ s ih => rw [subFrom_succ, subFrom_succ, ih fun k hk => h k (by omega), h s (by omega)]

end

section anyScalar
variable {S : Type} [Inhabited S]

theorem luUpper_get [Add S] [Sub S] [Mul S] [OfNat S 0] (n : Nat) (A L U : Mat S) (i : Nat) {r c : Nat} (hr : r < n) (hc : c < n) :
    (luUpper n A L U i).get r c =
      if r = i ∧ i ≤ c then A.get i c - sumFrom 0 0 i (fun j => L.get i j * U.get j c)
      else U.get r c := by
  unfold luUpper
  rw [Mat.get_tab _ hr hc]

theorem luLower_get [Add S] [Sub S] [Mul S] [Div S] [OfNat S 0] [OfNat S 1] (n : Nat) (A L U' : Mat S) (i : Nat) {r c : Nat} (hr : r < n) (hc : c < n) :
    (luLower n A L U' i).get r c =
      if c = i ∧ i ≤ r then
        (if r = i then 1
         else (A.get r i - sumFrom 0 0 i (fun j => L.get r j * U'.get j i)) / U'.get i i)
      else L.get r c := by
  unfold luLower
  rw [Mat.get_tab _ hr hc]

theorem pluElim_get [Sub S] [Mul S] [Div S] (n : Nat) (lu : Mat S) (i : Nat) {x c : Nat} (hx : x < n) (hc : c < n) :
    (pluElim n lu i).get x c =
      if i < x then
        (if c = i then lu.get x i / lu.get i i
         else if i < c then lu.get x c - lu.get x i / lu.get i i * lu.get i c else lu.get x c)
      else lu.get x c := by
  unfold pluElim
  rw [Mat.get_tab _ hx hc]

theorem luUpper_get_ne [Add S] [Sub S] [Mul S] [OfNat S 0] (n : Nat) (A L U : Mat S) {i r c : Nat} (hr : r < n) (hc : c < n)
    (hne : r ≠ i) : (luUpper n A L U i).get r c = U.get r c := by
  rw [luUpper_get n A L U i hr hc, if_neg fun h => hne h.1]

theorem luUpper_get_row [Add S] [Sub S] [Mul S] [OfNat S 0] (n : Nat) (A L U : Mat S) {i c : Nat} (hi : i < n) (hc : c < n)
    (hic : i ≤ c) :
    (luUpper n A L U i).get i c = A.get i c - sumFrom 0 0 i fun j => L.get i j * U.get j c := by
  rw [luUpper_get n A L U i hi hc, if_pos ⟨rfl, hic⟩]

theorem luLower_get_ne [Add S] [Sub S] [Mul S] [Div S] [OfNat S 0] [OfNat S 1] (n : Nat) (A L U' : Mat S) {i r c : Nat} (hr : r < n) (hc : c < n)
    (hne : c ≠ i) : (luLower n A L U' i).get r c = L.get r c := by
  rw [luLower_get n A L U' i hr hc, if_neg fun h => hne h.1]

theorem luLower_get_diag [Add S] [Sub S] [Mul S] [Div S] [OfNat S 0] [OfNat S 1] (n : Nat) (A L U' : Mat S) {i : Nat} (hi : i < n) :
    (luLower n A L U' i).get i i = 1 := by
  rw [luLower_get n A L U' i hi hi, if_pos ⟨rfl, le_refl i⟩, if_pos rfl]

theorem luLower_get_col [Add S] [Sub S] [Mul S] [Div S] [OfNat S 0] [OfNat S 1] (n : Nat) (A L U' : Mat S) {i r : Nat} (hr : r < n) (hir : i < r) :
    (luLower n A L U' i).get r i
      = (A.get r i - sumFrom 0 0 i fun j => L.get r j * U'.get j i) / U'.get i i := by
  rw [luLower_get n A L U' i hr (by omega), if_pos ⟨rfl, hir.le⟩, if_neg hir.ne']

theorem pluElim_row_le [Sub S] [Mul S] [Div S] (n : Nat) (lu : Mat S) {i x c : Nat} (hx : x < n) (hc : c < n)
    (hxi : x ≤ i) : (pluElim n lu i).get x c = lu.get x c := by
  rw [pluElim_get n lu i hx hc, if_neg (Nat.not_lt.mpr hxi)]

theorem pluElim_col_lt [Sub S] [Mul S] [Div S] (n : Nat) (lu : Mat S) {i x c : Nat} (hx : x < n) (hc : c < n)
    (hci : c < i) : (pluElim n lu i).get x c = lu.get x c := by
  rw [pluElim_get n lu i hx hc]
  by_cases hix : i < x
  · rw [if_pos hix, if_neg hci.ne, if_neg (Nat.lt_asymm hci)]
  · rw [if_neg hix]

theorem pluElim_col_eq [Sub S] [Mul S] [Div S] (n : Nat) (lu : Mat S) {i x : Nat} (hx : x < n) (hix : i < x) :
    (pluElim n lu i).get x i = lu.get x i / lu.get i i := by
  rw [pluElim_get n lu i hx (by omega), if_pos hix, if_pos rfl]

theorem pluElim_update [Sub S] [Mul S] [Div S] (n : Nat) (lu : Mat S) {i x c : Nat} (hx : x < n) (hc : c < n)
    (hix : i < x) (hic : i < c) :
    (pluElim n lu i).get x c = lu.get x c - lu.get x i / lu.get i i * lu.get i c := by
  rw [pluElim_get n lu i hx hc, if_pos hix, if_neg hic.ne', if_pos hic]

/-- products `w_xk · w_kc` over pivot rows `k < i` are untouched -/
theorem pluElim_prod [Sub S] [Mul S] [Div S] (n : Nat) (lu : Mat S) {i x c k : Nat} (hi : i < n) (hx : x < n) (hc : c < n)
    (hk : k < i) :
    (pluElim n lu i).get x k * (pluElim n lu i).get k c = lu.get x k * lu.get k c := by
  rw [pluElim_col_lt n lu hx (by omega) hk, pluElim_row_le n lu (by omega) hc hk.le]

/-- a property of the stored multipliers survives the elimination if the new ones have it -/
theorem pluElim_below [Sub S] [Mul S] [Div S] {P : S → Prop} {n i : Nat} {lu : Mat S}
    (hm : ∀ r c, r < n → c < min r i → P (lu.get r c))
    (hnew : ∀ r, i < r → r < n → P (lu.get r i / lu.get i i)) :
    ∀ r c, r < n → c < min r (i + 1) → P ((pluElim n lu i).get r c) := by
  intro r c hr hc
  rcases lt_or_eq_of_le (show c ≤ i by omega) with hci | rfl
  · rw [pluElim_col_lt n lu hr (by omega) hci]
    exact hm r c hr (by omega)
  · rw [pluElim_col_eq n lu hr (by omega)]
    exact hnew r (by omega) hr

theorem splitL_get [OfNat S 0] [OfNat S 1] (n : Nat) (lu : Mat S) {r c : Nat} (hr : r < n) (hc : c < n) :
    (splitL n lu).get r c = if r = c then 1 else if c < r then lu.get r c else 0 := by
  unfold splitL; rw [Mat.get_tab _ hr hc]

theorem splitU_get [OfNat S 0] (n : Nat) (lu : Mat S) {r c : Nat} (hr : r < n) (hc : c < n) :
    (splitU n lu).get r c = if r ≤ c then lu.get r c else 0 := by
  unfold splitU; rw [Mat.get_tab _ hr hc]

variable [Neg S] [OfNat S 0] [LT S] [DecidableRel (α := S) (· < ·)]

/-- the state after the search and swap of pass `i` reads the old state through the transposition
of `i` and the pivot row -/
theorem pluSwap_get (n : Nat) (st : Mat S × Mat S) (i : Nat)
    (hh : st.1.h = n) (hw : st.1.w = n) (ph : st.2.h = n) (pw : st.2.w = n) {x c : Nat}
    (hx : x < n) (hc : c < n) :
    (pluSwap n st i).1.get x c = st.1.get (Equiv.swap (pivotRow st.1 n i) i x) c ∧
    (pluSwap n st i).2.get x c = st.2.get (Equiv.swap (pivotRow st.1 n i) i x) c := by
  unfold pluSwap
  dsimp only
  split_ifs with hri
  · rw [hri, Equiv.swap_self]
    exact ⟨rfl, rfl⟩
  · exact ⟨Mat.get_swapRows st.1 _ _ (hh ▸ hx) (hw ▸ hc), Mat.get_swapRows st.2 _ _ (ph ▸ hx) (pw ▸ hc)⟩

theorem pluSwap_dims (n : Nat) (st : Mat S × Mat S) (i : Nat)
    (hh : st.1.h = n) (hw : st.1.w = n) (ph : st.2.h = n) (pw : st.2.w = n) (pwf : st.2.WF) :
    (pluSwap n st i).1.h = n ∧ (pluSwap n st i).1.w = n ∧
    (pluSwap n st i).2.h = n ∧ (pluSwap n st i).2.w = n ∧ (pluSwap n st i).2.WF := by
  unfold pluSwap
  dsimp only
  split_ifs
  · exact ⟨hh, hw, ph, pw, pwf⟩
  · exact ⟨hh, hw, ph, pw, Mat.tab_WF _ _ _⟩

/-- the pivot row lies in `[i, n)`, whatever the comparison does -/
theorem pivotRow_range (lu : Mat S) (n i : Nat) (hi : i < n) :
    i ≤ pivotRow lu n i ∧ pivotRow lu n i < n :=
  argmaxFrom_range (fun k => sabs (lu.get k i)) hi

/-- the pivot search and row swap keep a property `P` of the stored multipliers and carry a relation
`R` between the column from the diagonal down and the pivot found over to the diagonal entry -/
theorem pluSwap_below {P : S → Prop} {R : S → S → Prop} {n i : Nat} {st : Mat S × Mat S} (hi : i < n)
    (hh : st.1.h = n) (hw : st.1.w = n) (ph : st.2.h = n) (pw : st.2.w = n)
    (hm : ∀ r c, r < n → c < min r i → P (st.1.get r c))
    (hmax : ∀ k, i ≤ k → k < n → R (st.1.get k i) (st.1.get (pivotRow st.1 n i) i)) :
    (∀ r c, r < n → c < min r i → P ((pluSwap n st i).1.get r c)) ∧
    ∀ k, i ≤ k → k < n → R ((pluSwap n st i).1.get k i) ((pluSwap n st i).1.get i i) := by
  obtain ⟨hir, hrn⟩ := pivotRow_range st.1 n i hi
  have τ := fun x => swap_facts hir hrn x
  have hget := fun x c hx hc => (pluSwap_get n st i hh hw ph pw (x := x) (c := c) hx hc).1
  refine ⟨fun r c hr hc => ?_, fun k hik hk => ?_⟩
  · rw [hget r c hr (by omega)]
    exact hm _ c ((τ r).2.2.1 hr) (by rw [(τ r).2.2.2]; exact hc)
  · rw [hget k i hk hi, hget i i hi hi, Equiv.swap_apply_right]
    have := (τ k).2.2.2
    exact hmax _ (by omega) ((τ k).2.2.1 hk)

variable [Sub S] [Mul S] [Div S] [OfNat S 1]

theorem plu_of_nonsquare (eps : S) {A : Mat S} (h : A.h ≠ A.w) : plu eps A = .err .nonSquare :=
  if_pos h

theorem plu_of_square (eps : S) {A : Mat S} (hsq : A.h = A.w) :
    plu eps A = match iter (pluStep eps A.h) A.h 0 (A, Mat.ident A.h) with
      | none => .err .singular
      | some st => .ok (splitL A.h st.1, splitU A.h st.1, st.2) := by
  unfold plu
  rw [if_neg (not_not.mpr hsq)]
  rfl

theorem plu_ne_panic (eps : S) (A : Mat S) : plu eps A ≠ .panic := by
  by_cases h : A.h = A.w
  · rw [plu_of_square eps h]
    cases iter (pluStep eps A.h) A.h 0 (A, Mat.ident A.h) <;> simp
  · rw [plu_of_nonsquare eps h]
    simp

theorem plu_eq_ok_iff {eps : S} {A L U P : Mat S} :
    plu eps A = .ok (L, U, P) ↔ A.h = A.w ∧ ∃ st,
      iter (pluStep eps A.h) A.h 0 (A, Mat.ident A.h) = some st ∧
      splitL A.h st.1 = L ∧ splitU A.h st.1 = U ∧ st.2 = P := by
  constructor
  · intro h
    by_cases hsq : A.h = A.w
    · rw [plu_of_square eps hsq] at h
      cases hit : iter (pluStep eps A.h) A.h 0 (A, Mat.ident A.h) with
      | none => rw [hit] at h; cases h
      | some st =>
        rw [hit] at h
        simp only [Outcome.ok.injEq, Prod.mk.injEq] at h
        exact ⟨hsq, st, rfl, h⟩
    · rw [plu_of_nonsquare eps hsq] at h
      cases h
  · rintro ⟨hsq, st, hit, rfl, rfl, rfl⟩
    rw [plu_of_square eps hsq, hit]

/-- State after `i` passes of `lu_pivot_decomposition`, for any scalar type, `st = (lu, permutation)`,
with the row permutation `σ` applied so far.  With `s = min r i` the number of eliminations row `r`
went through, an entry with `s ≤ c` is the input entry after `s` updates (`up`), a finished
multiplier (`c < s`) the input entry after `c` updates, divided by its pivot (`lo`); the finished
pivots passed the guard. -/
structure PluEnt (n : Nat) (A : Mat S) (eps : S) (i : Nat) (st : Mat S × Mat S)
    (σ : Equiv.Perm ℕ) : Prop where
  hh : st.1.h = n
  hw : st.1.w = n
  ph : st.2.h = n
  pw : st.2.w = n
  pwf : st.2.WF
  fix : ∀ x, n ≤ x → σ x = x
  perm : ∀ r c, r < n → c < n → st.2.get r c = if c = σ r then 1 else 0
  up : ∀ r c, r < n → c < n → min r i ≤ c →
    st.1.get r c = subFrom (A.get (σ r) c) (min r i) fun k => st.1.get r k * st.1.get k c
  lo : ∀ r c, r < n → c < min r i →
    st.1.get r c
      = subFrom (A.get (σ r) c) c (fun k => st.1.get r k * st.1.get k c) / st.1.get c c
  piv : ∀ k, k < i → ¬ (sabs (st.1.get k k) < eps)

theorem pluEnt_init (A : Mat S) (eps : S) (n : Nat) (hh : A.h = n) (hw : A.w = n) :
    PluEnt n A eps 0 (A, Mat.ident n) 1 where
  hh := hh
  hw := hw
  ph := rfl
  pw := rfl
  pwf := Mat.tab_WF _ _ _
  fix := fun x _ => rfl
  perm := fun r c hr hc => by
    rw [Equiv.Perm.one_apply, Mat.get_ident hr hc]
    exact if_congr eq_comm rfl rfl
  up := fun r c _ _ _ => by rw [Nat.min_zero]; rfl
  lo := fun r c _ h => by rw [Nat.min_zero] at h; omega
  piv := fun k h => by omega

theorem pluSwap_ent {n : Nat} {A : Mat S} {eps : S} {i : Nat} {st : Mat S × Mat S}
    {σ : Equiv.Perm ℕ} (hi : i < n) (h : PluEnt n A eps i st σ) :
    ∃ σ', PluEnt n A eps i (pluSwap n st i) σ' := by
  obtain ⟨hip, hpn⟩ := pivotRow_range st.1 n i hi
  have τ := fun x => swap_facts hip hpn x
  have hget := fun {x c : Nat} (hx : x < n) (hc : c < n) =>
    pluSwap_get n st i h.hh h.hw h.ph h.pw hx hc
  obtain ⟨d1, d2, d3, d4, d5⟩ := pluSwap_dims n st i h.hh h.hw h.ph h.pw h.pwf
  -- products `w_xk · w_kc` over pivot rows `k < i`, read in the old state
  have hprod : ∀ x c k, x < n → c < n → k < i →
      (pluSwap n st i).1.get x k * (pluSwap n st i).1.get k c
        = st.1.get (Equiv.swap (pivotRow st.1 n i) i x) k * st.1.get k c := by
    intro x c k hx hc hk
    rw [(hget hx (by omega)).1, (hget (by omega : k < n) hc).1, (τ k).1 hk]
  refine ⟨σ * Equiv.swap (pivotRow st.1 n i) i, d1, d2, d3, d4, d5, fun x hx => ?_,
    fun x c hx hc => ?_, fun x c hx hc hmin => ?_, fun x c hx hc => ?_, fun k hk => ?_⟩
  · rw [Equiv.Perm.mul_apply, (τ x).2.1 hx, h.fix x hx]
  · rw [(hget hx hc).2, Equiv.Perm.mul_apply]
    exact h.perm _ c ((τ x).2.2.1 hx) hc
  · rw [(hget hx hc).1, Equiv.Perm.mul_apply,
      h.up _ c ((τ x).2.2.1 hx) hc (by rw [(τ x).2.2.2]; exact hmin), (τ x).2.2.2]
    exact subFrom_congr _ _ _ _ fun k hk => (hprod x c k hx hc (by omega)).symm
  · have hci : c < i := by omega
    rw [(hget hx (by omega)).1, (hget (by omega : c < n) (by omega : c < n)).1, (τ c).1 hci,
      Equiv.Perm.mul_apply, h.lo _ c ((τ x).2.2.1 hx) (by rw [(τ x).2.2.2]; exact hc)]
    exact congrArg (· / st.1.get c c)
      (subFrom_congr _ _ _ _ fun k hk => (hprod x c k hx (by omega) (by omega)).symm)
  · rw [(hget (by omega : k < n) (by omega : k < n)).1, (τ k).1 hk]
    exact h.piv k hk


theorem pluElim_ent {n : Nat} {A : Mat S} {eps : S} {i : Nat} {st : Mat S × Mat S}
    {σ : Equiv.Perm ℕ} (hi : i < n) (h : PluEnt n A eps i st σ)
    (hpiv : ¬ (sabs (st.1.get i i) < eps)) :
    PluEnt n A eps (i + 1) (pluElim n st.1 i, st.2) σ := by
  obtain ⟨lu, p⟩ := st
  have hup := h.up
  have hlo := h.lo
  dsimp only at hpiv hup hlo ⊢
  have hsub : ∀ (a : S) (x c s : Nat), x < n → c < n → s ≤ i →
      subFrom a s (fun k => (pluElim n lu i).get x k * (pluElim n lu i).get k c)
        = subFrom a s fun k => lu.get x k * lu.get k c := fun a x c s hx hc hs =>
    subFrom_congr _ _ _ _ fun k hk => pluElim_prod n lu hi hx hc (by omega)
  refine ⟨rfl, rfl, h.ph, h.pw, h.pwf, h.fix, h.perm, fun x c hx hc hmin => ?_,
    fun x c hx hc => ?_, fun k hk => ?_⟩
  · rcases Nat.lt_or_ge i x with hix | hxi
    · -- one more update: `w_xc − w_xi · w_ic`
      rw [Nat.min_eq_right hix] at hmin ⊢
      rw [subFrom_succ, hsub _ x c i hx hc (le_refl i), pluElim_update n lu hx hc hix hmin,
        pluElim_col_eq n lu hx hix, pluElim_row_le n lu hi hc (le_refl i),
        hup x c hx hc ((Nat.min_le_right x i).trans (Nat.le_of_lt hmin)), Nat.min_eq_right hix.le]
    · rw [Nat.min_eq_left (Nat.le_succ_of_le hxi)] at hmin ⊢
      rw [hsub _ x c x hx hc hxi, pluElim_row_le n lu hx hc hxi,
        hup x c hx hc ((Nat.min_le_left x i).trans hmin), Nat.min_eq_left hxi]
  · have hcn : c < n := by omega
    rw [hsub _ x c c hx hcn (by omega)]
    rcases Nat.lt_or_ge c i with hci | hic
    · rw [pluElim_col_lt n lu hx hcn hci, pluElim_col_lt n lu hcn hcn hci, hlo x c hx (by omega)]
    · obtain rfl : c = i := by omega
      rw [pluElim_col_eq n lu hx (by omega), pluElim_row_le n lu hcn hcn (le_refl c),
        hup x c hx hcn (by omega), show min x c = c by omega]
  · rw [pluElim_row_le n lu (by omega) (by omega) (by omega)]
    rcases Nat.lt_or_ge k i with hki | hik
    · exact h.piv k hki
    · rwa [show k = i by omega]

theorem pluStep_ent {n : Nat} {A : Mat S} {eps : S} {i : Nat} {st st' : Mat S × Mat S}
    (hi : i < n) (h : ∃ σ, PluEnt n A eps i st σ) (hs : pluStep eps n st i = some st') :
    ∃ σ, PluEnt n A eps (i + 1) st' σ := by
  obtain ⟨σ, h⟩ := h
  obtain ⟨σ', h'⟩ := pluSwap_ent hi h
  unfold pluStep at hs
  dsimp only at hs
  split_ifs at hs with hg
  rw [← Option.some.inj hs]
  exact ⟨σ', pluElim_ent hi h' hg⟩

theorem plu_ok_iter {eps : S} {A L U P : Mat S} (h : plu eps A = .ok (L, U, P)) :
    A.h = A.w ∧ ∃ st, iter (pluStep eps A.h) A.h 0 (A, Mat.ident A.h) = some st ∧
      L = splitL A.h st.1 ∧ U = splitU A.h st.1 ∧ P = st.2 := by
  obtain ⟨hsq, st, hit, hL, hU, hP⟩ := plu_eq_ok_iff.1 h
  exact ⟨hsq, st, hit, hL.symm, hU.symm, hP.symm⟩

theorem plu_iter_ent {n : Nat} {A : Mat S} {eps : S} (hh : A.h = n) (hw : A.w = n) {k : Nat}
    (hk : k ≤ n) {s : Mat S × Mat S} (hs : iter (pluStep eps n) k 0 (A, Mat.ident n) = some s) :
    ∃ σ, PluEnt n A eps k s σ := by
  have := iter_inv (pluStep eps n) (fun i st => ∃ σ, PluEnt n A eps i st σ) n
    (fun i s s' hi hI hs => pluStep_ent hi hI hs) k 0 _ _ (by omega)
    ⟨1, pluEnt_init A eps n hh hw⟩ hs
  rwa [Nat.zero_add] at this

theorem plu_ok_ent {eps : S} {A L U P : Mat S} (h : plu eps A = .ok (L, U, P)) :
    A.h = A.w ∧ ∃ lu σ, PluEnt A.h A eps A.h (lu, P) σ ∧ L = splitL A.h lu ∧ U = splitU A.h lu := by
  obtain ⟨hsq, st, hit, hL, hU, rfl⟩ := plu_ok_iter h
  obtain ⟨σ, hσ⟩ := plu_iter_ent rfl hsq.symm le_rfl hit
  exact ⟨hsq, st.1, σ, hσ, hL, hU⟩

variable [Add S]

theorem lu_of_nonsquare (eps : S) {A : Mat S} (h : A.h ≠ A.w) : lu eps A = .err .nonSquare :=
  if_pos h

theorem lu_of_square (eps : S) {A : Mat S} (hsq : A.h = A.w) :
    lu eps A = match iter (luStep eps A.h A) A.h 0
        (Mat.tab A.h A.h fun _ _ => (0:S), Mat.tab A.h A.h fun _ _ => (0:S)) with
      | none => .err .singular
      | some st => .ok st := by
  unfold lu
  rw [if_neg (not_not.mpr hsq)]
  rfl

theorem lu_ne_panic (eps : S) (A : Mat S) : lu eps A ≠ .panic := by
  by_cases h : A.h = A.w
  · rw [lu_of_square eps h]
    cases iter (luStep eps A.h A) A.h 0
      (Mat.tab A.h A.h fun _ _ => (0:S), Mat.tab A.h A.h fun _ _ => (0:S)) <;> simp
  · rw [lu_of_nonsquare eps h]
    simp

theorem lu_eq_ok_iff {eps : S} {A L U : Mat S} :
    lu eps A = .ok (L, U) ↔ A.h = A.w ∧ iter (luStep eps A.h A) A.h 0
      (Mat.tab A.h A.h fun _ _ => (0:S), Mat.tab A.h A.h fun _ _ => (0:S)) = some (L, U) := by
  by_cases hsq : A.h = A.w
  · rw [lu_of_square eps hsq]
    cases iter (luStep eps A.h A) A.h 0
      (Mat.tab A.h A.h fun _ _ => (0:S), Mat.tab A.h A.h fun _ _ => (0:S)) <;> simp [hsq]
  · rw [lu_of_nonsquare eps hsq]
    simp [hsq]

/-- State after `i` passes of `lu_decomposition`, for any scalar type: columns `< i` of `lower` and
rows `< i` of `upper` are final and **are the expressions the code evaluated**, written in terms of
the state itself; everything else is still zero; the guards of the passes `< i` were false. -/
structure LuEnt (n : Nat) (A : Mat S) (eps : S) (i : Nat) (st : Mat S × Mat S) : Prop where
  dims : (st.1.h = n ∧ st.1.w = n ∧ st.1.WF) ∧ (st.2.h = n ∧ st.2.w = n ∧ st.2.WF)
  Lz : ∀ r c, r < n → c < n → (i ≤ c ∨ r < c) → st.1.get r c = 0
  Ld : ∀ r, r < n → r < i → st.1.get r r = 1
  Uz : ∀ r c, r < n → c < n → (i ≤ r ∨ c < r) → st.2.get r c = 0
  Ueq : ∀ r c, r < i → r ≤ c → c < n →
    st.2.get r c = A.get r c - sumFrom 0 0 r (fun j => st.1.get r j * st.2.get j c)
  Leq : ∀ r c, c < i → c < r → r < n →
    st.1.get r c
      = (A.get r c - sumFrom 0 0 c (fun j => st.1.get r j * st.2.get j c)) / st.2.get c c
  guard : ∀ k, k < i → k + 1 < n → ¬ (sabs (st.2.get k k) < eps)

theorem luEnt_init (n : Nat) (A : Mat S) (eps : S) :
    LuEnt n A eps 0 (Mat.tab n n fun _ _ => (0:S), Mat.tab n n fun _ _ => (0:S)) where
  dims := ⟨⟨rfl, rfl, Mat.tab_WF _ _ _⟩, ⟨rfl, rfl, Mat.tab_WF _ _ _⟩⟩
  Lz := fun r c hr hc _ => Mat.get_tab _ hr hc
  Ld := fun r _ h => by omega
  Uz := fun r c hr hc _ => Mat.get_tab _ hr hc
  Ueq := fun r c h _ _ => by omega
  Leq := fun r c h _ _ => by omega
  guard := fun k h _ => by omega

theorem luStep_ent {n : Nat} {A : Mat S} {eps : S} {i : Nat}
    {st st' : Mat S × Mat S} (hi : i < n) (h : LuEnt n A eps i st)
    (hs : luStep eps n A st i = some st') : LuEnt n A eps (i+1) st' := by
  obtain ⟨L, U⟩ := st
  unfold luStep at hs
  dsimp only at hs
  split_ifs at hs with hg
  rw [← Option.some.inj hs]
  generalize hU' : luUpper n A L U i = U' at hg
  have hUd : U'.h = n ∧ U'.w = n ∧ U'.WF := by
    rw [← hU']
    exact ⟨rfl, rfl, Mat.tab_WF _ _ _⟩
  have Uold : ∀ r c, r < n → c < n → r ≠ i → U'.get r c = U.get r c := fun r c hr hc hne => by
    rw [← hU', luUpper_get_ne n A L U hr hc hne]
  have Lold : ∀ r c, r < n → c < n → c ≠ i → (luLower n A L U' i).get r c = L.get r c :=
    fun r c hr hc hne => luLower_get_ne n A L U' hr hc hne
  -- a dot product over `j < m ≤ i` reads only old columns of `L` and old rows of `U`
  have hsum : ∀ r c m, r < n → c < n → m ≤ i →
      sumFrom 0 0 m (fun j => (luLower n A L U' i).get r j * U'.get j c)
        = sumFrom 0 0 m (fun j => L.get r j * U.get j c) := fun r c m hr hc hm =>
    sumFrom_congr _ _ _ _ _ fun j _ hj => by
      rw [Lold r j hr (by omega) (by omega), Uold j c (by omega) hc (by omega)]
  refine
    { dims := ⟨⟨rfl, rfl, Mat.tab_WF _ _ _⟩, hUd⟩
      Lz := fun r c hr hc hcond => ?_
      Ld := fun r hr hri => ?_
      Uz := fun r c hr hc hcond => ?_
      Ueq := fun r c hri hrc hc => ?_
      Leq := fun r c hci hcr hr => ?_
      guard := fun k hki hk => ?_ }
  · by_cases hci : c = i
    · subst hci
      rw [luLower_get n A L U' c hr hc, if_neg (by omega)]
      exact h.Lz r c hr hc (Or.inl (le_refl c))
    · rw [Lold r c hr hc hci]
      exact h.Lz r c hr hc (by omega)
  · by_cases hr' : r = i
    · subst hr'
      exact luLower_get_diag n A L U' hr
    · rw [Lold r r hr hr hr']
      exact h.Ld r hr (by omega)
  · by_cases hri : r = i
    · subst hri
      rw [← hU', luUpper_get n A L U r hr hc, if_neg (by omega)]
      exact h.Uz r c hr hc (Or.inl (le_refl r))
    · rw [Uold r c hr hc hri]
      exact h.Uz r c hr hc (by omega)
  · have hr : r < n := by omega
    rw [hsum r c r hr hc (by omega)]
    by_cases hre : r = i
    · subst hre
      rw [← hU', luUpper_get_row n A L U hr hc hrc]
    · rw [Uold r c hr hc hre]
      exact h.Ueq r c (by omega) hrc hc
  · have hc : c < n := by omega
    rw [hsum r c c hr hc (by omega)]
    by_cases hce : c = i
    · subst hce
      rw [luLower_get_col n A L U' hr hcr, sumFrom_congr 0 0 c _ (fun j => L.get r j * U.get j c)
        fun j _ hj => by rw [Uold j c (by omega) hc (by omega)]]
    · rw [Lold r c hr hc hce, Uold c c hc hc hce]
      exact h.Leq r c (by omega) hcr hr
  · by_cases hke : k = i
    · subst hke
      exact fun hlt => hg ⟨hk, hlt⟩
    · rw [Uold k k (by omega) (by omega) hke]
      exact h.guard k (by omega) hk

theorem lu_iter_ent {n : Nat} {A : Mat S} {eps : S} {k : Nat} (hk : k ≤ n) {s : Mat S × Mat S}
    (hs : iter (luStep eps n A) k 0
      (Mat.tab n n fun _ _ => (0:S), Mat.tab n n fun _ _ => (0:S)) = some s) :
    LuEnt n A eps k s := by
  have := iter_inv (luStep eps n A) (LuEnt n A eps) n
    (fun i s s' hi hI hs => luStep_ent hi hI hs) k 0 _ _ (by omega) (luEnt_init n A eps) hs
  rwa [Nat.zero_add] at this

theorem lu_ok_ent {eps : S} {A L U : Mat S} (h : lu eps A = .ok (L, U)) :
    A.h = A.w ∧ LuEnt A.h A eps A.h (L, U) :=
  ⟨(lu_eq_ok_iff.1 h).1, lu_iter_ent le_rfl (lu_eq_ok_iff.1 h).2⟩

end anyScalar

section doolittle
variable {K : Type} [CommRing K]

theorem sum_mul_congr {m : Nat} {f f' g g' : Nat → K} (hf : ∀ k, k < m → f' k = f k)
    (hg : ∀ k, k < m → g' k = g k) :
    ∑ k ∈ range m, f' k * g' k = ∑ k ∈ range m, f k * g k :=
  Finset.sum_congr rfl fun k hk => by rw [hf k (mem_range.1 hk), hg k (mem_range.1 hk)]

theorem subFrom_eq (a : K) (s : Nat) (f : Nat → K) : subFrom a s f = a - ∑ k ∈ range s, f k := by
  induction s with
  | zero => rw [Finset.range_zero, Finset.sum_empty, sub_zero]; rfl
  | succ s ih => rw [subFrom_succ, ih, Finset.sum_range_succ, sub_sub]

theorem sum_unit_row {n k : Nat} (hk : k < n) (f g : Nat → K) (hd : f k = 1)
    (hz : ∀ t, k < t → t < n → f t = 0) :
    ∑ t ∈ range n, f t * g t = ∑ t ∈ range k, f t * g t + g k := by
  rw [sum_range_lower hk _ fun t h1 h2 => by rw [hz t h1 h2, zero_mul], hd, one_mul]

theorem sum_upper_col {n k : Nat} (hk : k < n) (f g : Nat → K)
    (hz : ∀ t, k < t → t < n → g t = 0) :
    ∑ t ∈ range n, f t * g t = ∑ t ∈ range k, f t * g t + f k * g k :=
  sum_range_lower hk _ fun t h1 h2 => by rw [hz t h1 h2, mul_zero]

/-- Stage `i` of an elimination, read as a factorisation `stageL i l · stageW i u`: rows `< i` are
finished, `l r k` (`k < min r i`) are the multipliers, `u k c` (`min k i ≤ c`) the entries of `U`
for `k < i` and of the Schur complement for `i ≤ k`. -/
def stageL (i : Nat) (l : Nat → Nat → K) (r k : Nat) : K :=
  if r = k then 1 else if k < min r i then l r k else 0

def stageW (i : Nat) (u : Nat → Nat → K) (k c : Nat) : K := if min k i ≤ c then u k c else 0

theorem stageL_self (i : Nat) (l : Nat → Nat → K) (r : Nat) : stageL i l r r = 1 := if_pos rfl

theorem stageL_of_lt (i : Nat) (l : Nat → Nat → K) {r k : Nat} (h : r < k) : stageL i l r k = 0 := by
  rw [stageL, if_neg (by omega), if_neg (by omega)]

theorem stageW_of_le (i : Nat) (u : Nat → Nat → K) {k c : Nat} (h : min k i ≤ c) :
    stageW i u k c = u k c := if_pos h

theorem stageW_of_lt (i : Nat) (u : Nat → Nat → K) {k c : Nat} (h : c < min k i) :
    stageW i u k c = 0 := if_neg (by omega)

/-- Doolittle's equations at stage `i` say `stageL i l · stageW i u = a`. -/
theorem doolittle_sum {n i r c : Nat} (hr : r < n) (l u : Nat → Nat → K) {a : K}
    (hup : min r i ≤ c → u r c = a - ∑ k ∈ range (min r i), l r k * u k c)
    (hlo : c < min r i → l r c * u c c = a - ∑ k ∈ range c, l r k * u k c) :
    ∑ k ∈ range n, stageL i l r k * stageW i u k c = a := by
  rw [sum_unit_row hr _ _ (stageL_self i l r) (fun t h1 _ => stageL_of_lt i l h1),
    sum_range_tail_zero (min_le_left r i) _
      (fun k h1 h2 => by rw [stageL, if_neg (by omega), if_neg (by omega), zero_mul])]
  have e : ∀ m, m ≤ min r i → m ≤ c + 1 →
      ∑ k ∈ range m, stageL i l r k * stageW i u k c = ∑ k ∈ range m, l r k * u k c := by
    intro m h1 h2
    apply Finset.sum_congr rfl
    intro k hk
    have := mem_range.1 hk
    rw [stageL, if_neg (by omega), if_pos (by omega), stageW_of_le i u (by omega)]
  rcases le_or_gt (min r i) c with hc | hc
  · rw [e _ le_rfl (by omega), stageW_of_le i u hc, hup hc]
    ring
  · rw [sum_upper_col hc _ _ (fun t h1 _ => stageW_of_lt i u (by omega)),
      e c (by omega) (by omega), stageW_of_lt i u hc, stageL, if_neg (by omega), if_pos hc,
      stageW_of_le i u (by omega), hlo hc]
    ring

theorem det_doolittle {m : Nat} (i : Nat) (l u a : Nat → Nat → K)
    (hup : ∀ r c, r < m → c < m → min r i ≤ c →
      u r c = a r c - ∑ k ∈ range (min r i), l r k * u k c)
    (hlo : ∀ r c, r < m → c < min r i → l r c * u c c = a r c - ∑ k ∈ range c, l r k * u k c) :
    (Matrix.of fun r c : Fin m => a r c).det = (Matrix.of fun k c : Fin m => stageW i u k c).det := by
  have e : (Matrix.of fun r c : Fin m => a r c)
      = (Matrix.of fun r k : Fin m => stageL i l r k) * Matrix.of fun k c : Fin m => stageW i u k c := by
    funext r c
    rw [Matrix.mul_apply]
    simp only [Matrix.of_apply]
    rw [← Finset.sum_range fun k => stageL i l r k * stageW i u k c]
    exact (doolittle_sum r.isLt l u (hup r c r.isLt c.isLt) (hlo r c r.isLt)).symm
  have hL : (Matrix.of fun r k : Fin m => stageL i l r k).det = 1 := by
    rw [Matrix.det_of_isLowerTriangular]
    · exact Finset.prod_eq_one fun r _ => stageL_self i l r
    · intro r k hrk
      exact stageL_of_lt i l (show r.val < k.val from hrk)
  rw [e, Matrix.det_mul, hL, one_mul]

/-- at stage `m` (all rows finished) `stageW` is upper triangular with the pivots on its diagonal -/
theorem det_stageW_full {m : Nat} (u : Nat → Nat → K) :
    (Matrix.of fun k c : Fin m => stageW m u k c).det = ∏ k : Fin m, u k k := by
  rw [Matrix.det_of_isUpperTriangular]
  · exact Finset.prod_congr rfl fun k _ => stageW_of_le m u (by omega)
  · intro k c hck
    exact stageW_of_lt m u (by have : c.val < k.val := hck; omega)

theorem det_of_doolittle {m : Nat} (l u a : Nat → Nat → K)
    (hup : ∀ r c, r ≤ c → c < m → u r c = a r c - ∑ k ∈ range r, l r k * u k c)
    (hlo : ∀ r c, c < r → r < m → l r c * u c c = a r c - ∑ k ∈ range c, l r k * u k c) :
    (Matrix.of fun r c : Fin m => a r c).det = ∏ k : Fin m, u k k := by
  rw [det_doolittle m l u a
    (fun r c hr hc h => by
      rw [min_eq_left (le_of_lt hr)] at h ⊢
      exact hup r c h hc)
    (fun r c hr h => hlo r c (by rwa [min_eq_left (le_of_lt hr)] at h) hr), det_stageW_full]

/-- rows `≥ i` of `stageW i u` vanish in the columns `< i`; if they vanish in column `i` as well,
`a` is singular -/
theorem det_doolittle_zero_column {m i : Nat} (hi : i < m) (l u a : Nat → Nat → K)
    (hup : ∀ r c, r < m → c < m → min r i ≤ c →
      u r c = a r c - ∑ k ∈ range (min r i), l r k * u k c)
    (hlo : ∀ r c, r < m → c < min r i → l r c * u c c = a r c - ∑ k ∈ range c, l r k * u k c)
    (hz : ∀ k, i ≤ k → k < m → u k i = 0) : (Matrix.of fun r c : Fin m => a r c).det = 0 := by
  rw [det_doolittle i l u a hup hlo]
  exact det_stage_zero_column hi _ (fun r c hr _ hc => stageW_of_lt i u (by omega))
    fun r hr hrm => (stageW_of_le i u (by omega)).trans (hz r hr hrm)

end doolittle

variable {K : Type} [Field K] [LinearOrder K] [IsStrictOrderedRing K]

/-- If after every successful run of `k < n` passes some positive threshold lets pass `k` through,
then below some positive threshold all passes succeed, with one and the same state. -/
theorem iter_eventually {σ : Type} (step : K → σ → Nat → Option σ) (n : Nat) (s0 : σ)
    (hmono : ∀ {e e' : K}, e' ≤ e → ∀ s i s', step e s i = some s' → step e' s i = some s')
    (hstep : ∀ k e s, k < n → 0 < e → iter (step e) k 0 s0 = some s →
      ∃ e', 0 < e' ∧ ∃ s', step e' s k = some s') :
    ∀ k, k ≤ n → ∃ e : K, 0 < e ∧ ∃ s, ∀ eps, 0 < eps → eps ≤ e →
      iter (step eps) k 0 s0 = some s := by
  intro k
  induction k with
  | zero => intro _; exact ⟨1, one_pos, s0, fun _ _ _ => rfl⟩
  | succ k ih =>
    intro hk
    obtain ⟨e, he, s, hs⟩ := ih (by omega)
    obtain ⟨e', he', s', hs'⟩ := hstep k e s (by omega) he (hs e he le_rfl)
    refine ⟨min e e', lt_min he he', s', fun eps h0 hle => ?_⟩
    exact iter_succ (hs eps h0 (le_trans hle (min_le_left _ _)))
      (hmono (le_trans hle (min_le_right _ _)) s k s' hs')

theorem ne_zero_of_eps {eps x : K} (heps : 0 < eps) (h : eps ≤ |x|) : x ≠ 0 := by
  intro h0
  rw [h0, abs_zero] at h
  exact absurd (lt_of_lt_of_le heps h) (lt_irrefl _)

variable [Inhabited K] {n : Nat} {A : Mat K} {eps : K}

theorem luStep_eq_some_iff {i : Nat} {st st' : Mat K × Mat K} :
    luStep eps n A st i = some st' ↔
      (i + 1 < n → eps ≤ |(luUpper n A st.1 st.2 i).get i i|) ∧
      st' = (luLower n A st.1 (luUpper n A st.1 st.2 i) i, luUpper n A st.1 st.2 i) := by
  unfold luStep
  dsimp only
  rw [sabs_eq_abs]
  split_ifs with hg
  · exact ⟨fun h => absurd h (by simp), fun h => absurd (h.1 hg.1) (not_le.mpr hg.2)⟩
  · exact ⟨fun h => ⟨fun h1 => not_lt.mp fun h2 => hg ⟨h1, h2⟩, (Option.some.inj h).symm⟩,
      fun h => by rw [h.2]⟩

/-- the guard is the only place the threshold is used: a pass that succeeds succeeds with the same
result for every smaller threshold -/
theorem luStep_mono {eps' : K} (hle : eps' ≤ eps) (st : Mat K × Mat K) (i : Nat) (st' : Mat K × Mat K) (h : luStep eps n A st i = some st') :
    luStep eps' n A st i = some st' := by
  obtain ⟨h1, h2⟩ := luStep_eq_some_iff.1 h
  exact luStep_eq_some_iff.2 ⟨fun hi => le_trans hle (h1 hi), h2⟩

/-- State of `lu_decomposition` when columns `< j` of `lower` and rows `< i` of `upper` are final
(`j = i` between two passes, `j + 1 = i` between the two loops of pass `j`): everything else is
still zero, the final entries satisfy Doolittle's equations for the input, and the pivots that
columns of `lower` were divided by passed the test. -/
structure LuInv (n : Nat) (A : Mat K) (eps : K) (j i : Nat) (L U : Mat K) : Prop where
  dims : (L.h = n ∧ L.w = n ∧ L.WF) ∧ (U.h = n ∧ U.w = n ∧ U.WF)
  Lz : ∀ r c, r < n → c < n → (j ≤ c ∨ r < c) → L.get r c = 0
  Ld : ∀ r, r < n → r < j → L.get r r = 1
  Uz : ∀ r c, r < n → c < n → (i ≤ r ∨ c < r) → U.get r c = 0
  up : ∀ r c, r < i → r ≤ c → c < n →
    U.get r c = A.get r c - ∑ k ∈ range r, L.get r k * U.get k c
  lo : ∀ r c, c < j → c < r → r < n →
    L.get r c * U.get c c = A.get r c - ∑ k ∈ range c, L.get r k * U.get k c
  piv : ∀ k, k + 1 < n → k < j → eps ≤ |U.get k k|

/-- over an ordered field, with a positive threshold, the assignments the code executed are
Doolittle's equations -/
theorem LuEnt.toInv (heps : 0 < eps) {i : Nat} {st : Mat K × Mat K} (h : LuEnt n A eps i st) :
    LuInv n A eps i i st.1 st.2 := by
  have piv : ∀ k, k + 1 < n → k < i → eps ≤ |st.2.get k k| := fun k hk hki => by
    have := h.guard k hki hk
    rwa [sabs_eq_abs, not_lt] at this
  refine ⟨h.dims, h.Lz, h.Ld, h.Uz, fun r c hr hrc hc => ?_, fun r c hc hcr hr => ?_, piv⟩
  · rw [h.Ueq r c hr hrc hc, sumFrom_zero]
  · rw [h.Leq r c hc hcr hr, sumFrom_zero,
      div_mul_cancel₀ _ (ne_zero_of_eps heps (piv c (by omega) hc))]

omit [IsStrictOrderedRing K] in
theorem luUpper_inv {i : Nat} {L U : Mat K} (hi : i < n)
    (h : LuInv n A eps i i L U) : LuInv n A eps i (i+1) L (luUpper n A L U i) := by
  have old : ∀ r c, r < n → c < n → r ≠ i → (luUpper n A L U i).get r c = U.get r c :=
    fun r c hr hc hne => by rw [luUpper_get n A L U i hr hc, if_neg fun h => hne h.1]
  have hsum : ∀ r c m, m ≤ i → c < n →
      ∑ k ∈ range m, L.get r k * (luUpper n A L U i).get k c
        = ∑ k ∈ range m, L.get r k * U.get k c :=
    fun r c m hm hc => sum_mul_congr (fun _ _ => rfl) fun k hk => old k c (by omega) hc (by omega)
  refine ⟨⟨h.dims.1, rfl, rfl, Mat.tab_WF _ _ _⟩, h.Lz, h.Ld, ?_, ?_, ?_, ?_⟩
  · intro r c hr hc hcond
    rw [luUpper_get n A L U i hr hc, if_neg (by omega)]
    exact h.Uz r c hr hc (by omega)
  · intro r c hr hrc hc
    rw [hsum r c r (by omega) hc]
    by_cases hri : r = i
    · rw [hri] at hrc ⊢
      rw [luUpper_get n A L U i hi hc, if_pos ⟨rfl, hrc⟩, sumFrom_zero]
    · rw [old r c (by omega) hc hri]
      exact h.up r c (by omega) hrc hc
  · intro r c hc hcr hr
    rw [hsum r c c (by omega) (by omega), old c c (by omega) (by omega) (by omega)]
    exact h.lo r c hc hcr hr
  · intro k hk hki
    rw [old k k (by omega) (by omega) (by omega)]
    exact h.piv k hk hki

theorem lu_iter_inv (heps : 0 < eps) {k : Nat} (hk : k ≤ n)
    {s : Mat K × Mat K} (hs : iter (luStep eps n A) k 0
      (Mat.tab n n fun _ _ => (0:K), Mat.tab n n fun _ _ => (0:K)) = some s) :
    LuInv n A eps k k s.1 s.2 :=
  (lu_iter_ent hk hs).toInv heps

theorem lu_ok (heps : 0 < eps) {L U : Mat K} (h : lu eps A = .ok (L, U)) :
    A.h = A.w ∧ LuInv A.h A eps A.h A.h L U :=
  ⟨(lu_eq_ok_iff.1 h).1, lu_iter_inv heps le_rfl (lu_eq_ok_iff.1 h).2⟩

omit [IsStrictOrderedRing K] in
theorem LuInv.prod {i : Nat} {L U : Mat K}
    (h : LuInv n A eps i i L U) {r c : Nat} (hr : r < n) (hc : c < n) (hrc : r < i ∨ c < i) :
    ∑ k ∈ range n, L.get r k * U.get k c = A.get r c := by
  rcases le_or_gt r c with hle | hlt
  · rw [sum_unit_row hr (L.get r) (fun k => U.get k c) (h.Ld r hr (by omega))
      (fun t h1 h2 => h.Lz r t hr h2 (Or.inr h1)), h.up r c (by omega) hle hc]
    ring
  · rw [sum_upper_col hc (L.get r) (fun k => U.get k c)
      (fun t h1 h2 => h.Uz t c h2 hc (Or.inr h1)), h.lo r c (by omega) hlt hr]
    ring

omit [IsStrictOrderedRing K] in
theorem LuInv.det_leading {j i : Nat} {L U : Mat K}
    (h : LuInv n A eps j i L U) {m : Nat} (hmi : m ≤ i) (hmj : m ≤ j + 1) (hmn : m ≤ n) :
    (A.toMatrix m m).det = ∏ k : Fin m, U.get k k :=
  det_of_doolittle L.get U.get A.get
    (fun r c hrc hc => h.up r c (by omega) hrc (by omega))
    (fun r c hcr hr => h.lo r c (by omega) hcr (by omega))

theorem lu_iter_regular
    (hmin : ∀ k, 1 ≤ k → k < n → (A.toMatrix k k).det ≠ 0) :
    ∀ k, k ≤ n → ∃ e : K, 0 < e ∧ ∃ s, ∀ eps, 0 < eps → eps ≤ e →
      iter (luStep eps n A) k 0
        (Mat.tab n n fun _ _ => (0:K), Mat.tab n n fun _ _ => (0:K)) = some s := by
  apply iter_eventually (fun eps => luStep eps n A) n _ (fun hle => luStep_mono hle)
  intro k e s hk he hs
  by_cases hlast : k + 1 < n
  · have hpv : (luUpper n A s.1 s.2 k).get k k ≠ 0 := by
      intro h0
      apply hmin (k+1) (by omega) hlast
      rw [(luUpper_inv hk (lu_iter_inv he (le_of_lt hk) hs)).det_leading le_rfl le_rfl (le_of_lt hlast)]
      exact Finset.prod_eq_zero (Finset.mem_univ (Fin.last k)) h0
    exact ⟨_, abs_pos.2 hpv, _, luStep_eq_some_iff.2 ⟨fun _ => le_rfl, rfl⟩⟩
  · exact ⟨1, one_pos, _, luStep_eq_some_iff.2 ⟨fun h => absurd h hlast, rfl⟩⟩

theorem pivotRow_spec (lu : Mat K) (n i : Nat) (hi : i < n) :
    i ≤ pivotRow lu n i ∧ pivotRow lu n i < n ∧
      ∀ k, i ≤ k → k < n → |lu.get k i| ≤ |lu.get (pivotRow lu n i) i| := by
  refine ⟨(pivotRow_range lu n i hi).1, (pivotRow_range lu n i hi).2, fun k hik hk => ?_⟩
  rw [← sabs_eq_abs, ← sabs_eq_abs]
  exact (argmaxFrom_max id (fun _ _ => Iff.rfl) (fun k => sabs (lu.get k i)) n i).2 k hik hk

theorem perm_lt {σ : Equiv.Perm ℕ} {n : Nat} (hfix : ∀ x, n ≤ x → σ x = x) {x : Nat} (hx : x < n) :
    σ x < n := by
  by_contra hge
  have h1 : σ (σ x) = σ x := hfix _ (not_lt.mp hge)
  have h2 : σ x = x := σ.injective h1
  omega

theorem perm_symm_lt {σ : Equiv.Perm ℕ} {n : Nat} (hfix : ∀ x, n ≤ x → σ x = x) {x : Nat}
    (hx : x < n) : σ.symm x < n := by
  by_contra hge
  have h1 : σ (σ.symm x) = σ.symm x := hfix _ (not_lt.mp hge)
  rw [Equiv.apply_symm_apply] at h1
  omega

def permFin (σ : Equiv.Perm ℕ) (n : Nat) (hfix : ∀ x, n ≤ x → σ x = x) : Equiv.Perm (Fin n) where
  toFun x := ⟨σ x.val, perm_lt hfix x.isLt⟩
  invFun x := ⟨σ.symm x.val, perm_symm_lt hfix x.isLt⟩
  left_inv x := by ext; simp
  right_inv x := by ext; simp

@[simp] theorem permFin_val (σ : Equiv.Perm ℕ) (n : Nat) (hfix : ∀ x, n ≤ x → σ x = x)
    (x : Fin n) : (permFin σ n hfix x).val = σ x.val := rfl

/-- State after `i` passes of `lu_pivot_decomposition`, with the row permutation `σ` applied so
far (row `r` of the work matrix started as row `σ r` of the input): the packed array `lu` satisfies
Doolittle's equations for the permuted input, rows `< i` finished (`up` for `i ≤ r` is the Schur
complement); multipliers are at most 1 in size and finished pivots at least `eps`. -/
structure PluInv (n : Nat) (A : Mat K) (eps : K) (i : Nat) (lu p : Mat K)
    (σ : Equiv.Perm ℕ) : Prop where
  hh : lu.h = n
  hw : lu.w = n
  ph : p.h = n
  pw : p.w = n
  pwf : p.WF
  fix : ∀ x, n ≤ x → σ x = x
  perm : ∀ r c, r < n → c < n → p.get r c = if c = σ r then 1 else 0
  up : ∀ r c, r < n → c < n → min r i ≤ c →
    lu.get r c = A.get (σ r) c - ∑ k ∈ range (min r i), lu.get r k * lu.get k c
  lo : ∀ r c, r < n → c < min r i →
    lu.get r c * lu.get c c = A.get (σ r) c - ∑ k ∈ range c, lu.get r k * lu.get k c
  mult : ∀ r c, r < n → c < min r i → |lu.get r c| ≤ 1
  piv : ∀ k, k < i → eps ≤ |lu.get k k|

/-- over an ordered field, with a positive threshold, the assignments the code executed are
Doolittle's equations; the bound on the multipliers is carried beside them -/
theorem PluEnt.toInv (heps : 0 < eps) {i : Nat} {st : Mat K × Mat K} {σ : Equiv.Perm ℕ}
    (h : PluEnt n A eps i st σ) (hm : ∀ r c, r < n → c < min r i → |st.1.get r c| ≤ 1) :
    PluInv n A eps i st.1 st.2 σ := by
  have piv : ∀ k, k < i → eps ≤ |st.1.get k k| := fun k hk => by
    have := h.piv k hk
    rwa [sabs_eq_abs, not_lt] at this
  refine ⟨h.hh, h.hw, h.ph, h.pw, h.pwf, h.fix, h.perm, fun r c hr hc hmin => ?_,
    fun r c hr hc => ?_, hm, piv⟩
  · rw [h.up r c hr hc hmin, subFrom_eq]
  · rw [h.lo r c hr hc, subFrom_eq, div_mul_cancel₀ _ (ne_zero_of_eps heps (piv c (by omega)))]

theorem pluSwap_bound {i : Nat} {st : Mat K × Mat K} (hi : i < n) (hh : st.1.h = n) (hw : st.1.w = n)
    (ph : st.2.h = n) (pw : st.2.w = n) (hm : ∀ r c, r < n → c < min r i → |st.1.get r c| ≤ 1) :
    (∀ r c, r < n → c < min r i → |(pluSwap n st i).1.get r c| ≤ 1) ∧
    ∀ k, i ≤ k → k < n → |(pluSwap n st i).1.get k i| ≤ |(pluSwap n st i).1.get i i| :=
  pluSwap_below (P := fun x => |x| ≤ 1) (R := fun a b => |a| ≤ |b|) hi hh hw ph pw hm
    (pivotRow_spec st.1 n i hi).2.2

theorem pluStep_eq_some_iff {i : Nat} {st st' : Mat K × Mat K} :
    pluStep eps n st i = some st' ↔ eps ≤ |(pluSwap n st i).1.get i i| ∧
      st' = (pluElim n (pluSwap n st i).1 i, (pluSwap n st i).2) := by
  unfold pluStep
  dsimp only
  rw [sabs_eq_abs]
  split_ifs with hg
  · exact ⟨fun h => absurd h (by simp), fun h => absurd h.1 (not_le.mpr hg)⟩
  · exact ⟨fun h => ⟨not_lt.mp hg, (Option.some.inj h).symm⟩, fun h => by rw [h.2]⟩

theorem pluStep_mono {eps' : K} (hle : eps' ≤ eps) (st : Mat K × Mat K) (i : Nat)
    (st' : Mat K × Mat K) (h : pluStep eps n st i = some st') : pluStep eps' n st i = some st' := by
  obtain ⟨h1, h2⟩ := pluStep_eq_some_iff.1 h
  exact pluStep_eq_some_iff.2 ⟨le_trans hle h1, h2⟩

theorem plu_iter_ent_mult (hh : A.h = n) (hw : A.w = n) {k : Nat} (hk : k ≤ n)
    {s : Mat K × Mat K} (hs : iter (pluStep eps n) k 0 (A, Mat.ident n) = some s) :
    ∃ σ, PluEnt n A eps k s σ ∧ ∀ r c, r < n → c < min r k → |s.1.get r c| ≤ 1 := by
  have := iter_inv (pluStep eps n)
    (fun i st => ∃ σ, PluEnt n A eps i st σ ∧ ∀ r c, r < n → c < min r i → |st.1.get r c| ≤ 1) n
    (fun i s s' hi hI hs => by
      obtain ⟨σ, h, hm⟩ := hI
      obtain ⟨σ', h'⟩ := pluSwap_ent hi h
      obtain ⟨hm', hmax⟩ := pluSwap_bound hi h.hh h.hw h.ph h.pw hm
      obtain ⟨hp, rfl⟩ := pluStep_eq_some_iff.1 hs
      exact ⟨σ', pluElim_ent hi h' (by rw [sabs_eq_abs]; exact not_lt.mpr hp),
        pluElim_below (P := fun x => |x| ≤ 1) hm' fun r hir hr => by
          rw [abs_div]
          exact div_le_one_of_le₀ (hmax r hir.le hr) (abs_nonneg _)⟩)
    k 0 _ _ (by omega) ⟨1, pluEnt_init A eps n hh hw, fun r c _ hc => by omega⟩ hs
  rwa [Nat.zero_add] at this

theorem plu_iter_inv (heps : 0 < eps) (hh : A.h = n) (hw : A.w = n)
    {k : Nat} (hk : k ≤ n) {s : Mat K × Mat K}
    (hs : iter (pluStep eps n) k 0 (A, Mat.ident n) = some s) :
    ∃ σ, PluInv n A eps k s.1 s.2 σ := by
  obtain ⟨σ, h, hm⟩ := plu_iter_ent_mult hh hw hk hs
  exact ⟨σ, h.toInv heps hm⟩

theorem plu_ok (heps : 0 < eps) {L U P : Mat K} (h : plu eps A = .ok (L, U, P)) :
    A.h = A.w ∧ ∃ lu σ, PluInv A.h A eps A.h lu P σ ∧ L = splitL A.h lu ∧ U = splitU A.h lu := by
  obtain ⟨hsq, st, hit, hL, hU, rfl⟩ := plu_eq_ok_iff.1 h
  obtain ⟨σ, hσ⟩ := plu_iter_inv heps rfl hsq.symm le_rfl hit
  exact ⟨hsq, st.1, σ, hσ, hL.symm, hU.symm⟩

omit [IsStrictOrderedRing K] in
theorem split_prod {lu p : Mat K} {σ : Equiv.Perm ℕ}
    (h : PluInv n A eps n lu p σ) {r c : Nat} (hr : r < n) (hc : c < n) :
    ∑ k ∈ range n, (splitL n lu).get r k * (splitU n lu).get k c = A.get (σ r) c := by
  rw [← doolittle_sum (n := n) (i := n) hr lu.get lu.get (h.up r c hr hc) (h.lo r c hr)]
  apply Finset.sum_congr rfl
  intro k hk
  have hk' := mem_range.1 hk
  rw [splitL_get n lu hr hk', splitU_get n lu hk' hc, stageL, stageW, min_eq_left (le_of_lt hr),
    min_eq_left (le_of_lt hk')]

omit [IsStrictOrderedRing K] in
theorem PluInv.det {lu p : Mat K} {σ : Equiv.Perm ℕ}
    (h : PluInv n A eps n lu p σ) :
    ((Equiv.Perm.sign (permFin σ n h.fix) : ℤ) : K) * (A.toMatrix n n).det
      = ∏ k : Fin n, lu.get k k := by
  rw [← Matrix.det_permute]
  exact (det_doolittle n lu.get lu.get (fun r c => A.get (σ r) c) h.up h.lo).trans
    (det_stageW_full lu.get)

theorem plu_zero_column_det {i : Nat} {lu p : Mat K}
    {σ : Equiv.Perm ℕ} (hi : i < n) (h : PluInv n A eps i lu p σ)
    (hz : ∀ k, i ≤ k → k < n → lu.get k i = 0) : (A.toMatrix n n).det = 0 := by
  have e : _ = (0:K) := (Matrix.det_permute (permFin σ n h.fix) (A.toMatrix n n)).symm.trans
    (det_doolittle_zero_column hi lu.get lu.get (fun r c => A.get (σ r) c) h.up h.lo hz)
  have hsign : ((Equiv.Perm.sign (permFin σ n h.fix) : ℤ) : K) ≠ 0 :=
    Int.cast_ne_zero.2 (Units.ne_zero _)
  exact (mul_eq_zero.1 e).resolve_left hsign

theorem plu_iter_regular (hh : A.h = n) (hw : A.w = n)
    (hdet : (A.toMatrix n n).det ≠ 0) :
    ∀ k, k ≤ n → ∃ e : K, 0 < e ∧ ∃ s, ∀ eps, 0 < eps → eps ≤ e →
      iter (pluStep eps n) k 0 (A, Mat.ident n) = some s := by
  apply iter_eventually (fun eps => pluStep eps n) n _ (fun hle => pluStep_mono hle)
  intro k e s hk he hs
  obtain ⟨σ, h, hm⟩ := plu_iter_ent_mult (eps := e) hh hw (le_of_lt hk) hs
  obtain ⟨σ', h'⟩ := pluSwap_ent hk h
  obtain ⟨hm', hmax⟩ := pluSwap_bound hk h.hh h.hw h.ph h.pw hm
  have hpv : (pluSwap n s k).1.get k k ≠ 0 := by
    intro h0
    apply hdet
    apply plu_zero_column_det hk (h'.toInv he hm')
    intro r hkr hr
    have := hmax r hkr hr
    rw [h0, abs_zero] at this
    exact abs_nonpos_iff.1 this
  exact ⟨_, abs_pos.2 hpv, _, pluStep_eq_some_iff.2 ⟨le_rfl, rfl⟩⟩

end SV.C09
