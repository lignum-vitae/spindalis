import SV.Model.C14
import SV.Lemmas.Mat
import SV.Lemmas.C18
import Mathlib.Data.Matrix.Mul
import Mathlib.LinearAlgebra.Matrix.Trace
import Mathlib.Tactic.Ring
import Mathlib.Tactic.LinearCombination
import Mathlib.Algebra.Order.Field.Basic
import Mathlib.Algebra.Order.BigOperators.Ring.Finset
/-!
Helper lemmas for C14 (Hessenberg reduction).  The reflector appears twice: as the scalars the
code computes (`sign`, `u1`, `tau`, sums over the sub-column) and as the `n × n` Mathlib matrix
`reflM`, to which `SV.Props.C14` ties the tabulated phases entry by entry.
-/
namespace SV.C14
open SV Finset Matrix
open SV.Props.C18 (SqrtSpec)

variable {K : Type} [Field K]

section
variable [LinearOrder K]

theorem signOf_of_nonneg {x : K} (h : 0 ≤ x) : signOf x = -1 := if_pos h

theorem signOf_of_neg {x : K} (h : x < 0) : signOf x = 1 := if_neg (not_le.mpr h)

theorem signOf_mul_self (x : K) : signOf x * signOf x = 1 := by
  rcases le_or_gt 0 x with h | h
  · rw [signOf_of_nonneg h, neg_mul_neg, one_mul]
  · rw [signOf_of_neg h, one_mul]

/-- no cancellation in `u1 = x0 - sign·‖x‖` (its modulus is `|x0| + ‖x‖`) -/
theorem u1_abs [IsStrictOrderedRing K] (x0 nrm : K) (hpos : 0 < nrm) :
    x0 - signOf x0 * nrm ≠ 0 ∧ nrm ≤ |x0 - signOf x0 * nrm| := by
  rcases le_or_gt 0 x0 with h | h
  · rw [signOf_of_nonneg h, neg_one_mul, sub_neg_eq_add]
    have hN : nrm ≤ x0 + nrm := le_add_of_nonneg_left h
    exact ⟨(hpos.trans_le hN).ne', hN.trans (le_abs_self _)⟩
  · rw [signOf_of_neg h, one_mul]
    have hN : nrm ≤ -(x0 - nrm) := by
      rw [neg_sub]
      exact (le_sub_self_iff nrm).mpr h.le
    exact ⟨neg_ne_zero.mp (hpos.trans_le hN).ne', hN.trans (neg_le_abs _)⟩

end

/-- The algebra of the reflector.  `x0` is the leading entry of the sub-column, `r = Σ_{t≥1} x_t²`,
`s = ±1` the sign, `u = x0 - s‖x‖` and `tau = -s·u/‖x‖`.  Everything follows from
`r = (-s‖x‖ - x0)·u`: then `vᵀx = x0 + r/u = -s‖x‖` and `vᵀv = 1 + r/u² = -2s‖x‖/u`. -/
theorem tau_vtv_vtx {s x0 r nrm u : K} (hss : s * s = 1) (hn : nrm * nrm = x0 * x0 + r)
    (hu : u = x0 - s * nrm) (hu0 : u ≠ 0) (hn0 : nrm ≠ 0) :
    (-s) * u / nrm * (1 + r / (u * u)) = 2 ∧ (-s) * u / nrm * (x0 + r / u) = u := by
  have hr : r = (-(s * nrm) - x0) * u := by
    rw [hu]
    linear_combination (-1) * hn - nrm * nrm * hss
  have hx : x0 + r / u = -(s * nrm) := by
    rw [hr, mul_div_assoc, div_self hu0, mul_one, add_sub_cancel]
  have hv : 1 + r / (u * u) = -(s * nrm) * (2 / u) := by
    rw [hr, mul_div_mul_right _ _ hu0, ← mul_div_assoc, eq_div_iff hu0, add_mul, one_mul,
      div_mul_cancel₀ _ hu0, hu]
    ring
  have ht : (-s) * u / nrm * -(s * nrm) = u := by
    rw [div_mul_eq_mul_div, div_eq_iff hn0, neg_mul, neg_mul_neg, mul_mul_mul_comm, hss, one_mul]
  rw [hx, hv, ← mul_assoc, ht, mul_div_assoc', mul_div_cancel_left₀ _ hu0]
  exact ⟨rfl, rfl⟩

/-! ### the sub-column `x_t = h[k+1+t][k]`, `t < n-(k+1)`, and the vector `v` -/

section
variable [Inhabited K]

theorem colNormSq_eq (n k : Nat) (H : Mat K) :
    colNormSq n k H = ∑ t ∈ range (n - (k + 1)), H.get (k + 1 + t) k * H.get (k + 1 + t) k := by
  rw [colNormSq, sumFrom_eq, zero_add]

theorem colNormSq_nonneg [LinearOrder K] [IsStrictOrderedRing K] (n k : Nat) (H : Mat K) : 0 ≤ colNormSq n k H := by
  rw [colNormSq_eq]
  exact Finset.sum_nonneg fun t _ => mul_self_nonneg _

theorem vvec_zero (k : Nat) (H : Mat K) (u1 : K) : vvec k H u1 0 = 1 := if_pos rfl

theorem vvec_of_ne_zero (k : Nat) (H : Mat K) (u1 : K) {t : Nat} (ht : t ≠ 0) :
    vvec k H u1 t = H.get (k + 1 + t) k / u1 := if_neg ht

theorem vtv_eq (k m' : Nat) (H : Mat K) (u1 : K) :
    ∑ t ∈ range (m' + 1), vvec k H u1 t * vvec k H u1 t
      = 1 + (∑ t ∈ range m', H.get (k + 1 + (t + 1)) k * H.get (k + 1 + (t + 1)) k) / (u1 * u1) := by
  rw [Finset.sum_range_succ', vvec_zero, mul_one, add_comm, div_eq_mul_inv, Finset.sum_mul]
  refine congrArg (1 + ·) (Finset.sum_congr rfl fun t _ => ?_)
  rw [vvec_of_ne_zero k H u1 t.succ_ne_zero, div_mul_div_comm, div_eq_mul_inv]

theorem vtx_eq (k m' : Nat) (H : Mat K) (u1 : K) :
    ∑ t ∈ range (m' + 1), vvec k H u1 t * H.get (k + 1 + t) k
      = H.get (k + 1) k
        + (∑ t ∈ range m', H.get (k + 1 + (t + 1)) k * H.get (k + 1 + (t + 1)) k) / u1 := by
  rw [Finset.sum_range_succ', vvec_zero, one_mul, add_comm, div_eq_mul_inv, Finset.sum_mul]
  refine congrArg (H.get (k + 1) k + ·) (Finset.sum_congr rfl fun t _ => ?_)
  rw [vvec_of_ne_zero k H u1 t.succ_ne_zero, div_mul_eq_mul_div, div_eq_mul_inv]

end

section
variable [LinearOrder K] [IsStrictOrderedRing K] [Inhabited K]

theorem reflOf_facts (sqrt : K → K) (hs : SqrtSpec sqrt) (n k : Nat) (hk : k + 1 < n) (H : Mat K)
    (hne : (reflOf sqrt n k H).norm ≠ 0) :
    (reflOf sqrt n k H).u1 ≠ 0 ∧
    (reflOf sqrt n k H).norm ≤ |(reflOf sqrt n k H).u1| ∧
    (reflOf sqrt n k H).tau * (∑ t ∈ range (n - (k + 1)),
        vvec k H (reflOf sqrt n k H).u1 t * vvec k H (reflOf sqrt n k H).u1 t) = 2 ∧
    (reflOf sqrt n k H).tau * (∑ t ∈ range (n - (k + 1)),
        vvec k H (reflOf sqrt n k H).u1 t * H.get (k + 1 + t) k) = (reflOf sqrt n k H).u1 := by
  obtain ⟨m', hm'⟩ : ∃ m', n - (k + 1) = m' + 1 := ⟨n - (k + 1) - 1, by omega⟩
  have hsq := hs _ (colNormSq_nonneg n k H)
  have hnn : sqrt (colNormSq n k H) * sqrt (colNormSq n k H)
      = H.get (k + 1) k * H.get (k + 1) k
        + ∑ t ∈ range m', H.get (k + 1 + (t + 1)) k * H.get (k + 1 + (t + 1)) k := by
    rw [hsq.1, colNormSq_eq, hm', Finset.sum_range_succ', add_comm]
  have hu := u1_abs (H.get (k + 1) k) _ (lt_of_le_of_ne hsq.2 (Ne.symm hne))
  rw [hm', vtv_eq, vtx_eq]
  exact ⟨hu.1, hu.2, tau_vtv_vtx (signOf_mul_self _) hnn rfl hu.1 hne⟩

theorem subcol_zero_of_norm_zero (sqrt : K → K) (hs : SqrtSpec sqrt) (n k : Nat) (H : Mat K)
    (h0 : (reflOf sqrt n k H).norm = 0) : ∀ i, k + 1 ≤ i → i < n → H.get i k = 0 := by
  have hz : colNormSq n k H = 0 := by
    rw [← (hs _ (colNormSq_nonneg n k H)).1]
    exact mul_eq_zero_of_left h0 _
  rw [colNormSq_eq, Finset.sum_eq_zero_iff_of_nonneg (fun t _ => mul_self_nonneg _)] at hz
  intro i hi hin
  have := hz (i - (k + 1)) (Finset.mem_range.mpr (by omega))
  rw [Nat.add_sub_cancel' hi] at this
  exact mul_self_eq_zero.mp this

end

theorem leftPhase_get [Inhabited K] (n k : Nat) (tau : K) (v : Nat → K) (H : Mat K) {i j : Nat} (hi : i < n)
    (hj : j < n) :
    (leftPhase n k tau v H).get i j =
      if k + 1 ≤ i ∧ k ≤ j then
        H.get i j - tau * v (i - (k + 1)) * ∑ t ∈ range (n - (k + 1)), v t * H.get (k + 1 + t) j
      else H.get i j := by
  rw [leftPhase, Mat.get_tab _ hi hj, sumFrom_zero]

theorem rightPhase_get [Inhabited K] (n k : Nat) (tau : K) (v : Nat → K) (H : Mat K) {i j : Nat} (hi : i < n)
    (hj : j < n) :
    (rightPhase n k tau v H).get i j =
      if k + 1 ≤ j then
        H.get i j - tau * v (j - (k + 1)) * ∑ t ∈ range (n - (k + 1)), v t * H.get i (k + 1 + t)
      else H.get i j := by
  rw [rightPhase, Mat.get_tab _ hi hj, sumFrom_zero]

/-! ### the reflector as an `n × n` matrix: `U = 1 − tau · w wᵀ`, `w = (0,…,0,v)` -/

/-- `v` shifted down by `k+1` and extended by zeros -/
def wvN (k : Nat) (v : Nat → K) (l : Nat) : K := if l < k + 1 then 0 else v (l - (k + 1))

def wv (n k : Nat) (v : Nat → K) : Fin n → K := fun i => wvN k v i.val

/-- `diag(1_{k+1}, 1 − tau·v vᵀ)`, written without block casts -/
def reflM (n k : Nat) (tau : K) (v : Nat → K) : Matrix (Fin n) (Fin n) K :=
  1 - tau • vecMulVec (wv n k v) (wv n k v)

theorem wvN_of_lt (v : Nat → K) {k l : Nat} (h : l < k + 1) : wvN k v l = 0 := if_pos h

theorem wvN_of_le (v : Nat → K) {k l : Nat} (h : k + 1 ≤ l) : wvN k v l = v (l - (k + 1)) :=
  if_neg (not_lt.mpr h)

theorem wvN_add (k : Nat) (v : Nat → K) (t : Nat) : wvN k v (k + 1 + t) = v t := by
  rw [wvN_of_le v (Nat.le_add_right _ _), Nat.add_sub_cancel_left]

theorem sum_wv (n k : Nat) (hk : k + 1 ≤ n) (v g : Nat → K) :
    ∑ i : Fin n, wv n k v i * g i.val = ∑ t ∈ range (n - (k + 1)), v t * g (k + 1 + t) := by
  obtain ⟨m, rfl⟩ := Nat.exists_eq_add_of_le hk
  rw [Nat.add_sub_cancel_left]
  unfold wv
  rw [← Finset.sum_range fun l => wvN k v l * g l, Finset.sum_range_add, Finset.sum_eq_zero,
    zero_add]
  · exact Finset.sum_congr rfl fun t _ => by rw [wvN_add]
  · intro l hl
    rw [wvN_of_lt v (Finset.mem_range.mp hl), zero_mul]

theorem wv_dot (n k : Nat) (hk : k + 1 ≤ n) (v : Nat → K) :
    wv n k v ⬝ᵥ wv n k v = ∑ t ∈ range (n - (k + 1)), v t * v t :=
  (sum_wv n k hk v (wvN k v)).trans (Finset.sum_congr rfl fun t _ => by rw [wvN_add])

theorem orth_sim_reflect {n : Nat} {U Q H : Matrix (Fin n) (Fin n) K} (hT : Uᵀ = U)
    (hUU : U * U = 1) (ho : Qᵀ * Q = 1) :
    (Q * U)ᵀ * (Q * U) = 1 ∧ Q * U * (U * H * U) * (Q * U)ᵀ = Q * H * Qᵀ := by
  have hUUx : ∀ X : Matrix (Fin n) (Fin n) K, U * (U * X) = X :=
    fun X => by rw [← Matrix.mul_assoc, hUU, Matrix.one_mul]
  rw [transpose_mul, hT]
  constructor
  · rw [Matrix.mul_assoc, ← Matrix.mul_assoc Qᵀ, ho, Matrix.one_mul, hUU]
  · simp only [Matrix.mul_assoc]
    rw [hUUx, hUUx]

theorem trace_of_orth_sim {n : Nat} {Q H A : Matrix (Fin n) (Fin n) K} (ho : Qᵀ * Q = 1)
    (hs : Q * H * Qᵀ = A) : H.trace = A.trace := by
  rw [← hs, Matrix.trace_mul_comm, ← Matrix.mul_assoc, ho, Matrix.one_mul]

/-- `AᵀA = Q (HᵀH) Qᵀ`, so the Frobenius norm is preserved too -/
theorem frobenius_of_orth_sim {n : Nat} {Q H A : Matrix (Fin n) (Fin n) K} (ho : Qᵀ * Q = 1)
    (hs : Q * H * Qᵀ = A) : (Hᵀ * H).trace = (Aᵀ * A).trace := by
  refine trace_of_orth_sim ho ?_
  rw [← hs, transpose_mul, transpose_mul, transpose_transpose]
  simp only [Matrix.mul_assoc]
  rw [← Matrix.mul_assoc Qᵀ Q, ho, Matrix.one_mul]

theorem sum_sq_eq_trace [Inhabited K] (n : Nat) (M : Mat K) :
    ∑ i ∈ range n, ∑ j ∈ range n, M.get i j * M.get i j
      = ((M.toMatrix n n)ᵀ * M.toMatrix n n).trace := by
  rw [Finset.sum_comm, Finset.sum_range]
  exact Finset.sum_congr rfl fun j _ => Finset.sum_range fun i => M.get i j * M.get i j

theorem foldl_range_succ {α : Type} (f : α → Nat → α) (s : α) (m : Nat) :
    (List.range (m + 1)).foldl f s = f ((List.range m).foldl f s) m := by
  rw [List.range_succ, List.foldl_append, List.foldl_cons, List.foldl_nil]

/-- for square input both branches of `hessenberg` are the loop: for `A.h ≤ 2` it is empty -/
theorem hessenberg_eq_fold [LinearOrder K] [Inhabited K] (sqrt : K → K) (A : Mat K) (hsq : A.h = A.w) :
    hessenberg sqrt A
      = .ok ((List.range (A.h - 2)).foldl (fun s k => step sqrt A.h k s) (A, Mat.ident A.h)) := by
  rw [hessenberg, if_neg (not_not.mpr hsq)]
  split
  · next h2 =>
    rw [Nat.sub_eq_zero_of_le h2]
    rfl
  · rfl

end SV.C14
