import SV.Lemmas.C17InterDisplay
import Mathlib.Data.List.Forall2
/-!
Lemmas for the print / parse round trips of C17, part 6: printed multivariate terms against the
rational terms they describe (`InterTermOK`, `TermTermOK` ⇒ `TermReads`).
-/
namespace SV.C17
open SV SV.Text SV.C01 SV.C02

/-- a multivariate term with rational coefficient and exponents; variables are single letters -/
structure QTerm where
  coef : ℚ
  vars : List (Char × ℚ)

/-- **Formatter hypothesis for the coefficient of a polynomial term** (`printed` says whether the
printer writes it): sign class as the code tests it (`< 0`), unit flag only if `|c| = 1`, and a printed
text is a spelling of the magnitude, exact resp. within half a unit -/
structure ICoefOK (digits : Option Nat) (it : Item) (printed : Prop) (c : ℚ) : Prop where
  sign : it.sign = .neg ↔ c < 0
  one : it.isOne = true → |c| = 1
  spelled : printed → IsSpelling it.text
  value : printed → Close digits (textValue it.text) |c|

instance (digits : Option Nat) (it : Item) (printed : Prop) [Decidable printed] (c : ℚ) :
    Decidable (ICoefOK digits it printed c) :=
  decidable_of_iff ((it.sign = .neg ↔ c < 0) ∧ (it.isOne = true → |c| = 1) ∧
      (printed → IsSpelling it.text) ∧ (printed → Close digits (textValue it.text) |c|))
    ⟨fun ⟨h1, h2, h3, h4⟩ => ⟨h1, h2, h3, h4⟩, fun ⟨h1, h2, h3, h4⟩ => ⟨h1, h2, h3, h4⟩⟩

/-- **Formatter hypothesis for an exponent**: elided only if it is 1; a printed one is a signed spelling
of it, exact resp. within half a unit -/
structure ExpOK (digits : Option Nat) (e : Item) (q : ℚ) : Prop where
  one : e.isOne = true → q = 1
  spelled : e.isOne = false → SignedText e.text
  value : e.isOne = false → Close digits (signedValue e.text) q

instance (digits : Option Nat) (e : Item) (q : ℚ) : Decidable (ExpOK digits e q) :=
  decidable_of_iff ((e.isOne = true → q = 1) ∧ (e.isOne = false → SignedText e.text) ∧
      (e.isOne = false → Close digits (signedValue e.text) q))
    ⟨fun ⟨h1, h2, h3⟩ => ⟨h1, h2, h3⟩, fun ⟨h1, h2, h3⟩ => ⟨h1, h2, h3⟩⟩

def VarRel (digits : Option Nat) (p : String × Item) (v : Char × ℚ) : Prop :=
  isAsciiLetter v.1 = true ∧ p.1 = String.singleton v.1 ∧ ExpOK digits p.2 v.2

instance (digits : Option Nat) (p : String × Item) (v : Char × ℚ) : Decidable (VarRel digits p v) :=
  inferInstanceAs (Decidable (_ ∧ _ ∧ _))

/-- the items of a term of a polynomial describe the rational term `q`; its letters are in strictly
ascending order (the order the parser produces) -/
structure InterTermOK (digits : Option Nat) (t : ITermItems) (q : QTerm) : Prop where
  coef : ICoefOK digits t.coef ((!t.coef.isOne) = true ∨ t.vars = []) q.coef
  vars : List.Forall₂ (VarRel digits) t.vars q.vars
  sorted : (q.vars.map fun v => String.singleton v.1).Pairwise (· < ·)

/-- a parsed term is the rational term `q`: coefficient and exponents equal resp. within half a unit,
the same letters in the same order -/
def TermReads (digits : Option Nat) (pt : ITerm) (q : QTerm) : Prop :=
  Close digits pt.coef.val q.coef ∧
    List.Forall₂ (fun (pv : String × Num) (v : Char × ℚ) =>
      pv.1 = String.singleton v.1 ∧ Close digits pv.2.val v.2) pt.vars q.vars

theorem VarRel.ok {digits : Option Nat} {p : String × Item} {v : Char × ℚ} (h : VarRel digits p v) :
    VarItemOK p := ⟨⟨v.1, h.1, h.2.1⟩, h.2.2.spelled⟩

theorem VarRel.name {digits : Option Nat} {p : String × Item} {v : Char × ℚ} (h : VarRel digits p v)
    (prec : Bool) : (varSynOf prec p).name = v.1 := by
  simp [varSynOf, h.2.1]

theorem VarRel.close {digits : Option Nat} {p : String × Item} {v : Char × ℚ} (h : VarRel digits p v)
    (prec : Bool) : Close digits (varSynOf prec p).num.val v.2 := by
  rw [varSynOf_num_val prec h.ok]
  cases hone : p.2.isOne with
  | true => rw [h.2.2.one hone]; exact Close.rfl' _ _
  | false => exact h.2.2.value hone

theorem forall₂_ok {digits : Option Nat} {vars : List (String × Item)} {qv : List (Char × ℚ)}
    (h : List.Forall₂ (VarRel digits) vars qv) : ∀ p ∈ vars, VarItemOK p := by
  induction h with
  | nil => intro p hp; simp at hp
  | cons hab _ ih =>
    intro p hp
    rcases List.mem_cons.1 hp with rfl | hp
    · exact hab.ok
    · exact ih p hp

theorem readVars_reads {digits : Option Nat} (prec : Bool) {vars : List (String × Item)}
    {qv : List (Char × ℚ)} (h : List.Forall₂ (VarRel digits) vars qv)
    (hs : (qv.map fun v => String.singleton v.1).Pairwise (· < ·)) :
    List.Forall₂ (fun (pv : String × Num) (v : Char × ℚ) =>
      pv.1 = String.singleton v.1 ∧ Close digits pv.2.val v.2)
      (readVars (vars.map (varSynOf prec))) qv := by
  have hnames : ((vars.map (varSynOf prec)).map fun x => String.singleton x.name) =
      qv.map fun v => String.singleton v.1 := by
    have : List.Forall₂ (· = ·) ((vars.map (varSynOf prec)).map fun x => String.singleton x.name)
        (qv.map fun v => String.singleton v.1) := by
      rw [List.forall₂_map_left_iff, List.forall₂_map_left_iff, List.forall₂_map_right_iff]
      exact h.imp fun p v hpv => by rw [hpv.name prec]
    rwa [List.forall₂_eq_eq_eq] at this
  rw [readVars_sorted _ (by rw [hnames]; exact hs), List.forall₂_map_left_iff,
    List.forall₂_map_left_iff]
  exact h.imp fun p v hpv => ⟨by rw [hpv.name prec], hpv.close prec⟩

theorem ICoefOK.close {digits : Option Nat} {it : Item} {printed : Prop} [Decidable printed] {c : ℚ}
    (h : ICoefOK digits it printed c) (hel : ¬ printed → it.isOne = true) :
    Close digits ((if it.sign = .neg then -1 else 1) * (if printed then textValue it.text else 1)) c := by
  have hm : Close digits (if printed then textValue it.text else 1) |c| := by
    split
    · rename_i hp; exact h.value hp
    · rename_i hp; rw [h.one (hel hp)]; exact Close.rfl' _ _
  by_cases hc : c < 0
  · rw [if_pos (h.sign.2 hc), neg_one_mul]
    exact hm.neg_abs hc
  · rw [if_neg fun hs => hc (h.sign.1 hs), one_mul]
    exact hm.of_abs (not_lt.1 hc)

theorem InterTermOK.itemOK {digits : Option Nat} {t : ITermItems} {q : QTerm}
    (h : InterTermOK digits t q) : InterItemOK t :=
  ⟨h.coef.spelled, forall₂_ok h.vars⟩

/-- **a printed term of a polynomial is read back as the term it describes** -/
theorem InterTermOK.reads {digits : Option Nat} {t : ITermItems} {q : QTerm}
    (h : InterTermOK digits t q) (prec : Bool) : TermReads digits (interSyn prec t).read q := by
  refine ⟨?_, readVars_reads prec h.vars h.sorted⟩
  show Close digits (interSyn prec t).num.val q.coef
  rw [interSyn_num_val prec h.itemOK]
  apply h.coef.close
  intro hp
  simp only [not_or] at hp
  simpa using hp.1

/-- the items of a `Term` describe the rational term `q`: the coefficient text is signed, the unit flag
means `c = 1` exactly -/
structure TermTermOK (digits : Option Nat) (t : ITermItems) (q : QTerm) : Prop where
  one : t.coef.isOne = true → q.coef = 1
  spelled : ((!t.coef.isOne) = true ∨ t.vars = []) → SignedText t.coef.text
  value : ((!t.coef.isOne) = true ∨ t.vars = []) → Close digits (signedValue t.coef.text) q.coef
  vars : List.Forall₂ (VarRel digits) t.vars q.vars
  sorted : (q.vars.map fun v => String.singleton v.1).Pairwise (· < ·)

theorem TermTermOK.itemOK {digits : Option Nat} {t : ITermItems} {q : QTerm}
    (h : TermTermOK digits t q) : TermItemOK t :=
  ⟨h.spelled, forall₂_ok h.vars⟩

/-- **a printed `Term` is read back as the term it describes** -/
theorem TermTermOK.reads {digits : Option Nat} {t : ITermItems} {q : QTerm}
    (h : TermTermOK digits t q) : TermReads digits (termSyn t).read q := by
  refine ⟨?_, ?_⟩
  · show Close digits (termSyn t).num.val q.coef
    rw [termSyn_num_val]
    split
    · rename_i hp; exact h.value hp
    · rename_i hp
      simp only [not_or] at hp
      rw [h.one (by simpa using hp.1)]
      exact Close.rfl' _ _
  · exact readVars_reads false h.vars h.sorted

end SV.C17
