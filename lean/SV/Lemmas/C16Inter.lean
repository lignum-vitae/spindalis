import SV.Lemmas.C02Render
/-!
Converse of `SV.C02.parse_render'`: **whatever the multivariate parser model accepts is a rendering**
(`parse_inv`).  Each accepted `+`-free part of the normalised text is, character for character, the
piece of a written term in which a letter may occur more than once, and the returned term is
`TermSyn.read` of it (`parsePart_inv`); the sign-protection rewrite is injective, so the normalised
text determines the text (`protectDash_inj`).  The one fact about the normalised text that the readers
of a part need is `noSlashDash_protectDash`: no `-` stands directly after a `/`; every part, and every
coefficient and exponent text in it, is an infix of the normalised text and inherits that.

Consequences kept here: a non-empty rendering ends in an ASCII digit, `.` or an ASCII letter, never
in an operator (`endsOK_render`); and the size bounds behind totality — one term per part, no more parts
than the split at `+` gives pieces (`Text.splitOn_length` counts them), normalisation at most doubles the
length.

No fact about the Unicode classes is needed in this direction: whatever `is_numeric` says, a coefficient
that is accepted consists of ASCII digits, `.`, `/` and a leading `-`.
-/
namespace SV.C16Inter
open SV SV.Text SV.C02

theorem contains_slash_iff (s : List Char) : s.contains '/' = true ↔ '/' ∈ s := by
  simp

theorem expValue_inv {pow : List Char} {p : Num} (h : expValue pow = .ok p)
    (hsd : NoSlashDash pow) : ∃ e : Expo, e.WF ∧ pow = e.render ∧ p = e.num := by
  unfold expValue at h
  by_cases hc : pow.contains '/' = true
  · rw [if_pos hc] at h
    cases hf : parseFraction pow with
    | none => rw [hf] at h; cases h
    | some v =>
      rw [hf] at h
      cases h
      obtain ⟨neg, a, b, ha, hb, hb0, hs, hv⟩ := parseFraction_inv hf hsd
      exact ⟨.frac neg a b, ⟨ha, hb, hb0⟩, hs, hv⟩
  · rw [if_neg hc] at h
    cases hf : parseSignedDec pow with
    | none => rw [hf] at h; cases h
    | some d =>
      rw [hf] at h
      cases h
      obtain ⟨neg, u, hu, hs, hd⟩ := parseSignedDec_inv hf
      exact ⟨.dec neg u, hu, hs, by rw [hd]; rfl⟩

theorem coeffValue_inv {coeff : List Char} {c : Num} (h : coeffValue coeff = .ok c)
    (hsd : NoSlashDash coeff) :
    ∃ (neg : Bool) (k : Coef), k.WF ∧ coeff = signChars neg ++ k.render ∧ c = k.num neg := by
  by_cases h0 : coeff = []
  · subst h0
    cases h
    exact ⟨false, .none, trivial, rfl, rfl⟩
  by_cases h1 : coeff = ['-']
  · subst h1
    cases h
    exact ⟨true, .none, trivial, rfl, rfl⟩
  obtain ⟨e, he, rfl, rfl⟩ := expValue_inv ((coeffValue_eq_ok_iff h0 h1 c).1 h) hsd
  cases e with
  | dec neg u => exact ⟨neg, .dec u, he, rfl, rfl⟩
  | frac neg a b => exact ⟨neg, .frac a b, he, List.append_assoc _ _ _, rfl⟩

/-- the rewrite leaves a `-` in first position only directly after `^` -/
theorem protectDash_head_dash {p : Option Char} {l r : List Char} (h : protectDash p l = '-' :: r) :
    p = some '^' := by
  cases l with
  | nil => cases h
  | cons c cs =>
    by_contra hp
    by_cases hc : c = '-'
    · rw [hc, protectDash_dash hp] at h; cases h
    · rw [protectDash_ne hc] at h; exact hc (List.cons.inj h).1

/-- the normalised text never has a `-` directly after a `/` -/
theorem noSlashDash_protectDash (w : List Char) (p : Option Char) : NoSlashDash (protectDash p w) := by
  induction w generalizing p with
  | nil => intro a b e; cases a <;> cases e
  | cons c cs ih =>
    intro a b e
    by_cases hc : c = '-' ∧ p ≠ some '^'
    · rw [hc.1, protectDash_dash hc.2] at e
      match a, e with
      | [_], e => cases e
      | _ :: _ :: a, e => exact ih _ a b (List.cons.inj (List.cons.inj e).2).2
    · rw [protectDash, if_neg hc] at e
      match a, e with
      | [], e =>
        obtain ⟨rfl, e⟩ := List.cons.inj e
        cases protectDash_head_dash e
      | _ :: a, e => exact ih _ a b (List.cons.inj e).2

theorem mem_splitOn_of_mem_parts {n q : List Char} (h : q ∈ parts n) : q ∈ splitOn '+' n := by
  unfold parts at h
  split at h
  · rename_i rest hs; rw [hs]; exact List.mem_cons_of_mem _ h
  · exact h

theorem scanCoeff_eq (cc : CharClass) : ∀ (first : Bool) (s : List Char),
    s = (scanCoeff cc first s).1 ++ (scanCoeff cc first s).2 := by
  intro first s
  induction s generalizing first with
  | nil => rfl
  | cons c cs ih =>
    unfold scanCoeff
    split
    · simp only [List.cons_append]
      rw [← ih false]
    · rfl

theorem scanExp_eq : ∀ (s : List Char), s = (scanExp s).1 ++ (scanExp s).2 := by
  intro s
  induction s with
  | nil => rfl
  | cons c cs ih =>
    unfold scanExp
    split
    · simp only [List.cons_append]
      rw [← ih]
    · rfl

/-- **The variable loop accepts only `letter[^exponent]` sequences** and returns the exponents merged
into the accumulator in the order written. -/
theorem scanVars_inv : ∀ (fuel : Nat) (s : List Char) (vars out : List (String × Num)),
    scanVars fuel s vars = .ok out → s.length ≤ fuel → NoSlashDash s →
    ∃ fs : List Factor, (∀ f ∈ fs, isAsciiLetter f.letter = true) ∧
      (∀ f ∈ fs, ∀ e, f.exp = some e → e.WF) ∧ s = renderFactors fs ∧
      out = mergeFactors fs vars := by
  intro fuel
  induction fuel with
  | zero =>
    intro s vars out h hl _
    obtain rfl : s = [] := List.eq_nil_of_length_eq_zero (Nat.le_zero.1 hl)
    cases h
    exact ⟨[], (fun _ h => nomatch h), (fun _ h => nomatch h), rfl, rfl⟩
  | succ fuel ih =>
    intro s vars out h hl hd
    cases s with
    | nil =>
      cases h
      exact ⟨[], (fun _ h => nomatch h), (fun _ h => nomatch h), rfl, rfl⟩
    | cons c cs =>
      unfold scanVars at h
      by_cases hc : isAsciiLetter c = true
      · rw [if_pos hc] at h
        have step : ∀ (f : Factor) (rest' : List Char), f.letter = c →
            (∀ e, f.exp = some e → e.WF) → c :: cs = f.render ++ rest' →
            scanVars fuel rest' (addVar vars (String.singleton c) f.num) = .ok out →
            ∃ fs : List Factor, (∀ f ∈ fs, isAsciiLetter f.letter = true) ∧
              (∀ f ∈ fs, ∀ e, f.exp = some e → e.WF) ∧ c :: cs = renderFactors fs ∧
              out = mergeFactors fs vars := by
          rintro f rest' rfl hfe hs h
          have hlen : rest'.length ≤ fuel := by
            have := congrArg List.length hs
            simp only [List.length_cons, List.length_append, Factor.render] at this hl
            omega
          obtain ⟨fs, h1, h2, h3, h4⟩ := ih rest' _ out h hlen
            (NoSlashDash.of_infix ⟨f.render, [], by rw [List.append_nil, hs]⟩ hd)
          exact ⟨f :: fs, List.forall_mem_cons.2 ⟨hc, h1⟩, List.forall_mem_cons.2 ⟨hfe, h2⟩,
            by rw [renderFactors_cons, ← h3, hs], by rw [h4]; rfl⟩
        split at h
        · rename_i rest
          have hsplit := scanExp_eq rest
          cases hs : scanExp rest with
          | mk pow rest' =>
            rw [hs] at h hsplit
            simp only at h hsplit
            cases he : expValue pow with
            | error e => rw [he] at h; cases h
            | ok p =>
              rw [he] at h
              obtain ⟨e, hewf, rfl, rfl⟩ := expValue_inv he
                (NoSlashDash.of_infix ⟨[c, '^'], rest', by simp [hsplit]⟩ hd)
              exact step ⟨c, some e⟩ rest' rfl (fun e' he' => by cases he'; exact hewf)
                (by simp [Factor.render, hsplit]) h
        · exact step ⟨c, none⟩ cs rfl (fun _ he => by cases he) rfl h
      · rw [if_neg hc] at h
        cases h

/-- **One accepted part is the piece of a written term** (letters may repeat), and the returned term
is what the parser builds for it.  Hypotheses: the part is neither empty nor a lone `-` (checked by
`parse` before `parsePart` runs) and has no `-` directly after a `/` (true of every part of a
normalised text: `parseFraction` alone would read a signed denominator). -/
theorem parsePart_inv {cc : CharClass} {part : List Char} {it : ITerm}
    (h : parsePart cc part = .ok it) (hd : NoSlashDash part) (hne : part ≠ [])
    (hnd : part ≠ ['-']) : ∃ t : TermSyn, t.WF' ∧ part = t.piece ∧ it = t.read := by
  unfold parsePart at h
  have hsplit := scanCoeff_eq cc true part
  cases hs : scanCoeff cc true part with
  | mk coeff rest =>
    rw [hs] at h hsplit
    simp only at h hsplit
    cases hc : coeffValue coeff with
    | error e => rw [hc] at h; cases h
    | ok c =>
      rw [hc] at h
      simp only at h
      cases hv : scanVars (rest.length + 1) rest [] with
      | error e => rw [hv] at h; cases h
      | ok vars =>
        rw [hv] at h
        simp only [Except.ok.injEq] at h
        obtain ⟨neg, k, hk, hcoeff, hcv⟩ := coeffValue_inv hc
          (NoSlashDash.of_infix ⟨[], rest, by rw [List.nil_append, hsplit]⟩ hd)
        obtain ⟨fs, h1, h2, h3, h4⟩ := scanVars_inv _ rest [] vars hv (Nat.le_succ _)
          (NoSlashDash.of_infix ⟨coeff, [], by rw [List.append_nil, hsplit]⟩ hd)
        refine ⟨⟨neg, k, fs⟩, ⟨hk, h1, h2, ?_⟩, ?_, ?_⟩
        · by_cases hkn : k = .none
          · right
            intro hfs
            simp only at hfs
            subst hkn hfs
            rw [h3, hcoeff] at hsplit
            cases neg with
            | false => exact hne (by simpa [signChars, Coef.render, renderFactors] using hsplit)
            | true => exact hnd (by simpa [signChars, Coef.render, renderFactors] using hsplit)
          · exact Or.inl hkn
        · rw [piece_eq, hsplit, hcoeff, h3]
        · rw [← h, hcv, h4]
          rfl

theorem parseParts_inv {cc : CharClass} {ps : List (List Char)} {its : List ITerm}
    (h : parseParts cc ps = .ok its)
    (hps : ∀ part ∈ ps, NoSlashDash part ∧ part ≠ [] ∧ part ≠ ['-']) :
    ∃ ts : List TermSyn, (∀ t ∈ ts, t.WF') ∧ ps = ts.map TermSyn.piece ∧ its = ts.map TermSyn.read := by
  rw [parseParts_eq_ok_iff] at h
  induction h with
  | nil => exact ⟨[], (fun _ h => nomatch h), rfl, rfl⟩
  | cons hp _ ih =>
    obtain ⟨hd, hne, hnd⟩ := hps _ List.mem_cons_self
    obtain ⟨t, ht, rfl, rfl⟩ := parsePart_inv hp hd hne hnd
    obtain ⟨ts, hts, rfl, rfl⟩ := ih (fun q hq => hps q (by simp [hq]))
    exact ⟨t :: ts, List.forall_mem_cons.2 ⟨ht, hts⟩, rfl, rfl⟩

/-- `Text.undash` (drop the `+` in front of every `-`) undoes the rewrite: a `-` that was left alone
follows a `^`, never a `+` -/
theorem undash_protectDash (w : List Char) (p : Option Char) : undash (protectDash p w) = w := by
  induction w generalizing p with
  | nil => rfl
  | cons c cs ih =>
    by_cases hc : c = '-' ∧ p ≠ some '^'
    · rw [hc.1, protectDash_dash hc.2]
      simp [undash, ih]
    · rw [protectDash, if_neg hc, undash, if_neg, ih]
      rintro ⟨rfl, h⟩
      obtain ⟨r, hr⟩ := List.head?_eq_some_iff.1 h
      cases protectDash_head_dash hr

/-- **The normalised text determines the text.** -/
theorem protectDash_inj (a b : List Char) (p : Option Char) (h : protectDash p a = protectDash p b) :
    a = b := by
  rw [← undash_protectDash a p, h, undash_protectDash]

theorem render_eq_nil_iff {lead : Bool} {ts : List TermSyn} (hwf : ∀ t ∈ ts, t.WF') :
    render lead ts = [] ↔ ts = [] := by
  constructor
  · intro h
    cases ts with
    | nil => rfl
    | cons t ts =>
      exfalso
      unfold render at h
      have h1 := (List.append_eq_nil_iff.1 (List.append_eq_nil_iff.1 h).1).2
      exact body_ne_nil (hwf t (by simp)) h1
  · rintro rfl; rfl

/-- **Acceptance ⇒ the white-space-free text is a rendering** of well-formed terms (letters may
repeat), and the result is what the parser builds for those written terms.  For every classification
of the characters. -/
theorem parse_inv {cc : CharClass} {s : List Char} {p : IParsed} (h : parse cc s = .ok p) :
    ∃ (lead : Bool) (ts : List TermSyn), (∀ t ∈ ts, t.WF') ∧ stripWs cc s = render lead ts ∧
      p = ⟨ts.map TermSyn.read, variablesOf (ts.map TermSyn.read)⟩ := by
  obtain ⟨terms, vars⟩ := p
  obtain ⟨hany, hparts, hvars⟩ := parse_eq_ok_iff.1 h
  suffices ∃ (lead : Bool) (ts : List TermSyn), (∀ t ∈ ts, t.WF') ∧ stripWs cc s = render lead ts ∧
      terms = ts.map TermSyn.read by
    obtain ⟨lead, ts, hwf, hs, rfl⟩ := this
    exact ⟨lead, ts, hwf, hs, hvars ▸ rfl⟩
  simp only at hparts
  unfold normalize at hparts hany
  generalize stripWs cc s = w at hparts hany ⊢
  obtain ⟨ts, hts, hps, hterms⟩ := parseParts_inv hparts fun r hr =>
    ⟨NoSlashDash.of_infix (infix_of_mem_splitOn (mem_splitOn_of_mem_parts hr))
      (noSlashDash_protectDash w none), hany r hr⟩
  have hn := joinSep_splitOn '+' (protectDash none w)
  cases ts with
  | nil =>
    refine ⟨false, [], hts, protectDash_inj _ [] none ?_, hterms⟩
    unfold parts at hps
    split at hps
    · rename_i rest hq; rw [hq, hps] at hn; exact hn.symm
    · exact absurd hps (splitOn_ne_nil _ _)
  | cons t ts' =>
    -- a leading `+` in the normalised text exactly when the first piece of the split is empty
    unfold parts at hps
    split at hps
    · rename_i rest hq
      refine ⟨true, t :: ts', hts, protectDash_inj _ _ none ?_, hterms⟩
      rw [protectDash_render true t ts' hts, ← hn, hq, hps]
      simp [joinSep, List.flatMap_map]
    · have hneg : t.neg = false := by
        cases hn' : t.neg with
        | false => rfl
        | true =>
          rw [hps] at hn
          have : protectDash none w = '-' :: (t.body ++ (ts'.map TermSyn.piece).flatMap fun r => '+' :: r) := by
            rw [← hn]; simp [joinSep, TermSyn.piece, signChars, hn']
          cases protectDash_head_dash this
      refine ⟨false, t :: ts', hts, protectDash_inj _ _ none ?_, hterms⟩
      rw [protectDash_render false t ts' hts, ← hn, hps]
      simp [joinSep, List.flatMap_map, hneg]

/-- **The parser, completely**: a text is accepted with result `p` exactly when its white-space-free
form is a rendering of well-formed terms (letters may repeat) and `p` is what the parser builds for them.
The grammar, the image of `render` and the acceptance predicate of the C16 theorems are all this one
statement. -/
theorem parse_eq_ok_iff_render {cc : CharClass} (hcc : NumericSane cc) {s : List Char} {p : IParsed} :
    parse cc s = .ok p ↔ ∃ (lead : Bool) (ts : List TermSyn), (∀ t ∈ ts, t.WF') ∧
      stripWs cc s = render lead ts ∧ p = ⟨ts.map TermSyn.read, variablesOf (ts.map TermSyn.read)⟩ :=
  ⟨parse_inv, fun ⟨lead, ts, hwf, hs, hp⟩ => hp ▸ parse_render' hcc lead ts hwf s hs⟩

theorem endsOK_tail {ts : List TermSyn} (hwf : ∀ t ∈ ts, t.WF') (hne : ts ≠ []) :
    EndsOK (ts.flatMap fun u => (if u.neg then '-' else '+') :: u.body) := by
  induction ts with
  | nil => exact absurd rfl hne
  | cons u us ih =>
    rw [List.flatMap_cons]
    cases us with
    | nil =>
      simp only [List.flatMap_nil, List.append_nil]
      have : (if u.neg then '-' else '+') :: u.body = [if u.neg then '-' else '+'] ++ u.body := rfl
      rw [this]
      exact (endsOK_body (hwf u (by simp))).append_left _
    | cons v vs =>
      exact (ih (fun x hx => hwf x (by simp [hx])) (by simp)).append_left _

theorem endsOK_render (lead : Bool) {ts : List TermSyn} (hwf : ∀ t ∈ ts, t.WF') (hne : ts ≠ []) :
    EndsOK (render lead ts) := by
  cases ts with
  | nil => exact absurd rfl hne
  | cons t ts =>
    unfold render
    cases ts with
    | nil =>
      simp only [List.flatMap_nil, List.append_nil]
      exact (endsOK_body (hwf t (by simp))).append_left _
    | cons u us =>
      exact (endsOK_tail (fun x hx => hwf x (by simp [hx])) (by simp)).append_left _

theorem parseParts_length {cc : CharClass} (ps : List (List Char)) (its : List ITerm)
    (h : parseParts cc ps = .ok its) : its.length = ps.length :=
  (parseParts_eq_ok_iff.1 h).length_eq.symm

theorem length_parts_le (n : List Char) : (parts n).length ≤ (splitOn '+' n).length := by
  unfold parts
  split
  · rename_i rest hs
    rw [hs]
    simp
  · exact Nat.le_refl _

theorem length_protectDash_le (w : List Char) : ∀ p, (protectDash p w).length ≤ 2 * w.length := by
  induction w with
  | nil => intro p; simp [protectDash]
  | cons c cs ih =>
    intro p
    unfold protectDash
    split
    · have := ih (some c)
      simp only [List.length_cons]
      omega
    · have := ih (some c)
      simp only [List.length_cons]
      omega

end SV.C16Inter
