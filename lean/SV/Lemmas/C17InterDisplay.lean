import SV.Lemmas.C17Inter
import SV.Lemmas.C17Simple
/-!
Lemmas for the print / parse round trips of C17, part 5: `displayInter`
(`Display for IntermediatePolynomial`) and `displayTerm` (`Display for Term`) print renderings of the
multivariate grammar of `SV.Lemmas.C17Inter`: the printed polynomial without white space is
`renderI (interSyns prec terms)`, the printed term is `renderI [termSyn t]`; the coefficient and the
exponents read back are sign × value of the text, or 1 where elided.
-/
namespace SV.C17
open SV SV.Text SV.C01 SV.C02

def textNeg (t : List Char) : Bool := t.head? == some '-'

def textAbs (t : List Char) : List Char := if textNeg t then t.drop 1 else t

/-- **formatter hypothesis for a signed number** (`{}`/`{:.p}` of an exponent, of a `Term`'s
coefficient): an optional `-`, then a plain decimal spelling with an integer digit -/
def SignedText (t : List Char) : Prop := ∃ n b, IsSpelling b ∧ t = signText n ++ b

theorem spelling_head {b : List Char} (hb : IsSpelling b) : b.head? ≠ some '-' := by
  obtain ⟨u, hu, _, rfl⟩ := hb
  exact UDec.render_head hu

theorem textNeg_append (n : Bool) {b : List Char} (hb : IsSpelling b) :
    textNeg (signText n ++ b) = n := by
  have hh := spelling_head hb
  cases n with
  | true => simp [textNeg, signText]
  | false =>
    simp only [textNeg, signText, Bool.false_eq_true, if_false, List.nil_append]
    cases hb' : b.head? with
    | none => rfl
    | some c =>
      have : c ≠ '-' := fun e => hh (by rw [hb', e])
      simp [this]

theorem textAbs_append (n : Bool) {b : List Char} (hb : IsSpelling b) :
    textAbs (signText n ++ b) = b := by
  unfold textAbs
  rw [textNeg_append n hb]
  cases n <;> simp [signText]

theorem SignedText.spec {t : List Char} (h : SignedText t) :
    IsSpelling (textAbs t) ∧ t = signText (textNeg t) ++ textAbs t := by
  obtain ⟨n, b, hb, rfl⟩ := h
  rw [textNeg_append n hb, textAbs_append n hb]
  exact ⟨hb, rfl⟩

instance (t : List Char) : Decidable (SignedText t) :=
  decidable_of_iff _ ⟨fun h => ⟨_, _, h.1, h.2⟩, SignedText.spec⟩

def signedValue (t : List Char) : ℚ := (if textNeg t then -1 else 1) * textValue (textAbs t)

def varPiece (prec : Bool) (p : String × Item) : List Char :=
  p.1.toList ++ (if p.2.isOne then [] else if prec then trimFraction ('^' :: p.2.text) else '^' :: p.2.text)

theorem vars_foldl (prec : Bool) (vars : List (String × Item)) (acc : List Char) :
    vars.foldl (fun acc (x : String × Item) =>
        match x with
        | (v, e) =>
          let acc := acc ++ v.toList
          if e.isOne then acc
          else if prec then acc ++ trimFraction ('^' :: e.text) else acc ++ ('^' :: e.text)) acc =
      acc ++ vars.flatMap (varPiece prec) := by
  induction vars generalizing acc with
  | nil => exact (List.append_nil acc).symm
  | cons p ps ih =>
    rw [List.foldl_cons, ih, List.flatMap_cons, ← List.append_assoc]
    congr 1
    obtain ⟨v, e⟩ := p
    unfold varPiece
    rw [← List.append_assoc, ← append_ite_nil', ← append_ite]

/-- a variable name as the parser can read it: one ASCII letter -/
def NameOK (v : String) : Prop := ∃ c, isAsciiLetter c = true ∧ v = String.singleton c

/-- hypothesis for one printed variable: the name is an ASCII letter and a printed exponent is a signed
spelling -/
def VarItemOK (p : String × Item) : Prop := NameOK p.1 ∧ (p.2.isOne = false → SignedText p.2.text)

def varSynOf (prec : Bool) (p : String × Item) : VarSyn :=
  ⟨p.1.toList.headD 'x',
    if p.2.isOne then none
    else some (textNeg p.2.text, udecOf (numText prec (textAbs p.2.text)))⟩

theorem varPiece_eq (prec : Bool) {p : String × Item} (h : VarItemOK p) :
    varPiece prec p = (varSynOf prec p).render := by
  rcases p with ⟨v, e⟩
  obtain ⟨⟨c, _, rfl⟩, he⟩ := h
  simp only [varPiece, varSynOf, VarSyn.render, VarSyn.expText, String.toList_singleton,
    List.headD_cons, List.cons_append, List.nil_append, List.cons.injEq, true_and]
  cases hone : e.isOne with
  | true => simp
  | false =>
    obtain ⟨hb, ht⟩ := (he hone).spec
    simp only at hb ht
    have hr : (udecOf (numText prec (textAbs e.text))).render = numText prec (textAbs e.text) :=
      (hb.numText prec).udecOf.2.2
    simp only [Bool.false_eq_true, if_false, hr]
    cases prec with
    | false =>
      simp only [Bool.false_eq_true, if_false, numText]
      rw [← ht]
    | true =>
      simp only [if_true, numText]
      have hpre : '.' ∉ '^' :: signText (textNeg e.text) := by
        intro h
        simp only [List.mem_cons] at h
        rcases h with h | h
        · revert h; decide
        · exact absurd (C02.mem_signChars h) (by decide)
      have := trimFraction_prefix hpre hb
      rw [List.cons_append, ← ht] at this
      exact this

theorem varSynOf_wf (prec : Bool) {p : String × Item} (h : VarItemOK p) : (varSynOf prec p).WF := by
  rcases p with ⟨v, e⟩
  obtain ⟨⟨c, hc, rfl⟩, he⟩ := h
  refine ⟨by simpa [varSynOf] using hc, ?_⟩
  intro n u hu
  simp only [varSynOf] at hu
  cases hone : e.isOne with
  | true => rw [hone] at hu; simp at hu
  | false =>
    rw [hone] at hu
    simp only [Bool.false_eq_true, if_false, Option.some.injEq, Prod.mk.injEq] at hu
    obtain ⟨hb, _⟩ := (he hone).spec
    rw [← hu.2]
    exact (hb.numText prec).udecOf.1

theorem varsPieces_eq (prec : Bool) {vars : List (String × Item)} (h : ∀ p ∈ vars, VarItemOK p) :
    vars.flatMap (varPiece prec) = varsText (vars.map (varSynOf prec)) := by
  unfold varsText
  rw [List.flatMap_map]
  apply List.flatMap_congr
  intro p hp
  exact varPiece_eq prec (h p hp)

def ipiece (prec : Bool) (first : Bool) (t : ITermItems) : List Char :=
  (if !first then (if t.coef.sign = .neg then [' ', '-', ' '] else [' ', '+', ' '])
    else if t.coef.sign = .neg then ['-'] else []) ++
    ((if !t.coef.isOne ∨ t.vars = [] then numText prec t.coef.text else []) ++
      t.vars.flatMap (varPiece prec))

theorem igo_cons (prec : Bool) (t : ITermItems) (rest : List ITermItems) (first : Bool)
    (acc : List Char) :
    displayInter.go prec (t :: rest) first acc =
      displayInter.go prec rest false (acc ++ ipiece prec first t) := by
  rw [displayInter.go, vars_foldl]
  congr 1
  unfold ipiece
  -- every step of the loop appends to the accumulator
  rw [← List.append_assoc, ← List.append_assoc, ← append_ite_nil, ← append_ite, ← append_ite_nil,
    ← append_ite]
  rfl

theorem igo_later (prec : Bool) (l : List ITermItems) (acc : List Char) :
    displayInter.go prec l false acc = acc ++ l.flatMap (ipiece prec false) := by
  induction l generalizing acc with
  | nil => rw [displayInter.go]; exact (List.append_nil acc).symm
  | cons t rest ih => rw [igo_cons, ih, List.flatMap_cons, List.append_assoc]

/-- **the printer in closed form**: a piece per term, the first one without the blanks -/
theorem displayInter_cons (prec : Bool) (t : ITermItems) (rest : List ITermItems) :
    displayInter prec (t :: rest) = ipiece prec true t ++ rest.flatMap (ipiece prec false) := by
  unfold displayInter
  rw [if_neg (List.cons_ne_nil _ _), igo_cons, igo_later]
  rfl

/-- hypothesis for one printed term of a polynomial: a printed coefficient is a spelling (of the
magnitude), every variable is fine -/
def InterItemOK (t : ITermItems) : Prop :=
  ((!t.coef.isOne ∨ t.vars = []) → IsSpelling t.coef.text) ∧ ∀ p ∈ t.vars, VarItemOK p

def interSyn (prec : Bool) (t : ITermItems) : ITermSyn :=
  ⟨decide (t.coef.sign = .neg),
    if !t.coef.isOne ∨ t.vars = [] then some (udecOf (numText prec t.coef.text)) else none,
    t.vars.map (varSynOf prec)⟩

/-- the zero polynomial is printed as the term `0` -/
def zeroI : ITermSyn := ⟨false, some ⟨['0'], [], false⟩, []⟩

def interSyns (prec : Bool) (terms : List ITermItems) : List ITermSyn :=
  if terms = [] then [zeroI] else terms.map (interSyn prec)

theorem interSyn_wf (prec : Bool) {t : ITermItems} (h : InterItemOK t) : (interSyn prec t).WF := by
  refine ⟨?_, ?_, ?_⟩
  · intro u hu
    simp only [interSyn] at hu
    split at hu
    · rename_i hp
      simp only [Option.some.injEq] at hu
      subst hu
      exact ((h.1 hp).numText prec).udecOf.1
    · simp at hu
  · intro x hx
    simp only [interSyn, List.mem_map] at hx
    obtain ⟨p, hp, rfl⟩ := hx
    exact varSynOf_wf prec (h.2 p hp)
  · simp only [interSyn]
    by_cases hp : (!t.coef.isOne) = true ∨ t.vars = []
    · left; rw [if_pos hp]; simp
    · right
      simp only [not_or] at hp
      simpa using hp.2

theorem zeroI_wf : zeroI.WF :=
  ⟨fun u hu => by
      simp only [zeroI, Option.some.injEq] at hu
      subst hu
      exact UDec.wf_of_wfb (by decide),
    fun x hx => by simp [zeroI] at hx, Or.inl (by simp [zeroI])⟩

theorem ipiece_body (prec : Bool) {t : ITermItems} (h : InterItemOK t) :
    ((if !t.coef.isOne ∨ t.vars = [] then numText prec t.coef.text else []) ++
      t.vars.flatMap (varPiece prec)) = (interSyn prec t).renderAbs := by
  unfold ITermSyn.renderAbs
  rw [varsPieces_eq prec h.2]
  congr 1
  simp only [interSyn]
  split
  · rename_i hp
    simp only [renderCoef]
    exact ((h.1 hp).numText prec).udecOf.2.2.symm
  · rfl

theorem stripWs_renderAbsI {cc : CharClass} (hcc : cc.Sane) (hn : NumSane cc) {t : ITermSyn}
    (ht : t.WF) : stripWs cc t.renderAbs = t.renderAbs :=
  stripWs_eq_self fun _ hc => (mem_renderAbsI ht hc).not_ws hcc hn

theorem stripWs_ipiece_later {cc : CharClass} (hcc : cc.Sane) (hn : NumSane cc)
    (hsp : cc.isWs ' ' = true) (prec : Bool) {t : ITermItems} (h : InterItemOK t) :
    stripWs cc (ipiece prec false t) =
      (if (interSyn prec t).neg then '-' else '+') :: (interSyn prec t).renderAbs := by
  unfold ipiece
  rw [ipiece_body prec h, ← stripWs_operator hcc hsp (interSyn prec t).neg
    (stripWs_renderAbsI hcc hn (interSyn_wf prec h))]
  congr 2
  obtain ⟨⟨s, _, _⟩, _⟩ := t
  cases s <;> rfl

theorem ipiece_first (prec : Bool) {t : ITermItems} (h : InterItemOK t) :
    ipiece prec true t = (interSyn prec t).renderPart := by
  unfold ipiece ITermSyn.renderPart
  rw [ipiece_body prec h]
  congr 1
  obtain ⟨⟨s, _, _⟩, _⟩ := t
  cases s <;> rfl

theorem stripWs_displayInter {cc : CharClass} (hcc : cc.Sane) (hn : NumSane cc)
    (hsp : cc.isWs ' ' = true) (prec : Bool) (terms : List ITermItems)
    (h : ∀ t ∈ terms, InterItemOK t) :
    stripWs cc (displayInter prec terms) = renderI (interSyns prec terms) := by
  cases terms with
  | nil => exact stripWs_zero hcc
  | cons t rest =>
    have ht := h t (by simp)
    rw [displayInter_cons, stripWs_append, stripWs_flatMap, ipiece_first prec ht]
    unfold interSyns
    rw [if_neg (List.cons_ne_nil _ _), List.map_cons, renderI, List.flatMap_map]
    congr 1
    · have := stripWs_renderI hcc hn (ts := [interSyn prec t]) fun _ hm =>
        List.mem_singleton.1 hm ▸ interSyn_wf prec ht
      rwa [renderI, List.flatMap_nil, List.append_nil] at this
    · exact List.flatMap_congr fun t' ht' => stripWs_ipiece_later hcc hn hsp prec (h t' (by simp [ht']))

theorem interSyns_wf (prec : Bool) {terms : List ITermItems} (h : ∀ t ∈ terms, InterItemOK t) :
    IWellFormed (interSyns prec terms) := by
  unfold interSyns
  split
  · intro t ht
    simp only [List.mem_cons, List.not_mem_nil, or_false] at ht
    subst ht
    exact zeroI_wf
  · intro t ht
    obtain ⟨t', ht', rfl⟩ := List.mem_map.1 ht
    exact interSyn_wf prec (h t' ht')

/-- hypothesis for a printed `Term`: a printed coefficient is a signed spelling -/
def TermItemOK (t : ITermItems) : Prop :=
  ((!t.coef.isOne ∨ t.vars = []) → SignedText t.coef.text) ∧ ∀ p ∈ t.vars, VarItemOK p

/-- the term as the polynomial printer would get it: the sign of a printed coefficient text as the
sign class, the text without it -/
def absTerm (t : ITermItems) : ITermItems :=
  ⟨⟨if (!t.coef.isOne ∨ t.vars = []) ∧ textNeg t.coef.text = true then .neg else .pos, t.coef.isOne,
    textAbs t.coef.text⟩, t.vars⟩

theorem TermItemOK.abs {t : ITermItems} (h : TermItemOK t) : InterItemOK (absTerm t) :=
  ⟨fun hp => (h.1 hp).spec.1, h.2⟩

/-- **a `Term` is printed as the polynomial of that one term** -/
theorem displayTerm_abs {t : ITermItems} (h : TermItemOK t) :
    displayTerm t = displayInter false [absTerm t] := by
  rw [displayInter_cons, List.flatMap_nil, List.append_nil]
  unfold displayTerm ipiece
  have := vars_foldl false t.vars
  simp only [Bool.false_eq_true, if_false] at this
  simp only [this, ← List.append_assoc]
  congr 1
  by_cases hp : t.coef.isOne = false ∨ t.vars = []
  · have ht := (h.1 (by simpa using hp)).spec.2
    cases hn : textNeg t.coef.text <;> rw [hn] at ht <;>
      simpa [absTerm, hp, hn, numText, signText] using ht
  · simp [absTerm, hp]

def termSyn (t : ITermItems) : ITermSyn := interSyn false (absTerm t)

theorem displayTerm_eq {t : ITermItems} (h : TermItemOK t) : displayTerm t = renderI [termSyn t] := by
  rw [displayTerm_abs h, displayInter_cons, ipiece_first false h.abs]
  rfl

theorem ITermSyn.num_val (t : ITermSyn) :
    t.num.val = (if t.neg then -1 else 1) * coefValue t.coef := by
  unfold ITermSyn.num coefValue
  rcases t with ⟨neg, _ | u, vars⟩
  · cases neg <;> simp
  · simp only [Num.val_dec, Dec.val_mk]

/-- the coefficient read back from a printed term of a polynomial: sign × (value of the text, or 1 if
it was elided) -/
theorem interSyn_num_val (prec : Bool) {t : ITermItems} (h : InterItemOK t) :
    (interSyn prec t).num.val =
      (if t.coef.sign = .neg then -1 else 1) *
        (if !t.coef.isOne ∨ t.vars = [] then textValue t.coef.text else 1) := by
  rw [ITermSyn.num_val]
  simp only [interSyn, decide_eq_true_eq]
  congr 1
  split
  · rename_i hp
    simp only [coefValue]
    exact textValue_numText (h.1 hp) prec
  · rfl

/-- the exponent read back from a printed variable: 1 if elided, else the signed value of its text -/
theorem varSynOf_num_val (prec : Bool) {p : String × Item} (h : VarItemOK p) :
    (varSynOf prec p).num.val = if p.2.isOne then 1 else signedValue p.2.text := by
  rcases p with ⟨v, e⟩
  simp only [varSynOf, VarSyn.num]
  cases hone : e.isOne with
  | true => simp
  | false =>
    obtain ⟨hb, _⟩ := (h.2 hone).spec
    simp only [Bool.false_eq_true, if_false, Num.val_dec, Dec.val_mk, signedValue]
    congr 1
    exact textValue_numText hb prec

theorem termSyn_num_val {t : ITermItems} :
    (termSyn t).num.val =
      if !t.coef.isOne ∨ t.vars = [] then signedValue t.coef.text else 1 := by
  rw [ITermSyn.num_val]
  by_cases hp : t.coef.isOne = false ∨ t.vars = []
  · cases hn : textNeg t.coef.text <;>
      simp [termSyn, interSyn, absTerm, hp, hn, coefValue, signedValue, numText, textValue]
  · simp [termSyn, interSyn, absTerm, hp, coefValue]

theorem readVars_sorted (vs : List VarSyn)
    (h : (vs.map fun x => String.singleton x.name).Pairwise (· < ·)) :
    readVars vs = vs.map fun x => (String.singleton x.name, x.num) := by
  unfold readVars
  have hnd : ((vs.map VarSyn.factor).map (·.letter)).Nodup := by
    refine List.Nodup.of_map String.singleton ?_
    rw [List.map_map, List.map_map]
    exact h.imp fun hlt => String.ne_of_lt hlt
  -- distinct letters: nothing is merged
  rw [← mergeFactors_map, C02.mergeFactors_distinct _ [] hnd (fun f _ h => nomatch h), List.nil_append,
    List.map_map, List.map_congr_left (f := C02.Factor.entry ∘ VarSyn.factor)
      (g := fun x => (String.singleton x.name, x.num)) fun x _ => congrArg (Prod.mk _) x.factor_num]
  apply List.mergeSort_of_pairwise
  rw [List.pairwise_map]
  rw [List.pairwise_map] at h
  exact h.imp fun hlt => by
    simpa using String.not_lt.1 (String.lt_asymm hlt)

end SV.C17
