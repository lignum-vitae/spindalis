import SV.Model.Subst
import SV.Lemmas.Mat
import Mathlib.Tactic.Ring
import Mathlib.Tactic.FieldSimp
import Mathlib.Tactic.LinearCombination
import Mathlib.Algebra.BigOperators.Intervals
import Mathlib.Algebra.Field.Basic
/-!
Lemmas about the vector helpers `vget`/`vtab` and the substitution loops of `SV.Model.Subst`:
every row the backward / forward sweep has processed satisfies its row equation, whatever the
other triangle of the matrix holds; an upper-triangular system with a non-zero diagonal has at
most one solution; multiplying the rows of a triangular system by non-zero factors does not change
what the backward sweep computes.
-/
namespace SV
open Finset

section vec
variable {S : Type}

@[simp] theorem vtab_size (n : Nat) (f : Nat → S) : (vtab n f).size = n := by
  simp [vtab]

theorem vget_vtab [Inhabited S] {n : Nat} (f : Nat → S) {i : Nat} (hi : i < n) :
    vget (vtab n f) i = f i := by
  simp [vget, vtab, Array.getD_eq_getD_getElem?, hi]

theorem vget_set_self [Inhabited S] (v : Array S) (i : Nat) (a : S) (hi : i < v.size) :
    vget (v.setIfInBounds i a) i = a := by
  simp [vget, hi]

theorem vget_set_ne [Inhabited S] (v : Array S) {i j : Nat} (a : S) (h : i ≠ j) :
    vget (v.setIfInBounds i a) j = vget v j := by
  simp [vget, h]

theorem array_ext_vget [Inhabited S] {x y : Array S} (hs : x.size = y.size)
    (h : ∀ i, i < x.size → vget x i = vget y i) : x = y := by
  apply Array.ext hs
  intro i h1 h2
  simpa [vget, h1, h2] using h i h1

end vec

namespace Subst

section anyScalar
variable {S : Type} [Inhabited S] [Add S] [Sub S] [Mul S] [Div S] [OfNat S 0]

theorem backSubst_ok_iff (U : Mat S) (n : Nat) (b sol x : Array S) :
    backSubst U n b sol = .ok x ↔
      (0 < n ∧ n ≤ U.h ∧ n ≤ U.w ∧ n ≤ b.size ∧ n ≤ sol.size) ∧ x = backCore U n b sol := by
  unfold backSubst
  split
  · constructor
    · intro h; cases h
    · intro h; omega
  · rw [Outcome.ok.injEq, eq_comm]
    exact (and_iff_right (by omega)).symm

theorem backSubst_eq_ok (U : Mat S) (n : Nat) (b sol : Array S) (h0 : 0 < n) (h1 : n ≤ U.h)
    (h2 : n ≤ U.w) (h3 : n ≤ b.size) (h4 : n ≤ sol.size) :
    backSubst U n b sol = .ok (backCore U n b sol) :=
  (backSubst_ok_iff U n b sol _).mpr ⟨⟨h0, h1, h2, h3, h4⟩, rfl⟩

theorem forwardSubst_ok_iff (L : Mat S) (n : Nat) (b sol x : Array S) :
    forwardSubst L n b sol = .ok x ↔
      (n ≤ L.h ∧ n ≤ L.w ∧ n ≤ b.size ∧ n ≤ sol.size) ∧ x = fwdCore L n b sol := by
  unfold forwardSubst
  split
  · constructor
    · intro h; cases h
    · intro h; omega
  · rw [Outcome.ok.injEq, eq_comm]
    exact (and_iff_right (by omega)).symm

theorem forwardSubst_eq_ok (L : Mat S) (n : Nat) (b sol : Array S) (h1 : n ≤ L.h)
    (h2 : n ≤ L.w) (h3 : n ≤ b.size) (h4 : n ≤ sol.size) :
    forwardSubst L n b sol = .ok (fwdCore L n b sol) :=
  (forwardSubst_ok_iff L n b sol _).mpr ⟨⟨h1, h2, h3, h4⟩, rfl⟩

@[simp] theorem backStep_size (U : Mat S) (n : Nat) (b sol : Array S) (i : Nat) :
    (backStep U n b sol i).size = sol.size := by
  simp [backStep]

theorem backStep_ne (U : Mat S) (n : Nat) (b sol : Array S) {i j : Nat} (h : i ≠ j) :
    vget (backStep U n b sol i) j = vget sol j :=
  vget_set_ne _ _ h

@[simp] theorem fwdStep_size (L : Mat S) (b sol : Array S) (i : Nat) :
    (fwdStep L b sol i).size = sol.size := by
  simp [fwdStep]

theorem fwdStep_ne (L : Mat S) (b sol : Array S) {i j : Nat} (h : i ≠ j) :
    vget (fwdStep L b sol i) j = vget sol j :=
  vget_set_ne _ _ h

theorem fwdCore_succ (L : Mat S) (n : Nat) (b sol : Array S) :
    fwdCore L (n + 1) b sol = fwdStep L b (fwdCore L n b sol) n := by
  unfold fwdCore
  rw [List.range_succ, List.foldl_append]
  rfl

theorem backStep_self (U : Mat S) (n : Nat) (b sol : Array S) {i : Nat} (hi : i < sol.size) :
    vget (backStep U n b sol i) i
      = (vget b i - sumFrom 0 (i + 1) n fun j => U.get i j * vget sol j) / U.get i i :=
  vget_set_self _ _ _ hi

theorem fwdStep_self (L : Mat S) (b sol : Array S) {i : Nat} (hi : i < sol.size) :
    vget (fwdStep L b sol i) i
      = (vget b i - sumFrom 0 0 i fun j => L.get i j * vget sol j) / L.get i i :=
  vget_set_self _ _ _ hi

theorem backLoop_eqns (U : Mat S) (n : Nat) (b : Array S) :
    ∀ (t : Nat) (sol : Array S), t ≤ sol.size →
      (backLoop U n b t sol).size = sol.size ∧
      (∀ j, t ≤ j → vget (backLoop U n b t sol) j = vget sol j) ∧
      ∀ i, i < t → vget (backLoop U n b t sol) i
        = (vget b i - sumFrom 0 (i + 1) n fun j => U.get i j * vget (backLoop U n b t sol) j)
          / U.get i i := by
  intro t
  induction t with
  | zero => exact fun sol _ => ⟨rfl, fun _ _ => rfl, fun i hi => absurd hi (Nat.not_lt_zero i)⟩
  | succ t ih =>
    intro sol ht
    obtain ⟨h1, h2, h3⟩ := ih (backStep U n b sol t) (by rw [backStep_size]; omega)
    refine ⟨h1.trans (backStep_size U n b sol t),
      fun j hj => (h2 j (by omega)).trans (backStep_ne U n b sol (by omega)), fun i hi => ?_⟩
    rcases Nat.lt_succ_iff_lt_or_eq.mp hi with hlt | rfl
    · exact h3 i hlt
    · show vget (backLoop U n b i (backStep U n b sol i)) i = _
      rw [h2 i (le_refl i), backStep_self U n b sol ht]
      exact congrArg (fun s => (vget b i - s) / U.get i i) (sumFrom_congr 0 (i + 1) n _ _
        fun j hj _ => by
          show U.get i j * vget sol j = U.get i j * vget (backLoop U n b i (backStep U n b sol i)) j
          rw [h2 j (by omega), backStep_ne U n b sol (by omega)])

theorem backCore_eqns (U : Mat S) (n : Nat) (b sol : Array S) (hn : 0 < n) (hs : n ≤ sol.size) :
    (backCore U n b sol).size = sol.size ∧
    (∀ j, n ≤ j → vget (backCore U n b sol) j = vget sol j) ∧
    vget (backCore U n b sol) (n - 1) = vget b (n - 1) / U.get (n - 1) (n - 1) ∧
    ∀ i, i < n - 1 → vget (backCore U n b sol) i
      = (vget b i - sumFrom 0 (i + 1) n fun j => U.get i j * vget (backCore U n b sol) j)
        / U.get i i := by
  obtain ⟨h1, h2, h3⟩ := backLoop_eqns U n b (n - 1)
    (sol.setIfInBounds (n - 1) (vget b (n - 1) / U.get (n - 1) (n - 1)))
    (by rw [Array.size_setIfInBounds]; omega)
  exact ⟨h1.trans (Array.size_setIfInBounds ..),
    fun j hj => (h2 j (by omega)).trans (vget_set_ne _ _ (by omega)),
    (h2 (n - 1) (le_refl _)).trans (vget_set_self _ _ _ (by omega)), h3⟩

theorem fwdCore_eqns (L : Mat S) (b sol : Array S) :
    ∀ n : Nat, n ≤ sol.size →
      (fwdCore L n b sol).size = sol.size ∧
      (∀ j, n ≤ j → vget (fwdCore L n b sol) j = vget sol j) ∧
      ∀ i, i < n → vget (fwdCore L n b sol) i
        = (vget b i - sumFrom 0 0 i fun j => L.get i j * vget (fwdCore L n b sol) j)
          / L.get i i := by
  intro n
  induction n with
  | zero => exact fun _ => ⟨rfl, fun _ _ => rfl, fun i hi => absurd hi (Nat.not_lt_zero i)⟩
  | succ n ih =>
    intro hs
    obtain ⟨h1, h2, h3⟩ := ih (by omega)
    rw [fwdCore_succ]
    refine ⟨(fwdStep_size ..).trans h1,
      fun j hj => (fwdStep_ne L b _ (by omega)).trans (h2 j (by omega)), fun i hi => ?_⟩
    rw [sumFrom_congr 0 0 i _ (fun j => L.get i j * vget (fwdCore L n b sol) j)
      fun j _ hj => by rw [fwdStep_ne L b _ (by omega)]]
    rcases Nat.lt_succ_iff_lt_or_eq.mp hi with hlt | rfl
    · rw [fwdStep_ne L b _ (by omega)]
      exact h3 i hlt
    · exact fwdStep_self L b _ (by omega)

end anyScalar

variable {K : Type} [Field K] [Inhabited K]

omit [Inhabited K] in
theorem sumFrom_Ico (lo hi : Nat) (f : Nat → K) :
    sumFrom 0 lo hi f = ∑ j ∈ Ico lo hi, f j := by
  rw [sumFrom_eq, zero_add, Finset.sum_Ico_eq_sum_range]

/-- row `i` of a triangular system whose off-diagonal part lies in the columns `s`:
`a_ii x_i + Σ_{j∈s} a_ij x_j = b_i` (`s = (i, n)` for the upper triangle, `s = [0, i)` for the lower) -/
def RowEq (U : Mat K) (b x : Array K) (s : Finset ℕ) (i : ℕ) : Prop :=
  U.get i i * vget x i + ∑ j ∈ s, U.get i j * vget x j = vget b i

theorem rowEq_of_eq {U : Mat K} {b x : Array K} {s : Finset ℕ} {i : ℕ} (hd : U.get i i ≠ 0)
    (h : vget x i = (vget b i - ∑ j ∈ s, U.get i j * vget x j) / U.get i i) : RowEq U b x s i := by
  rw [RowEq, h, mul_div_cancel₀ _ hd, sub_add_cancel]

/-- over a field the special first step of `back_substitution` (`x[n-1] = b[n-1]/a[n-1][n-1]`, no
sum subtracted) is the general step with an empty sum -/
theorem backCore_eq_backLoop (U : Mat K) {n : Nat} (hn : 0 < n) (b sol : Array K) :
    backCore U n b sol = backLoop U n b n sol := by
  obtain ⟨m, rfl⟩ : ∃ m, n = m + 1 := ⟨n - 1, by omega⟩
  show backLoop U (m + 1) b m _ = backLoop U (m + 1) b m (backStep U (m + 1) b sol m)
  rw [backStep, sumFrom_Ico, Finset.Ico_self, Finset.sum_empty, sub_zero]
  rfl

/-- `back_substitution` inside its precondition: every row of the upper-triangular part is
satisfied (the strictly lower part of the matrix is never read), the slice keeps its length and
its entries beyond `n` -/
theorem backCore_rows (U : Mat K) (n : Nat) (b sol : Array K) (hn : 0 < n) (hs : n ≤ sol.size)
    (hd : ∀ i, i < n → U.get i i ≠ 0) :
    (backCore U n b sol).size = sol.size ∧
    (∀ i, i < n → RowEq U b (backCore U n b sol) (Ico (i + 1) n) i) ∧
    (∀ j, n ≤ j → vget (backCore U n b sol) j = vget sol j) := by
  obtain ⟨h1, h2, h3, h4⟩ := backCore_eqns U n b sol hn hs
  refine ⟨h1, fun i hi => rowEq_of_eq (hd i hi) ?_, h2⟩
  rcases Nat.eq_or_lt_of_le (Nat.le_sub_one_of_lt hi) with rfl | hlt
  · rw [Nat.sub_add_cancel hn, Finset.Ico_self, Finset.sum_empty, sub_zero]
    exact h3
  · exact (h4 i hlt).trans (by rw [sumFrom_Ico])

/-- Multiplying row `i` of the matrix and of the right-hand side by `e i ≠ 0` does not change what
the backward sweep stores: `(e b - e Σ) / (e u) = (b - Σ) / u`. -/
theorem backLoop_row_scaled {U U' : Mat K} {n : Nat} {b b' : Array K} {e : ℕ → K}
    (he : ∀ i, i < n → e i ≠ 0) (hU : ∀ i j, i < n → j < n → U'.get i j = e i * U.get i j)
    (hb : ∀ i, i < n → vget b' i = e i * vget b i) :
    ∀ (t : ℕ) (sol : Array K), t ≤ n → backLoop U' n b' t sol = backLoop U n b t sol := by
  intro t
  induction t with
  | zero => intro sol _; rfl
  | succ t ih =>
    intro sol ht
    have hsum : ∑ j ∈ Ico (t + 1) n, U'.get t j * vget sol j
        = e t * ∑ j ∈ Ico (t + 1) n, U.get t j * vget sol j := by
      rw [Finset.mul_sum]
      apply Finset.sum_congr rfl
      intro j hj
      rw [hU t j (by omega) (Finset.mem_Ico.mp hj).2, mul_assoc]
    have hstep : backStep U' n b' sol t = backStep U n b sol t := by
      rw [backStep, backStep, sumFrom_Ico, sumFrom_Ico, hsum, hb t (by omega),
        hU t t (by omega) (by omega), ← mul_sub, mul_div_mul_left _ _ (he t (by omega))]
    show backLoop U' n b' t (backStep U' n b' sol t) = backLoop U n b t (backStep U n b sol t)
    rw [hstep]
    exact ih _ (by omega)

/-- `forward_substitution` inside its precondition: every row of the lower-triangular part is
satisfied (the strictly upper part is never read) -/
theorem fwdCore_rows (L : Mat K) (b sol : Array K) :
    ∀ n : Nat, n ≤ sol.size → (∀ i, i < n → L.get i i ≠ 0) →
      (fwdCore L n b sol).size = sol.size ∧
      (∀ i, i < n → RowEq L b (fwdCore L n b sol) (range i) i) ∧
      (∀ j, n ≤ j → vget (fwdCore L n b sol) j = vget sol j) := by
  intro n hs hd
  obtain ⟨h1, h2, h3⟩ := fwdCore_eqns L b sol n hs
  exact ⟨h1, fun i hi => rowEq_of_eq (hd i hi) ((h3 i hi).trans (by rw [sumFrom_zero])), h2⟩

omit [Inhabited K] in
/-- an upper-triangular system with non-zero diagonal has at most one solution: going upwards,
row `i` determines `x i` from the components already known to agree -/
theorem upper_unique (U : Nat → Nat → K) (n : Nat) (c x y : Nat → K)
    (hd : ∀ i, i < n → U i i ≠ 0)
    (hx : ∀ i, i < n → U i i * x i + ∑ j ∈ Ico (i + 1) n, U i j * x j = c i)
    (hy : ∀ i, i < n → U i i * y i + ∑ j ∈ Ico (i + 1) n, U i j * y j = c i) :
    ∀ i, i < n → x i = y i := by
  have key : ∀ t i, n ≤ i + t → i < n → x i = y i := by
    intro t
    induction t with
    | zero => intro i h1 h2; omega
    | succ t ih =>
      intro i h1 h2
      have e : ∑ j ∈ Ico (i + 1) n, U i j * x j = ∑ j ∈ Ico (i + 1) n, U i j * y j := by
        apply Finset.sum_congr rfl
        intro j hj
        rw [Finset.mem_Ico] at hj
        rw [ih j (by omega) hj.2]
      have h3 := hx i h2
      rw [e, ← hy i h2] at h3
      exact mul_left_cancel₀ (hd i h2) (add_right_cancel h3)
  exact fun i hi => key n i (by omega) hi

end Subst
end SV
