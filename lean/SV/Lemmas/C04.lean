import SV.Model.C04
import SV.Lemmas.C03
/-!
Helper lemmas for C04: the powers in an integrated term, integrating a term and differentiating it
again.
-/
namespace SV.C04
open SV SV.Poly SV.C03

section integ
variable {K : Type} [Field K]

theorem integInter_cons (t : Term K) (ts : List (Term K)) (v : String) :
    (integInter (t :: ts) v).terms
      = ⟨(integTerm v t).coef, sortVars (integTerm v t).vars⟩ :: (integInter ts v).terms :=
  rfl

theorem mem_integInter {v : String} {ts : List (Term K)} {t' : Term K}
    (h : t' ∈ (integInter ts v).terms) :
    ∃ t ∈ ts, t'.coef = (integTerm v t).coef ∧ t'.vars = sortVars (integTerm v t).vars := by
  obtain ⟨u, hu, rfl⟩ := List.mem_map.1 h
  obtain ⟨t, ht, rfl⟩ := List.mem_map.1 hu
  exact ⟨t, ht, rfl, rfl⟩

theorem integTerm_power {v : String} {t : Term K} (hnd : (names t.vars).Nodup) {q : K}
    (hq : (v, q) ∈ (integTerm v t).vars) :
    (∃ p, (v, p) ∈ t.vars ∧ q = p + 1) ∨ (v ∉ names t.vars ∧ q = 1) := by
  by_cases hv : v ∈ names t.vars
  · obtain ⟨p, hp⟩ := mem_names.1 hv
    obtain ⟨pre, post, hvs, hpre, hpost⟩ := exists_split hnd hp
    rw [integTerm_split hvs hpre] at hq
    exact Or.inl ⟨p, hp, (mem_split_self hpre hpost).1 hq⟩
  · rw [integTerm_absent hv, List.mem_append, List.mem_singleton, Prod.mk.injEq] at hq
    exact Or.inr ⟨hv, hq.elim (fun h => absurd (mem_names.2 ⟨q, h⟩) hv) (·.2)⟩

theorem integTerm_other {v w : String} {t : Term K} (hw : w ≠ v) (q : K) :
    (w, q) ∈ (integTerm v t).vars ↔ (w, q) ∈ t.vars := by
  by_cases hv : v ∈ names t.vars
  · obtain ⟨pre, p, post, hvs, hpre⟩ := exists_first hv
    rw [integTerm_split hvs hpre, hvs, mem_split_other hw, mem_split_other hw]
  · rw [integTerm_absent hv, List.mem_append, List.mem_singleton, Prod.mk.injEq]
    exact ⟨fun h => h.elim id (fun e => absurd e.1 hw), Or.inl⟩

theorem integInter_power {v : String} {ts : List (Term K)} (hwf : TermsWF ts) {t' : Term K}
    (h : t' ∈ (integInter ts v).terms) {q : K} (hq : (v, q) ∈ t'.vars) :
    ∃ t ∈ ts, (∃ p, (v, p) ∈ t.vars ∧ q = p + 1) ∨ (v ∉ names t.vars ∧ q = 1) := by
  obtain ⟨t, ht, _, hvars⟩ := mem_integInter h
  rw [hvars] at hq
  exact ⟨t, ht, integTerm_power (strictSorted_nodup (hwf t ht)) ((sortVars_perm _).mem_iff.1 hq)⟩

theorem integInter_other {v w : String} {ts : List (Term K)} {t' : Term K}
    (h : t' ∈ (integInter ts v).terms) (hw : w ≠ v) {q : K} (hq : (w, q) ∈ t'.vars) :
    ∃ t ∈ ts, (w, q) ∈ t.vars := by
  obtain ⟨t, ht, _, hvars⟩ := mem_integInter h
  rw [hvars] at hq
  exact ⟨t, ht, (integTerm_other hw q).1 ((sortVars_perm _).mem_iff.1 hq)⟩

theorem integInter_mem_var {v : String} {ts : List (Term K)} {t' : Term K}
    (h : t' ∈ (integInter ts v).terms) : v ∈ names t'.vars := by
  obtain ⟨t, _, _, hvars⟩ := mem_integInter h
  rw [hvars]
  exact (names_sortVars_perm _).mem_iff.2 (integTerm_mem v t)

end integ

section roundtrip
variable {K : Type} [Field K] [LinearOrder K]

/-- **Integrate one term, then differentiate it** (`sort_poly` after the first step, as in the code).
For a term with sorted duplicate-free variables and no `v^(-1)`: the derivative step finds `v` (so
the term is kept), the coefficient comes back, and so does the variable list, up to order — except
that a literal `v^0` has become `v^1` and is then removed. -/
theorem roundtrip_term (v : String) (t : Term K) (hs : strictSorted (names t.vars) = true)
    (hne : ∀ p, (v, p) ∈ t.vars → p + 1 ≠ 0) :
    ∃ m vs', derivVars v (sortVars (integTerm v t).vars) = some (m, vs') ∧
      (integTerm v t).coef * m = t.coef ∧ (vs'.Perm t.vars ∨ ((v, 0) :: vs').Perm t.vars) := by
  have hnd := strictSorted_nodup hs
  by_cases hv : v ∈ names t.vars
  · obtain ⟨p, hp⟩ := mem_names.1 hv
    obtain ⟨pre, post, hvs, hpre, hpost⟩ := exists_split hnd hp
    have hd := derivVars_append (post := post) (p + 1) hpre
    rw [add_sub_cancel_right, ← sortVars_of_sorted (vs := pre ++ (v, p + 1) :: post)
      (by rw [hvs, names_append] at hs; rw [names_append]; exact hs)] at hd
    rw [integTerm_split hvs hpre]
    refine ⟨_, _, hd, div_mul_cancel₀ _ (hne p hp), ?_⟩
    rw [hvs]
    by_cases hz : isZero p = true
    · rw [if_pos hz, (isZero_iff p).1 hz]
      exact Or.inr List.perm_middle.symm
    · rw [if_neg hz]
      exact Or.inl (List.Perm.refl _)
  · have hperm := sortVars_perm (integTerm v t).vars
    obtain ⟨pre, post, hL, hpre, hpost⟩ := exists_split
      ((names_sortVars_perm _).nodup_iff.2 (nodup_integTerm hnd v))
      (hperm.mem_iff.2 (by rw [integTerm_absent hv]; exact List.mem_append_right _ (List.mem_singleton_self _)))
    refine ⟨1, pre ++ post, ?_, by rw [integTerm_absent hv, mul_one], Or.inl ?_⟩
    · rw [hL, derivVars_append _ hpre, if_pos ((isZero_iff _).2 (sub_self 1))]
    · rw [hL, integTerm_absent hv] at hperm
      exact (List.perm_middle.symm.trans (hperm.trans (List.perm_append_singleton _ _))).cons_inv

/-- … hence the head term of `partial_derivative (indefinite_integral (t :: ts) v) v` is `t` up to
the order of its variables and a dropped literal `v^0`, and the tail is the round trip of `ts` -/
theorem roundtrip_cons (v : String) (t : Term K) (ts : List (Term K))
    (hs : strictSorted (names t.vars) = true) (hne : ∀ p, (v, p) ∈ t.vars → p + 1 ≠ 0) :
    ∃ vs', (partialDeriv (integInter (t :: ts) v).terms v).terms
        = ⟨t.coef, sortVars vs'⟩ :: (partialDeriv (integInter ts v).terms v).terms ∧
      (vs'.Perm t.vars ∨ ((v, 0) :: vs').Perm t.vars) := by
  obtain ⟨m, vs', hd, hc, hperm⟩ := roundtrip_term v t hs hne
  exact ⟨vs', by rw [integInter_cons, partialDeriv_terms_cons_some _ hd, hc], hperm⟩

/-- the round trip has the value of the source (`powf x 0 = 1` is needed only for a literal `v^0`) -/
theorem polyVal_roundtrip (powf : K → K → K) (hp0 : ∀ x, powf x 0 = 1) (σ : String → K) (v : String)
    (ts : List (Term K)) (hs : TermsWF ts) (hne : ∀ t ∈ ts, ∀ p, (v, p) ∈ t.vars → p + 1 ≠ 0) :
    polyVal powf σ (partialDeriv (integInter ts v).terms v).terms = polyVal powf σ ts := by
  induction ts with
  | nil => rfl
  | cons t ts ih =>
    obtain ⟨vs', hcons, hperm⟩ := roundtrip_cons v t ts (hs t (List.mem_cons_self ..))
      (hne t (List.mem_cons_self ..))
    rw [hcons, polyVal_cons, polyVal_cons, termVal, termVal, varsVal_perm powf σ (sortVars_perm vs'),
      ih (fun u hu => hs u (List.mem_cons_of_mem _ hu)) (fun u hu => hne u (List.mem_cons_of_mem _ hu))]
    rcases hperm with h | h
    · rw [varsVal_perm powf σ h]
    · rw [← varsVal_perm powf σ h, varsVal_cons, hp0, one_mul]

/-- the round trip uses no name that the source does not use (`v` itself may have gone) -/
theorem termNames_roundtrip (v : String) (ts : List (Term K)) (hs : TermsWF ts)
    (hne : ∀ t ∈ ts, ∀ p, (v, p) ∈ t.vars → p + 1 ≠ 0) :
    ∀ w ∈ termNames (partialDeriv (integInter ts v).terms v).terms, w ∈ termNames ts := by
  induction ts with
  | nil => exact fun _ h => h
  | cons t ts ih =>
    obtain ⟨vs', hcons, hperm⟩ := roundtrip_cons v t ts (hs t (List.mem_cons_self ..))
      (hne t (List.mem_cons_self ..))
    intro w hw
    rw [hcons] at hw
    rcases mem_termNames_cons.1 hw with hw | hw
    · have hw' : w ∈ names vs' := (names_sortVars_perm vs').mem_iff.1 hw
      refine mem_termNames_cons.2 (Or.inl ?_)
      rcases hperm with h | h
      · exact (h.map _).mem_iff.1 hw'
      · exact (h.map _).mem_iff.1 (List.mem_cons_of_mem _ hw')
    · exact mem_termNames_cons.2 (Or.inr (ih (fun u hu => hs u (List.mem_cons_of_mem _ hu))
        (fun u hu => hne u (List.mem_cons_of_mem _ hu)) w hw))

/-- without a literal `v^0` the round trip returns the terms themselves -/
theorem roundtrip_eq (v : String) (ts : List (Term K)) (hs : TermsWF ts)
    (hne : ∀ t ∈ ts, ∀ p, (v, p) ∈ t.vars → p + 1 ≠ 0)
    (hno : ∀ t ∈ ts, ∀ p, (v, p) ∈ t.vars → p ≠ 0) :
    (partialDeriv (integInter ts v).terms v).terms = ts := by
  induction ts with
  | nil => rfl
  | cons t ts ih =>
    have hst := hs t (List.mem_cons_self ..)
    obtain ⟨vs', hcons, hperm⟩ := roundtrip_cons v t ts hst (hne t (List.mem_cons_self ..))
    rw [hcons, ih (fun u hu => hs u (List.mem_cons_of_mem _ hu))
      (fun u hu => hne u (List.mem_cons_of_mem _ hu)) (fun u hu => hno u (List.mem_cons_of_mem _ hu))]
    rcases hperm with h | h
    · have hnd' : (names vs').Nodup := (h.map _).nodup_iff.2 (strictSorted_nodup hst)
      rw [sortedPairs_ext (strictSorted_sortVars hnd') hst ((sortVars_perm _).trans h)]
    · exact absurd rfl (hno t (List.mem_cons_self ..) 0 (h.mem_iff.1 (List.mem_cons_self ..)))

end roundtrip

/-- **d/dv ∫ p dv = p** at `x`, when no term carries `v^(-1)` and every power of `v` is non-negative
or `x ≠ 0`: every power of `v` in the integral is then `≥ 1` or differentiated away from `0`
(`hasDerivAt_partialDeriv`), and differentiating the integral gives back the value of the source
(`polyVal_roundtrip`) -/
theorem hasDerivAt_integInter (σ : String → ℝ) (v : String) (x : ℝ) (ts : List (Term ℝ))
    (hwf : TermsWF ts) (hne : ∀ t ∈ ts, ∀ q, (v, q) ∈ t.vars → q + 1 ≠ 0)
    (hdom : ∀ t ∈ ts, ∀ q, (v, q) ∈ t.vars → x ≠ 0 ∨ 0 ≤ q) :
    HasDerivAt (fun t => polyVal Real.rpow (Function.update σ v t) (integInter ts v).terms)
      (polyVal Real.rpow (Function.update σ v x) ts) x := by
  have hd := hasDerivAt_partialDeriv σ v x (integInter ts v).terms (integInter_wf ts v hwf).1.1
    (fun t' ht' q hq => by
      obtain ⟨t, ht, ⟨p, hp, rfl⟩ | ⟨_, rfl⟩⟩ := integInter_power hwf ht' hq
      · exact (hdom t ht p hp).imp_right fun h => Or.inl (le_add_of_nonneg_left h)
      · exact Or.inr (Or.inl le_rfl))
  rwa [polyVal_roundtrip Real.rpow Real.rpow_zero _ v ts hwf hne] at hd

/-- `analytical_integral` is `Ok` exactly when its three steps are, and then it is `F(b) - F(a)` -/
theorem analytical_eq_ok_iff {S : Type} [Add S] [Sub S] [Mul S] [Div S] [OfNat S 0] [OfNat S 1]
    [NatCast S] (powf : S → S → S) (p : AnyPoly S) (a b u : S) :
    analytical powf p a b = .ok u ↔
      ∃ F fa fb, p.integUni = .ok F ∧ F.evalUni powf a = .ok fa ∧ F.evalUni powf b = .ok fb ∧
        u = fb - fa := by
  constructor
  · intro h
    unfold analytical at h
    split at h
    · cases h
    · rename_i F hF
      split at h
      · cases h
      · rename_i fa hfa
        split at h
        · cases h
        · rename_i fb hfb
          cases h
          exact ⟨F, fa, fb, hF, hfa, hfb, rfl⟩
  · rintro ⟨F, fa, fb, hF, hfa, hfb, rfl⟩
    simp only [analytical, hF, hfa, hfb]

end SV.C04
