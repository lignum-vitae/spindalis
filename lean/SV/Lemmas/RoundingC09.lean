import SV.Model.C09
import SV.Lemmas.Mat
import SV.Lemmas.LU
import SV.Lemmas.RoundingDot
/-!
Helper lemmas for the rounding analysis of the Doolittle factorisation `SV.C09.lu`
(`lu_decomposition`) at the rounding scalar `Fl M`.

The analysis is split in two:

* **bookkeeping, for every scalar type** (`LuEnt`, `lu_ok_ent`): whenever `lu` returns `(L, U)`, every
  entry of the factors is *literally* the expression the code evaluated for it, in terms of the
  **final** factors —
  `U r c = A r c − sumFrom 0 0 r (L r j * U j c)` (`r ≤ c`),
  `L r c = (A r c − sumFrom 0 0 c (L r j * U j c)) / U c c` (`c < r`),
  `L r r = 1`, zeros elsewhere — and every guard `|U c c| < eps` (`c + 1 < n`) was false.  (One pass
  of the outer loop only reads entries written by earlier passes, and never writes them again.)
* **rounding, at `Fl M`** (`luU_weights`, `luL_weights`): each of these expressions, read in the
  standard model, is an *exact* identity `A r c = Σ_j L r j · U j c · t j` with accumulated rounding
  factors `t j` (Higham, *Accuracy and Stability*, (9.4)–(9.5) for the operation order of this code).

Counting what pass `i` does for one entry: `total = 0.0; total += lower[..][j]*upper[j][..]`
(`j = 0 … i−1`) — the term `j` takes one multiplication and the `i − j` additions from its own on
(the model charges `0.0 + …` one rounding too): `i − j + 1` roundings; then one subtraction from
`A r c` (a `U` entry: 1 rounding, carried by the diagonal term `L r r · U r c`, `L r r = 1`), and for
an `L` entry one division more (2 roundings, carried by the term `L r c · U c c`).
-/

namespace SV.C09
open SV Finset




section rounding
variable {M : FlModel}

/-- `|x|·(1 − u) ≤ sabs x ≤ |x|·(1 + u)`: `f64::abs` of a negative value is modelled as a negation,
which the model charges one rounding -/
theorem sabs_val_bounds (x : Fl M) :
    |x.val| * (1 - M.u) ≤ (sabs x).val ∧ (sabs x).val ≤ |x.val| * (1 + M.u) := by
  unfold sabs
  have hu := M.hu.1
  by_cases hx : x < 0
  · rw [if_pos hx, Fl.neg_val]
    rw [Fl.lt_iff, Fl.zero_val] at hx
    obtain ⟨δ, hδ, hr⟩ := M.hrnd (-x.val)
    obtain ⟨h1, h2⟩ := abs_le.mp hδ
    rw [hr, abs_of_neg hx]
    exact ⟨mul_le_mul_of_nonneg_left (by linarith) (by linarith),
      mul_le_mul_of_nonneg_left (by linarith) (by linarith)⟩
  · rw [if_neg hx]
    rw [Fl.lt_iff, Fl.zero_val, not_lt] at hx
    rw [abs_of_nonneg hx]
    exact ⟨by nlinarith, by nlinarith⟩

theorem le_of_not_sabs_lt {x eps : Fl M} (h : ¬ sabs x < eps) :
    eps.val ≤ |x.val| * (1 + M.u) :=
  (not_lt.mp h).trans (sabs_val_bounds x).2

theorem ne_zero_of_not_sabs_lt {x eps : Fl M} (heps : 0 < eps.val) (h : ¬ sabs x < eps) :
    x.val ≠ 0 := by
  intro h0
  have := le_of_not_sabs_lt h
  rw [h0, abs_zero, zero_mul] at this
  linarith

variable {n : ℕ} {A : Mat (Fl M)} {eps : Fl M} {L U : Mat (Fl M)}

theorem luU_weights (h : LuEnt n A eps n (L, U)) {r c : ℕ} (hrc : r ≤ c) (hc : c < n) :
    ∃ t : ℕ → ℝ, M.Fac 1 (t r) ∧ (∀ j, j < r → M.Fac (r - j + 1) (t j)) ∧
      (A.get r c).val = ∑ j ∈ range (r + 1), (L.get r j).val * (U.get j c).val * t j := by
  obtain ⟨t, h1, h2, h3⟩ := sub_dot_weights 0 r r (Or.inr (le_refl r)) (A.get r c) (U.get r c)
    (fun j => L.get r j) (fun j => U.get j c) (h.Ueq r c (by omega) hrc hc)
  refine ⟨t, h1, fun j hj => h2 j (Nat.zero_le j) hj, ?_⟩
  rw [Finset.sum_range_succ, h.Ld r (by omega) (by omega), Fl.one_val, one_mul, h3,
    Nat.Ico_zero_eq_range]

theorem luL_weights (heps : 0 < eps.val) (h : LuEnt n A eps n (L, U)) {r c : ℕ} (hcr : c < r)
    (hr : r < n) :
    ∃ t : ℕ → ℝ, M.Fac 2 (t c) ∧ (∀ j, j < c → M.Fac (c - j + 1) (t j)) ∧
      (A.get r c).val = ∑ j ∈ range (c + 1), (L.get r j).val * (U.get j c).val * t j := by
  obtain ⟨t, h1, h2, h3⟩ := sub_dot_div_weights 0 c c (Or.inr (le_refl c)) (A.get r c)
    (L.get r c) (U.get c c) (fun j => L.get r j) (fun j => U.get j c)
    (ne_zero_of_not_sabs_lt heps (h.guard c (by omega) (by omega))) (h.Leq r c (by omega) hcr hr)
  refine ⟨t, h1, fun j hj => h2 j (Nat.zero_le j) hj, ?_⟩
  rw [Finset.sum_range_succ, h3, Nat.Ico_zero_eq_range]

end rounding

end SV.C09
