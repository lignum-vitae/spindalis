import SV.Model.C12
import SV.Lemmas.C12Layout
import SV.Lemmas.Fold
import Mathlib.Order.Defs.LinearOrder
/-!
Lemmas for C12: the simulation relation `R` (stated cell by cell, offset `r * w + c`) and one step lemma
per operation, observer and constructor.  Operations on whole rows use the other reading of the buffer,
the concatenation of the rows of the grid (`R.flat`, `R_of_rows`).  Core Lean only, except the last
section (`LinearOrder`).
-/
namespace SV.C12

variable {α : Type}

theorem collect_map_some {β : Type} (l : List β) (f : β → Option α) (g : β → α)
    (h : ∀ x ∈ l, f x = some (g x)) : collect (l.map f) = some (l.map g) := by
  induction l with
  | nil => rfl
  | cons x xs ih =>
    obtain ⟨hx, hxs⟩ := List.forall_mem_cons.mp h
    simp only [List.map_cons, hx, collect, ih hxs]

/-- a table filled cell by cell: no cell fails, so neither does a row nor the table -/
theorem collect_tab (a b : Nat) (f : Nat → Nat → Option α) (v : Nat → Nat → α)
    (h : ∀ i j, i < a → j < b → f i j = some (v i j)) :
    collect ((List.range a).map fun i => collect ((List.range b).map (f i))) =
      some ((List.range a).map fun i => (List.range b).map (v i)) :=
  collect_map_some _ _ _ fun i hi => collect_map_some _ _ _ fun j hj =>
    h i j (List.mem_range.mp hi) (List.mem_range.mp hj)

theorem collect_map_conv (l : List α) (conv : α → Option α) :
    collect (l.map conv) =
      if l.all (fun x => (conv x).isSome) then some (l.map fun x => (conv x).getD x) else none := by
  induction l with
  | nil => rfl
  | cons x xs ih =>
    cases hx : conv x with
    | none => simp [collect, hx]
    | some y =>
      simp only [List.map_cons, hx, collect, ih, List.all_cons, Option.isSome_some, Bool.true_and,
        Option.getD_some]
      by_cases hall : (xs.all fun x => (conv x).isSome) = true
      · simp only [hall, if_true]
      · simp only [hall]; rfl

theorem Grid.row_length (g : Grid α) (r : Nat) : (g.row r).length = g.w := by
  simp [Grid.row]

theorem Grid.rows_length (g : Grid α) : g.rows.length = g.h := by
  simp [Grid.rows]

theorem Grid.rows_getElem (g : Grid α) {r : Nat} (hr : r < g.rows.length) : g.rows[r] = g.row r := by
  simp [Grid.rows]

theorem Grid.rows_uniform (g : Grid α) : Uniform g.w g.rows := by
  intro row hrow
  obtain ⟨r, hr, rfl⟩ := List.getElem_of_mem hrow
  rw [g.rows_getElem, g.row_length]

theorem Grid.row_getElem? (g : Grid α) (r c : Nat) :
    (g.row r)[c]? = if c < g.w then some (g.cell r c) else none := by
  by_cases hc : c < g.w <;> simp [Grid.row, hc]

theorem Grid.rows_getElem? (g : Grid α) (r : Nat) :
    g.rows[r]? = if r < g.h then some (g.row r) else none := by
  by_cases hr : r < g.h <;> simp [Grid.rows, hr]

theorem Grid.rows_cell (g : Grid α) {r c : Nat} (hr : r < g.rows.length) (hc : c < g.w) :
    g.rows[r][c]? = some (g.cell r c) := by
  rw [g.rows_getElem, g.row_getElem?, if_pos hc]

theorem Grid.flat_length (g : Grid α) : g.flat.length = g.h * g.w := by
  rw [Grid.flat, length_flatten_uniform g.rows_uniform, g.rows_length]

theorem Grid.flat_getElem? (g : Grid α) {r c : Nat} (hr : r < g.h) (hc : c < g.w) :
    g.flat[r * g.w + c]? = some (g.cell r c) := by
  have hr' : r < g.rows.length := by rw [g.rows_length]; exact hr
  rw [Grid.flat, getElem?_flatten_uniform g.rows_uniform hr' hc, g.rows_cell hr' hc]

/-- the rows of a grid are recognised by their number, their length and their cells -/
theorem Grid.rows_ext {g : Grid α} {L : List (List α)} (hL : L.length = g.h) (hu : Uniform g.w L)
    (hc : ∀ r c (hr : r < L.length), c < g.w → L[r][c]? = some (g.cell r c)) : L = g.rows := by
  apply List.ext_getElem (hL.trans g.rows_length.symm)
  intro r h1 h2
  rw [g.rows_getElem]
  apply List.ext_getElem?
  intro c
  by_cases hcw : c < g.w
  · rw [hc r c h1 hcw, g.row_getElem?, if_pos hcw]
  · rw [g.row_getElem?, if_neg hcw, List.getElem?_eq_none_iff, hu.getElem h1]; exact Nat.le_of_not_lt hcw

/-- same shape, a buffer of exactly `height * width` items, and the cell `(r, c)` of the grid at
offset `r * width + c` of the buffer -/
def R (s : Arr α) (g : Grid α) : Prop :=
  s.height = g.h ∧ s.width = g.w ∧ s.inner.length = s.height * s.width ∧
  ∀ r c, r < g.h → c < g.w → s.inner[r * g.w + c]? = some (g.cell r c)

/-- the two sides of one operation: related states and the same outcome -/
def Sim (p : Arr α × Out) (q : Grid α × Out) : Prop := R p.1 q.1 ∧ p.2 = q.2

section
variable {s : Arr α} {g : Grid α}

theorem R_of_flat (hh : s.height = g.h) (hw : s.width = g.w)
    (hf : s.inner = g.flat) : R s g :=
  ⟨hh, hw, by rw [hf, g.flat_length, hh, hw], fun _ _ hr hc => hf ▸ g.flat_getElem? hr hc⟩

theorem R_of_rows {L : List (List α)} (hf : s.inner = L.flatten)
    (hh : s.height = g.h) (hw : s.width = g.w) (hL : L.length = g.h)
    (hu : Uniform g.w L)
    (hc : ∀ r c (hr : r < L.length), c < g.w → L[r][c]? = some (g.cell r c)) : R s g :=
  R_of_flat hh hw (hf.trans (congrArg List.flatten (Grid.rows_ext hL hu hc)))

theorem R.length (h : R s g) : s.inner.length = g.h * g.w := by
  rw [h.2.2.1, h.1, h.2.1]

theorem R.row_end_le (h : R s g) {r : Nat} (hr : r < g.h) :
    (r + 1) * s.width ≤ s.inner.length := by
  rw [h.length, h.2.1]; exact Nat.mul_le_mul_right _ hr

theorem R.getElem?_inner (h : R s g) {k : Nat} (hk : k < g.h * g.w) :
    s.inner[k]? = some (g.cell (k / g.w) (k % g.w)) := by
  have hw : 0 < g.w := Nat.pos_of_mul_pos_left (Nat.zero_lt_of_lt hk)
  have := h.2.2.2 _ _ ((Nat.div_lt_iff_lt_mul hw).mpr hk) (Nat.mod_lt k hw)
  rwa [Nat.div_add_mod'] at this

theorem R.flat (h : R s g) : s.inner = g.flat := by
  apply List.ext_getElem?
  intro k
  by_cases hk : k < g.h * g.w
  · rw [h.getElem?_inner hk, (R_of_flat (s := ⟨g.flat, g.h, g.w⟩) rfl rfl rfl).getElem?_inner hk]
  · rw [List.getElem?_eq_none_iff.mpr (by rw [h.length]; omega),
      List.getElem?_eq_none_iff.mpr (by rw [g.flat_length]; omega)]

/-- `R` only looks at the cells inside the shape -/
theorem R_congr {g' : Grid α} (h : R s g) (hh : g'.h = g.h) (hw : g'.w = g.w)
    (hc : ∀ r c, r < g.h → c < g.w → g'.cell r c = g.cell r c) : R s g' :=
  ⟨hh ▸ h.1, hw ▸ h.2.1, h.2.2.1, fun r c hr hc' => by
    rw [hh] at hr; rw [hw] at hc' ⊢; rw [hc r c hr hc']; exact h.2.2.2 r c hr hc'⟩

/-- the array that stores a grid: its cells in row-major order.  `R s g` says that `s` is this array
(`R_iff_ofGrid`), so an operation on related states is an equation between stored grids. -/
@[reducible] def Arr.ofGrid (g : Grid α) : Arr α := ⟨g.flat, g.h, g.w⟩

theorem R_iff_ofGrid : R s g ↔ s = Arr.ofGrid g :=
  ⟨fun h => by
    obtain ⟨i, a, b⟩ := s
    exact congr (congr (congrArg Arr.mk h.flat) h.1) h.2.1,
   fun e => e ▸ R_of_flat rfl rfl rfl⟩

theorem R_ofGrid (g : Grid α) : R (Arr.ofGrid g) g := R_iff_ofGrid.mpr rfl

/-- only the cells inside the shape are stored -/
theorem Arr.ofGrid_ext {g' : Grid α} (hh : g'.h = g.h) (hw : g'.w = g.w)
    (hc : ∀ r c, r < g.h → c < g.w → g'.cell r c = g.cell r c) : Arr.ofGrid g = Arr.ofGrid g' :=
  R_iff_ofGrid.mp (R_congr (R_ofGrid g) hh hw hc)

theorem R.at? (h : R s g) (r c : Nat) :
    s.at? r c = if r < g.h ∧ c < g.w then some (g.cell r c) else none := by
  unfold Arr.at?
  rw [h.1, h.2.1]
  by_cases hb : r < g.h ∧ c < g.w
  · rw [if_neg (by omega), if_pos hb]; exact h.2.2.2 r c hb.1 hb.2
  · rw [if_pos (by omega), if_neg hb]

theorem Arr.reshape_of_dvd (s : Arr α) {h' : Nat} (hpos : 0 < h') (hd : h' ∣ s.height * s.width) :
    s.reshape h' = (⟨s.inner, h', s.height * s.width / h'⟩, .ok) :=
  if_neg (not_or.mpr ⟨Nat.ne_of_gt hpos, fun hne => hne (Nat.mod_eq_zero_of_dvd hd)⟩)

theorem Arr.reshape_of_not (s : Arr α) {h' : Nat} (hb : ¬(0 < h' ∧ h' ∣ s.height * s.width)) :
    s.reshape h' = (s, .err (.invalidReshape (s.height * s.width) h')) :=
  if_pos (by rw [Nat.dvd_iff_mod_eq_zero] at hb; omega)

theorem Arr.reshape_ok_iff (s : Arr α) (h' : Nat) :
    (s.reshape h').2 = .ok ↔ 0 < h' ∧ h' ∣ s.height * s.width := by
  by_cases hb : 0 < h' ∧ h' ∣ s.height * s.width
  · rw [s.reshape_of_dvd hb.1 hb.2]; exact iff_of_true rfl hb
  · rw [s.reshape_of_not hb]; exact iff_of_false (fun e => nomatch e) hb

theorem R_reshape (h : R s g) (h' : Nat) :
    Sim (s.reshape h') (g.reshape h') := by
  unfold Arr.reshape Grid.reshape
  dsimp only
  rw [h.1, h.2.1]
  by_cases hb : h' = 0 ∨ g.h * g.w % h' ≠ 0
  · rw [if_pos hb, if_pos hb]; exact ⟨h, rfl⟩
  · rw [if_neg hb, if_neg hb]
    have hsz : h' * (g.h * g.w / h') = g.h * g.w :=
      Nat.mul_div_cancel' (Nat.dvd_of_mod_eq_zero (by omega))
    refine ⟨⟨rfl, rfl, by rw [h.length]; exact hsz.symm, fun r c hr hc => ?_⟩, rfl⟩
    exact h.getElem?_inner (Nat.lt_of_lt_of_eq (idx_lt hr hc) hsz)

theorem R_setIdx (h : R s g) (r c : Nat) (v : α) :
    Sim (s.setIdx r c v) (g.set r c v) := by
  unfold Arr.setIdx Grid.set
  rw [h.1, h.2.1]
  by_cases hb : r ≥ g.h ∨ c ≥ g.w
  · rw [if_pos hb, if_pos hb]; exact ⟨h, rfl⟩
  · have hr : r < g.h := by omega
    have hc : c < g.w := by omega
    have hk : r * g.w + c < s.inner.length := h.length ▸ idx_lt hr hc
    rw [if_neg hb, if_neg hb, if_neg (Nat.not_le.mpr hk)]
    refine ⟨⟨rfl, rfl, by rw [List.length_set]; exact h.length, fun r' c' hr' hc' => ?_⟩, rfl⟩
    simp only [List.getElem?_set]
    by_cases he : r' = r ∧ c' = c
    · rw [if_pos (by rw [he.1, he.2]), if_pos hk, if_pos he]
    · rw [if_neg (fun e => he (idx_inj hc' hc e.symm)), if_neg he]
      exact h.2.2.2 r' c' hr' hc'

theorem setRowCol_eq_setIdx (s : Arr α) (hlen : s.inner.length = s.height * s.width) (r c : Nat)
    (v : α) : s.setRowCol r c v = s.setIdx r c v := by
  unfold Arr.setRowCol Arr.setIdx
  by_cases hr : r ≥ s.height
  · rw [if_pos hr, if_pos (Or.inl hr)]
  · rw [if_neg hr, if_neg (by rw [hlen]; exact Nat.not_lt.mpr (Nat.mul_le_mul_right _ (Nat.lt_of_not_ge hr)))]
    by_cases hc : c ≥ s.width
    · rw [if_pos hc, if_pos (Or.inr hc)]
    · rw [if_neg hc, if_neg (not_or.mpr ⟨hr, hc⟩),
        if_neg (by rw [hlen]; exact Nat.not_le.mpr (idx_lt (Nat.lt_of_not_ge hr) (Nat.lt_of_not_ge hc)))]

theorem R_setRowCol (h : R s g) (r c : Nat) (v : α) :
    Sim (s.setRowCol r c v) (g.set r c v) := by
  rw [setRowCol_eq_setIdx s h.2.2.1]; exact R_setIdx h r c v

theorem R.transposeInner (h : R s g) :
    s.transposeInner = some (g.transpose.1).flat := by
  unfold Arr.transposeInner
  rw [h.1, h.2.1, collect_tab g.w g.h (fun col row => s.at? row col) (fun col row => g.cell row col)
    fun col row hcol hrow => by rw [h.at?, if_pos ⟨hrow, hcol⟩]]
  rfl

theorem R_transpose (h : R s g) :
    Sim s.transpose g.transpose := by
  unfold Arr.transpose
  rw [h.transposeInner]
  exact ⟨R_of_flat h.2.1 h.1 rfl, rfl⟩

theorem Arr.transposeMut_eq (s : Arr α) : s.transposeMut = s.transpose := by
  unfold Arr.transposeMut Arr.transpose
  cases s.transposeInner <;> rfl

theorem R_transposeMut (h : R s g) :
    Sim s.transposeMut g.transpose :=
  s.transposeMut_eq ▸ R_transpose h

theorem R_map (h : R s g) (f : α → α) :
    Sim (s.map f) (g.map f) := by
  refine ⟨⟨h.1, h.2.1, (List.length_map f).trans h.2.2.1, fun r c hr hc => ?_⟩, rfl⟩
  simp only [Arr.map, Grid.map, List.getElem?_map]
  rw [h.2.2.2 r c hr hc]; rfl

theorem R_convert (h : R s g) (conv : α → Option α) :
    Sim (s.convert conv) (g.convert conv) := by
  unfold Arr.convert Grid.convert
  rw [collect_map_conv, ← h.flat]
  by_cases hall : (s.inner.all fun x => (conv x).isSome) = true
  · rw [if_pos hall, if_pos hall]
    exact R_map h fun x => (conv x).getD x
  · rw [if_neg hall, if_neg hall]
    exact ⟨h, rfl⟩

theorem R_setRow (h : R s g) (r : Nat) (vs : List α) :
    Sim (s.setRow r vs) (g.setRow r vs) := by
  unfold Arr.setRow Grid.setRow
  by_cases hr : r ≥ g.h
  · rw [if_pos (h.1 ▸ hr), if_pos (Or.inl hr)]; exact ⟨h, rfl⟩
  · have hr' : r < g.rows.length := by rw [g.rows_length]; omega
    rw [if_neg (h.1 ▸ hr), if_neg (Nat.not_lt.mpr (h.row_end_le (Nat.lt_of_not_ge hr))), h.2.1]
    by_cases hv : vs.length = g.w
    · rw [if_neg fun hne => hne hv, if_neg (not_or.mpr ⟨hr, fun hne => hne hv⟩), h.flat, Grid.flat,
        set_flatten_uniform g.rows_uniform hr']
      refine ⟨R_of_rows rfl h.1 rfl (by rw [List.length_set, g.rows_length])
        (g.rows_uniform.set r hv) fun r' c hr'' hc => ?_, rfl⟩
      dsimp only at hc ⊢
      rw [List.getElem_set]
      by_cases e : r' = r
      · rw [if_pos e.symm, if_pos e]; exact getElem?_eq_some_getD (hv ▸ hc) _
      · rw [if_neg (Ne.symm e), if_neg e, g.rows_cell _ hc]
    · rw [if_pos hv, if_pos (Or.inr hv)]; exact ⟨h, rfl⟩

theorem fillRow_eq (s : Arr α) (r : Nat) (v : α) :
    s.fillRow r v = s.setRow r (List.replicate s.width v) := by
  unfold Arr.fillRow Arr.setRow
  rw [List.length_replicate, if_neg fun hne : s.width ≠ s.width => hne rfl]

theorem R_fillRow (h : R s g) (r : Nat) (v : α) :
    Sim (s.fillRow r v) (g.fillRow r v) := by
  rw [fillRow_eq]
  have key := R_setRow h r (List.replicate s.width v)
  unfold Grid.setRow at key
  unfold Grid.fillRow
  by_cases hr : r ≥ g.h
  · rw [if_pos (Or.inl hr)] at key
    rw [if_pos hr]
    exact key
  · rw [if_neg (by rw [List.length_replicate, h.2.1]; exact not_or.mpr ⟨hr, fun hne => hne rfl⟩)] at key
    rw [if_neg hr]
    refine ⟨R_congr key.1 rfl rfl fun r' c _ hc => ?_, key.2⟩
    by_cases e : r' = r
    · simp [e, h.2.1, hc]
    · simp [e]

theorem swapIdx_comm (a b r : Nat) :
    (if r = a then b else if r = b then a else r) = (if r = b then a else if r = a then b else r) := by
  split <;> split <;> omega

/-- the code orders the two rows first, so their order in the call does not matter -/
theorem Arr.swapRows_comm (s : Arr α) (a b : Nat) : s.swapRows a b = s.swapRows b a := by
  have key : ∀ a b, a < b → s.swapRows a b = s.swapRows b a := by
    intro a b hlt
    unfold Arr.swapRows
    dsimp only
    rw [if_neg (Nat.lt_asymm hlt), if_neg (Nat.lt_asymm hlt), if_pos hlt, if_pos hlt,
      if_neg (Nat.ne_of_lt hlt), if_neg (Nat.ne_of_gt hlt)]
    exact ite_congr (propext Or.comm) (fun _ => rfl) (fun _ => rfl)
  rcases Nat.lt_trichotomy a b with hlt | rfl | hgt
  · exact key a b hlt
  · rfl
  · exact (key b a hgt).symm

theorem Grid.swapRows_comm (g : Grid α) (a b : Nat) : g.swapRows a b = g.swapRows b a := by
  unfold Grid.swapRows
  simp only [or_comm, swapIdx_comm a b]

theorem R.swapRows_lt (h : R s g) {a b : Nat} (hlt : a < b) (hb : b < g.h) :
    s.swapRows a b = (⟨((g.rows.set a (g.row b)).set b (g.row a)).flatten, g.h, g.w⟩, .ok) := by
  have hb' : b < g.rows.length := g.rows_length.symm ▸ hb
  have hab : ¬(a ≥ g.h ∨ b ≥ g.h) := by omega
  have h1 := Nat.add_one_mul a g.w
  have h2 := row_le (w := g.w) hlt
  have h3 := row_le (w := g.w) hb
  unfold Arr.swapRows
  dsimp only
  rw [h.1, h.2.1, if_neg hab, if_neg (Nat.ne_of_lt hlt), if_neg (Nat.lt_asymm hlt),
    if_neg (Nat.lt_asymm hlt), if_neg (by rw [h.length]; omega),
    if_neg (by rw [List.length_drop, h.length]; omega),
    if_neg (by rw [List.length_take, h.length]; omega),
    h.flat, Grid.flat, swap_flatten_uniform g.rows_uniform hlt hb', g.rows_getElem, g.rows_getElem]

theorem R_swapRows_lt (h : R s g) {a b : Nat} (hlt : a < b) :
    Sim (s.swapRows a b) (g.swapRows a b) := by
  by_cases hb : b ≥ g.h
  · rw [Arr.swapRows, Grid.swapRows, if_pos (Or.inr (h.1 ▸ hb)), if_pos (Or.inr hb)]; exact ⟨h, rfl⟩
  · rw [h.swapRows_lt hlt (Nat.lt_of_not_ge hb), Grid.swapRows, if_neg (by omega)]
    refine ⟨R_of_rows rfl rfl rfl (by rw [List.length_set, List.length_set, g.rows_length])
      ((g.rows_uniform.set a (g.row_length b)).set b (g.row_length a))
      fun r c hr hc => ?_, rfl⟩
    dsimp only at hc ⊢
    rw [List.getElem_set, List.getElem_set]
    by_cases e1 : r = a
    · rw [if_neg (by omega), if_pos e1.symm, if_pos e1, g.row_getElem?, if_pos hc]
    · by_cases e2 : r = b
      · rw [if_pos e2.symm, if_neg e1, if_pos e2, g.row_getElem?, if_pos hc]
      · rw [if_neg (Ne.symm e2), if_neg (Ne.symm e1), if_neg e1, if_neg e2, g.rows_cell _ hc]

theorem R_swapRows (h : R s g) (a b : Nat) :
    Sim (s.swapRows a b) (g.swapRows a b) := by
  rcases Nat.lt_trichotomy a b with hlt | rfl | hgt
  · exact R_swapRows_lt h hlt
  · unfold Arr.swapRows Grid.swapRows
    rw [h.1]
    by_cases hb : a ≥ g.h ∨ a ≥ g.h
    · rw [if_pos hb, if_pos hb]; exact ⟨h, rfl⟩
    · rw [if_neg hb, if_neg hb, if_pos rfl]
      refine ⟨R_congr h rfl rfl fun r c _ _ => ?_, rfl⟩
      dsimp only
      split <;> simp_all
  · rw [Arr.swapRows_comm, Grid.swapRows_comm]; exact R_swapRows_lt h hgt

theorem rowsMutGo_uniform (F : Nat → List α → List α) (w : Nat) (rows : List (List α))
    (hu : Uniform w rows) (idx : Nat) (acc : List α) :
    rowsMutGo F w rows.length idx rows.flatten acc =
      some (acc ++ (rows.mapIdx fun i row => F (idx + i) row).flatten) := by
  induction rows generalizing idx acc with
  | nil => simp [rowsMutGo]
  | cons row rest ih =>
    obtain ⟨h1, h2⟩ := List.forall_mem_cons.mp hu
    rw [List.length_cons, List.flatten_cons, rowsMutGo, if_neg (by rw [List.length_append]; omega),
      List.take_left' h1, List.drop_left' h1, ih h2, List.mapIdx_cons, List.flatten_cons,
      List.append_assoc]
    simp only [Nat.add_zero, Nat.add_assoc, Nat.add_comm 1]

theorem R_rowsMut (h : R s g) (F : Nat → List α → List α)
    (hF : ∀ r row, (F r row).length = row.length) :
    Sim (s.rowsMut F) (g.rowsMut F) := by
  unfold Arr.rowsMut
  have e := rowsMutGo_uniform F g.w g.rows g.rows_uniform 0 []
  rw [g.rows_length, List.nil_append] at e
  rw [h.1, h.2.1, h.flat, Grid.flat, e]
  refine ⟨R_of_rows rfl rfl rfl (List.length_mapIdx.trans g.rows_length) ?_ ?_, rfl⟩
  · intro row hrow
    obtain ⟨r, hr, rfl⟩ := List.getElem_of_mem hrow
    rw [List.getElem_mapIdx, hF]; exact g.rows_uniform _ (List.getElem_mem _)
  · intro r c hr hc
    rw [List.getElem_mapIdx, Nat.zero_add, g.rows_getElem]
    exact getElem?_eq_some_getD (by rw [hF, g.row_length]; exact hc) _

theorem R.rowSlice? (h : R s g) (r : Nat) :
    s.rowSlice? r = if r < g.h then some (g.row r) else none := by
  unfold Arr.rowSlice?
  rw [h.1]
  by_cases hr : r < g.h
  · have hr' : r < g.rows.length := g.rows_length.symm ▸ hr
    rw [if_neg (Nat.not_le.mpr hr), if_neg (Nat.not_lt.mpr (h.row_end_le hr)), if_pos hr, h.2.1, h.flat,
      Grid.flat, slice_flatten_uniform g.rows_uniform hr', g.rows_getElem]
  · rw [if_pos (Nat.le_of_not_lt hr), if_neg hr]

theorem R.at2? (h : R s g) (r c : Nat) :
    s.at2? r c = if r < g.h ∧ c < g.w then some (g.cell r c) else none := by
  unfold Arr.at2?
  rw [h.rowSlice?]
  by_cases hr : r < g.h
  · rw [if_pos hr]
    simp only [g.row_getElem?, hr, true_and]
  · rw [if_neg hr, if_neg fun hb => hr hb.1]

theorem rowsGo_uniform (w : Nat) (rows : List (List α)) (hu : Uniform w rows) :
    rowsGo w rows.length rows.flatten = some rows := by
  induction rows with
  | nil => rfl
  | cons row rest ih =>
    obtain ⟨h1, h2⟩ := List.forall_mem_cons.mp hu
    rw [List.length_cons, List.flatten_cons, rowsGo]
    by_cases hw : w = 0
    · rw [if_pos hw, List.eq_nil_of_length_eq_zero (h1.trans hw), List.nil_append, ih h2]
    · rw [if_neg hw, if_neg (by rw [List.length_append]; omega), List.take_left' h1,
        List.drop_left' h1, ih h2]

theorem R.rows? (h : R s g) : s.rows? = some g.rows := by
  unfold Arr.rows?
  rw [h.flat, h.1, h.2.1, ← g.rows_length]
  exact rowsGo_uniform g.w g.rows g.rows_uniform

end

theorem R.extreme {s : Arr α} {g : Grid α} (h : R s g) (f : α → α → α) :
    s.extreme f = .opt (reduce? f g.flat) := by
  unfold Arr.extreme Arr.isEmpty
  rw [h.flat, h.1, h.2.1]
  have hl := g.flat_length
  cases hf : g.flat with
  | nil =>
    rw [hf] at hl
    have : g.h = 0 ∨ g.w = 0 := Nat.mul_eq_zero.mp hl.symm
    simp [this, reduce?]
  | cons x xs =>
    rw [hf, List.length_cons] at hl
    have : ¬(g.h = 0 ∨ g.w = 0) := by rw [← Nat.mul_eq_zero]; omega
    simp [this, reduce?]

theorem R.table? {s : Arr α} {g : Grid α} (h : R s g) : s.table? = some g.rows := by
  unfold Arr.table?
  rw [h.1, h.2.1]
  exact collect_tab g.h g.w s.at? g.cell fun r c hr hc => by rw [h.at?, if_pos ⟨hr, hc⟩]

theorem R.display {s : Arr α} {g : Grid α} (h : R s g) (fmt : α → List Char) :
    s.display fmt = .text (layout fmt g.h g.w g.rows) := by
  unfold Arr.display
  rw [h.table?, h.1, h.2.1]
  by_cases he : g.h = 0 ∨ g.w = 0
  · rw [if_pos he, layout, if_pos he]
  · rw [if_neg he]

theorem R.asScalar {s : Arr α} {g : Grid α} (h : R s g) :
    s.asScalar = if g.h = 1 ∧ g.w = 1 then .opt (some (g.cell 0 0)) else .opt none := by
  unfold Arr.asScalar
  rw [h.1, h.2.1]
  by_cases he : g.h = 1 ∧ g.w = 1
  · have := h.2.2.2 0 0 (by omega) (by omega)
    rw [Nat.zero_mul] at this
    rw [if_pos he, if_pos he, this]
  · rw [if_neg he, if_neg he]

theorem mem_cells {β : Type} {f : Nat → Nat → β} {h w : Nat} {p : β} :
    (p ∈ (List.range h).flatMap fun r => (List.range w).map (f r)) ↔
      ∃ r c, r < h ∧ c < w ∧ f r c = p := by
  simp only [List.mem_flatMap, List.mem_map, List.mem_range]
  exact ⟨fun ⟨r, hr, c, hc, e⟩ => ⟨r, c, hr, hc, e⟩, fun ⟨r, c, hr, hc, e⟩ => ⟨r, hr, c, hc, e⟩⟩

theorem forall_mem_cells {β : Type} (f : Nat → Nat → β) (h w : Nat) (P : β → Prop) :
    (∀ p ∈ (List.range h).flatMap fun r => (List.range w).map (f r), P p) ↔
      ∀ r c, r < h → c < w → P (f r c) :=
  ⟨fun H r c hr hc => H _ (mem_cells.mpr ⟨r, c, hr, hc, rfl⟩), fun H p hp => by
    obtain ⟨r, c, hr, hc, rfl⟩ := mem_cells.mp hp
    exact H r c hr hc⟩

theorem eqLoop_some [DecidableEq α] (L : List (Option α × Option α))
    (hs : ∀ p ∈ L, ∃ a b, p = (some a, some b)) :
    eqLoop L = .bool (decide (∀ p ∈ L, p.1 = p.2)) := by
  induction L with
  | nil => simp [eqLoop]
  | cons p rest ih =>
    obtain ⟨⟨a, b, rfl⟩, hrest⟩ := List.forall_mem_cons.mp hs
    by_cases hab : a = b <;> simp [eqLoop, ih hrest, hab]

theorem Grid.rows_eq_iff (g : Grid α) (other : List (List α)) (hl : g.h = other.length)
    (hu : Uniform g.w other) :
    g.rows = other ↔
      ∀ r c, r < g.h → c < g.w → some (g.cell r c) = (other[r]?).bind (·[c]?) := by
  constructor
  · rintro rfl r c hr hc
    rw [g.rows_getElem?, if_pos hr, Option.bind_some, g.row_getElem?, if_pos hc]
  · intro hcells
    refine (Grid.rows_ext hl.symm hu fun r c hr hc => ?_).symm
    rw [hcells r c (hl ▸ hr) hc, List.getElem?_eq_getElem hr, Option.bind_some]

theorem R.eqNested [DecidableEq α] {s : Arr α} {g : Grid α} (h : R s g) (other : List (List α)) :
    s.eqNested other = .bool (decide (g.rows = other)) := by
  unfold Arr.eqNested
  rw [h.1, h.2.1]
  by_cases h1 : g.h ≠ other.length
  · have : g.rows ≠ other := fun e => h1 (by rw [← e, g.rows_length])
    rw [if_pos h1, decide_eq_false this]
  · have hl : g.h = other.length := Decidable.of_not_not h1
    rw [if_neg h1]
    by_cases h2 : g.h = 0
    · have e1 : other = [] := List.eq_nil_of_length_eq_zero (hl ▸ h2)
      have e2 : g.rows = [] := List.eq_nil_of_length_eq_zero (g.rows_length.trans h2)
      rw [if_pos h2, e1, e2, decide_eq_true rfl]
    · rw [if_neg h2]
      by_cases h3 : other.any (fun row => row.length ≠ g.w) = true
      · have : g.rows ≠ other := by
          rintro rfl
          obtain ⟨row, hrow, hne⟩ := List.any_eq_true.mp h3
          exact of_decide_eq_true hne (g.rows_uniform row hrow)
        rw [if_pos h3, decide_eq_false this]
      · have hu : Uniform g.w other := fun row hrow =>
          Decidable.of_not_not fun e => h3 (List.any_eq_true.mpr ⟨row, hrow, decide_eq_true e⟩)
        rw [if_neg h3, eqLoop_some]
        · congr 1
          rw [decide_eq_decide, g.rows_eq_iff other hl hu, forall_mem_cells]
          refine forall_congr' fun r => forall_congr' fun c => forall_congr' fun hr =>
            forall_congr' fun hc => ?_
          rw [h.at2?, if_pos ⟨hr, hc⟩]
        · rw [forall_mem_cells]
          intro r c hr hc
          have hr' : r < other.length := hl ▸ hr
          have hc' : c < (other[r]).length := (hu _ (List.getElem_mem hr')).symm ▸ hc
          exact ⟨g.cell r c, other[r][c], by
            rw [h.at2?, if_pos ⟨hr, hc⟩, List.getElem?_eq_getElem hr', Option.bind_some,
              List.getElem?_eq_getElem hc']⟩

/-- constructor results correspond: related states, or the same error -/
def RRes : Res (Arr α) → Res (Grid α) → Prop
  | .ok s, .ok g => R s g
  | .err e, .err e' => e = e'
  | _, _ => False

theorem RRes.ok_or_err {a : Res (Arr α)} {b : Res (Grid α)} (h : RRes a b) :
    (∃ e, a = .err e ∧ b = .err e) ∨ ∃ s g, a = .ok s ∧ b = .ok g ∧ R s g := by
  rcases a with s | e | _ <;> rcases b with g | e' | _ <;> try exact h.elim
  · exact Or.inr ⟨s, g, rfl, rfl, h⟩
  · exact Or.inl ⟨e, rfl, congrArg Res.err (Eq.symm h)⟩

theorem R_new [Inhabited α] : R (Arr.new : Arr α) Grid.new :=
  ⟨rfl, rfl, rfl, fun _ _ hr => absurd hr (Nat.not_lt_zero _)⟩

theorem R_full (v : α) (h w : Nat) : R (Arr.full v h w) (Grid.full v h w) :=
  ⟨rfl, rfl, List.length_replicate, fun r c hr hc => by
    have hk : r * w + c < h * w := idx_lt hr hc
    simp only [Arr.full, Grid.full, List.getElem?_replicate, if_pos hk]⟩

theorem R_identity (zero one : α) (n : Nat) :
    ∃ a, Arr.identity zero one n = .ok a ∧ R a (Grid.identity zero one n) := by
  let stepf := fun (acc : Option (Arr α)) (i : Nat) =>
    match acc with
    | none => none
    | some a =>
      match a.setRowCol i i one with
      | (a', .ok) => some a'
      | _ => none
  -- after `k` rounds of the loop the first `k` diagonal cells are set
  have inv : ∀ k, k ≤ n → ∃ a, (List.range k).foldl stepf (some (Arr.full zero n n)) = some a ∧
      R a ⟨n, n, fun r c => if r = c ∧ r < k then one else zero⟩ := by
    intro k
    induction k with
    | zero =>
      exact fun _ => ⟨_, rfl, R_congr (R_full zero n n) rfl rfl fun r c _ _ => by simp [Grid.full]⟩
    | succ k ih =>
      intro hk
      obtain ⟨a, ha, hR⟩ := ih (Nat.le_of_succ_le hk)
      have key := R_setRowCol hR k k one
      rw [Grid.set, if_neg (show ¬(k ≥ n ∨ k ≥ n) by omega)] at key
      refine ⟨(a.setRowCol k k one).1, ?_, R_congr key.1 rfl rfl fun r c _ _ => ?_⟩
      · rw [List.range_succ, List.foldl_append, ha]
        dsimp only [List.foldl, stepf]
        rw [(Prod.ext rfl key.2 : a.setRowCol k k one = ((a.setRowCol k k one).1, .ok))]
      · dsimp only
        by_cases e : r = k ∧ c = k
        · rw [if_pos e, if_pos ⟨e.1.trans e.2.symm, e.1 ▸ Nat.lt_succ_self k⟩]
        · rw [if_neg e]
          exact ite_congr (propext ⟨fun ⟨h1, h2⟩ => ⟨h1, by omega⟩, fun ⟨h1, h2⟩ => ⟨h1, by omega⟩⟩)
            (fun _ => rfl) (fun _ => rfl)
  obtain ⟨a, ha, hR⟩ := inv n (Nat.le_refl n)
  refine ⟨a, ?_, R_congr hR rfl rfl fun r c hr _ => ?_⟩
  · unfold Arr.identity
    -- `stepf` and the loop body of `Arr.identity` are the same only after unfolding their `match`es
    erw [ha]
  · simp only [Grid.identity, show r < n from hr, and_true]

theorem fromNestedGo_eq (w : Nat) (rows : List (List α)) (acc : List α) :
    fromNestedGo w rows acc =
      if rows.all (fun row => row.length = w) then some (acc ++ rows.flatten) else none := by
  induction rows generalizing acc with
  | nil => simp [fromNestedGo]
  | cons row rest ih =>
    by_cases h : row.length = w <;> simp [fromNestedGo, h, ih, List.append_assoc]

theorem R_ofRows [Inhabited α] (rows : List (List α)) (w : Nat)
    (hu : Uniform w rows) : R ⟨rows.flatten, rows.length, w⟩ (Grid.ofRows rows w) :=
  R_of_rows rfl rfl rfl rfl hu fun r c hr hc => by
    simp only [Grid.ofRows, List.getD_eq_getElem?_getD, List.getElem?_eq_getElem hr, Option.getD_some]
    exact getElem?_eq_some_getD ((hu _ (List.getElem_mem hr)).symm ▸ hc) _

theorem R_fromNested [Inhabited α] (rows : List (List α)) :
    RRes (Arr.fromNested rows) (Grid.fromNested rows) := by
  cases rows with
  | nil => exact R_new
  | cons first rest =>
    simp only [Arr.fromNested, Grid.fromNested, fromNestedGo_eq]
    by_cases hall : ((first :: rest).all fun row => row.length = first.length) = true
    · simp only [hall, if_true, List.nil_append]
      exact R_ofRows _ _ fun row hrow => of_decide_eq_true (List.all_eq_true.mp hall row hrow)
    · simp only [hall]
      rfl

theorem convRows_ok (conv : α → Option α) (w : Nat) (rows rows' : List (List α))
    (h : convRows conv w rows = .ok rows') :
    rows'.length = rows.length ∧ Uniform w rows' := by
  induction rows generalizing rows' with
  | nil =>
    cases h
    exact ⟨rfl, fun _ hr => nomatch hr⟩
  | cons row rest ih =>
    rw [convRows, collect_map_conv] at h
    by_cases hl : row.length ≠ w
    · rw [if_pos hl] at h; cases h
    · rw [if_neg hl] at h
      by_cases hall : (row.all fun x => (conv x).isSome) = true
      · rw [if_pos hall] at h
        cases hr : convRows conv w rest with
        | error e => rw [hr] at h; cases h
        | ok l =>
          rw [hr] at h
          cases h
          obtain ⟨i1, i2⟩ := ih l hr
          exact ⟨by rw [List.length_cons, List.length_cons, i1], List.forall_mem_cons.mpr
            ⟨by rw [List.length_map]; exact Decidable.of_not_not hl, i2⟩⟩
      · rw [if_neg hall] at h
        cases h

theorem fromNestedRefGo_eq (conv : α → Option α) (w : Nat) (rows : List (List α)) (acc : List α) :
    fromNestedRefGo conv w rows acc =
      match convRows conv w rows with
      | .ok rows' => .ok (acc ++ rows'.flatten)
      | .error e => .error e := by
  induction rows generalizing acc with
  | nil => simp [fromNestedRefGo, convRows]
  | cons row rest ih =>
    simp only [fromNestedRefGo, convRows]
    split
    · rfl
    · cases collect (row.map conv) with
      | none => rfl
      | some r =>
        simp only [ih]
        cases convRows conv w rest with
        | error e => rfl
        | ok l => simp [List.append_assoc]

theorem R_fromNestedRef [Inhabited α] (conv : α → Option α) (rows : List (List α)) :
    RRes (Arr.fromNestedRef conv rows) (Grid.fromNestedRef conv rows) := by
  cases rows with
  | nil => exact R_new
  | cons first rest =>
    simp only [Arr.fromNestedRef, Grid.fromNestedRef, fromNestedRefGo_eq]
    cases hc : convRows conv first.length (first :: rest) with
    | error e => exact rfl
    | ok rows' =>
      obtain ⟨h1, h2⟩ := convRows_ok conv _ _ _ hc
      simp only [List.nil_append]
      exact h1 ▸ R_ofRows rows' first.length h2

theorem R_fromArray (m n : Nat) (f : Nat → Nat → α) : R (Arr.fromArray m n f) (Grid.fromArray m n f) :=
  R_of_flat rfl rfl rfl

theorem R_fromFlat (data : List α) (dflt : α) (h w : Nat) :
    RRes (Arr.fromFlat data dflt h w) (Grid.fromFlat data dflt h w) := by
  unfold Arr.fromFlat Grid.fromFlat
  dsimp only
  by_cases hb : data.length > h * w ∨ h * w = 0
  · rw [if_pos hb, if_pos hb]; exact rfl
  · rw [if_neg hb, if_neg hb]
    by_cases hlt : data.length < h * w
    · rw [if_pos hlt]
      refine ⟨rfl, rfl, ?_, fun r c hr hc => ?_⟩
      · show (data ++ List.replicate (h * w - data.length) dflt).length = h * w
        rw [List.length_append, List.length_replicate]; omega
      · have hk : r * w + c < h * w := idx_lt hr hc
        dsimp only
        by_cases hd : r * w + c < data.length
        · rw [List.getElem?_append_left hd]; exact getElem?_eq_some_getD hd _
        · rw [List.getElem?_append_right (Nat.le_of_not_lt hd), List.getElem?_replicate,
            if_pos (by omega), List.getElem?_eq_none_iff.mpr (Nat.le_of_not_lt hd)]
          rfl
    · rw [if_neg hlt]
      have hlen : data.length = h * w := by omega
      exact ⟨rfl, rfl, hlen, fun r c hr hc => getElem?_eq_some_getD (hlen ▸ idx_lt hr hc) _⟩

theorem Grid.mem_flat (g : Grid α) (x : α) :
    x ∈ g.flat ↔ ∃ r c, r < g.h ∧ c < g.w ∧ g.cell r c = x :=
  mem_cells (f := g.cell)

theorem reduce?_none_iff (f : α → α → α) (l : List α) : reduce? f l = none ↔ l = [] := by
  cases l <;> simp [reduce?]

theorem picks_pickMax {β : Type} [LinearOrder β] : Picks (· ≤ ·) (pickMax : β → β → β) := by
  intro x y
  unfold pickMax
  split
  · exact ⟨Or.inl rfl, le_refl x, le_of_lt ‹_›⟩
  · exact ⟨Or.inr rfl, not_lt.mp ‹_›, le_refl y⟩

theorem picks_pickMin {β : Type} [LinearOrder β] : Picks (· ≥ ·) (pickMin : β → β → β) := by
  intro x y
  unfold pickMin
  split
  · exact ⟨Or.inl rfl, le_refl x, le_of_lt ‹_›⟩
  · exact ⟨Or.inr rfl, not_lt.mp ‹_›, le_refl y⟩

theorem Grid.reduce?_picks {β : Type} {le : β → β → Prop} {pick : β → β → β} (hp : Picks le pick)
    (hrefl : ∀ x, le x x) (htrans : ∀ x y z, le x y → le y z → le x z) (g : Grid β) :
    (reduce? pick g.flat = none ↔ (g.h = 0 ∨ g.w = 0)) ∧
    ∀ m, reduce? pick g.flat = some m →
      (∃ r c, r < g.h ∧ c < g.w ∧ g.cell r c = m) ∧ ∀ r c, r < g.h → c < g.w → le (g.cell r c) m := by
  constructor
  · rw [reduce?_none_iff, ← List.length_eq_zero_iff, g.flat_length, Nat.mul_eq_zero]
  · intro m hm
    cases hf : g.flat with
    | nil => rw [hf] at hm; cases hm
    | cons x xs =>
      rw [hf] at hm
      obtain ⟨h1, h2⟩ := foldl_picks hp hrefl htrans xs x
      rw [Option.some.inj hm, ← hf] at h1 h2
      exact ⟨(g.mem_flat m).mp h1, fun r c hr hc => h2 _ ((g.mem_flat _).mpr ⟨r, c, hr, hc, rfl⟩)⟩
end SV.C12
