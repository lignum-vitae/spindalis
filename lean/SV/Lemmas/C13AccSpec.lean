import SV.Lemmas.C13AccSeq
import Mathlib.Data.Matrix.Mul
import Mathlib.LinearAlgebra.Matrix.SemiringInverse
import Mathlib.Algebra.BigOperators.Fin
import Mathlib.Tactic.LinearCombination
/-!
# C13 accuracy, layer 2 — spectral expansion of the exact iterates `Mᵏ·1`

`M` is a real symmetric `n × n` matrix, the rows of `q` an orthonormal family of eigenvectors with
eigenvalues `d` (exactly the hypotheses of `SV.Props.C13.PowerAccuracy`).  No vector is decomposed:
with `coef a x = q a ⬝ᵥ x`, symmetry and the eigen-equation give `coef a (M *ᵥ x) = d a * coef a x`,
and `Q Qᵀ = 1 ⇒ Qᵀ Q = 1` gives Parseval, so for the iterates `xₖ = Mᵏ·1` (`iter`, with
`M xₖ = xₖ₊₁` by definition) `xⱼ ⬝ᵥ xₖ = Σ_a (cc a)² · d a ^ (j + k)`, `cc a = Σ_i q a i`, and
`Σ_a (cc a)² = n`.

For a dominant index `i₁` (`Dominant`), `xⱼ ⬝ᵥ xₖ` in units of `d i₁ ^ (j + k)` is the dominant
weight plus the non-dominant sum of layer 1 (`dot_iter`), so the Rayleigh quotient of `xₖ` is
`d i₁ * rho k` with `rho` the sequence of layer 1 (`rq_iter`), and the hypotheses of layer 1 hold
(`Dominant.hw/hr/h₁/hτ`).
-/
namespace SV.C13.Acc
open Finset Matrix

section spectral
variable {n : ℕ} (M : Matrix (Fin n) (Fin n) ℝ) (q : Fin n → Fin n → ℝ) (d : Fin n → ℝ)

/-- the exact iterates `Mᵏ·1` of the power method (no normalisation) -/
def iter : ℕ → Fin n → ℝ
  | 0 => fun _ => 1
  | k + 1 => M *ᵥ iter k

/-- the coefficient of `x` on the eigenvector `q a` -/
def coef (a : Fin n) (x : Fin n → ℝ) : ℝ := q a ⬝ᵥ x

/-- the coefficient of the all-ones start vector -/
def cc (a : Fin n) : ℝ := ∑ i, q a i

variable (hsym : ∀ i j, M i j = M j i)
  (hq : ∀ a b, ∑ i, q a i * q b i = if a = b then 1 else 0)
  (heig : ∀ a i, ∑ j, M i j * q a j = d a * q a i)

include hq in
/-- a square matrix with orthonormal rows has orthonormal columns -/
theorem col_orth : (Matrix.of q)ᵀ * Matrix.of q = 1 := by
  have h : Matrix.of q * (Matrix.of q)ᵀ = 1 := by
    ext a b
    rw [Matrix.mul_apply, Matrix.one_apply]
    simp only [Matrix.transpose_apply, Matrix.of_apply]
    exact hq a b
  exact mul_eq_one_comm.mp h

include hq in
theorem parseval (x y : Fin n → ℝ) : x ⬝ᵥ y = ∑ a, coef q a x * coef q a y := by
  have e : ∑ a, coef q a x * coef q a y = (Matrix.of q *ᵥ x) ⬝ᵥ (Matrix.of q *ᵥ y) := rfl
  rw [e, Matrix.dotProduct_mulVec, ← Matrix.vecMul_transpose, Matrix.vecMul_vecMul,
    col_orth q hq, Matrix.vecMul_one]

include hsym heig in
theorem coef_mulVec (a : Fin n) (x : Fin n → ℝ) : coef q a (M *ᵥ x) = d a * coef q a x := by
  have hT : Mᵀ = M := by
    ext i j
    rw [Matrix.transpose_apply]
    exact hsym j i
  have he : M *ᵥ q a = d a • q a := by
    funext i
    exact heig a i
  unfold coef
  rw [Matrix.dotProduct_mulVec, ← Matrix.mulVec_transpose, hT, he, smul_dotProduct, smul_eq_mul]

theorem coef_one (a : Fin n) : coef q a (fun _ => 1) = cc q a := by
  unfold coef cc dotProduct
  simp

include hsym heig in
theorem coef_iter (a : Fin n) (k : ℕ) : coef q a (iter M k) = d a ^ k * cc q a := by
  induction k with
  | zero => rw [pow_zero, one_mul]; exact coef_one q a
  | succ k ih =>
    show coef q a (M *ᵥ iter M k) = _
    rw [coef_mulVec M q d hsym heig, ih, pow_succ]
    ring

include hsym hq heig in
theorem moment (j k : ℕ) : iter M j ⬝ᵥ iter M k = ∑ a, cc q a ^ 2 * d a ^ (j + k) := by
  rw [parseval q hq]
  refine Finset.sum_congr rfl fun a _ => ?_
  rw [coef_iter M q d hsym heig, coef_iter M q d hsym heig]
  ring

include hq in
theorem sum_c_sq : ∑ a, cc q a ^ 2 = n := by
  have h := parseval q hq (fun _ => 1) (fun _ => 1)
  have h1 : (fun _ : Fin n => (1 : ℝ)) ⬝ᵥ (fun _ => 1) = n := by
    unfold dotProduct
    simp
  rw [h1] at h
  rw [h]
  apply Finset.sum_congr rfl
  intro a _
  rw [coef_one]
  ring

end spectral

section dominant
variable {n : ℕ} (q : Fin n → Fin n → ℝ) (d : Fin n → ℝ) (i₁ : Fin n)

/-- the non-dominant indices -/
def rest : Finset (Fin n) := Finset.univ.erase i₁
/-- squared start coefficients -/
def ww (a : Fin n) : ℝ := cc q a ^ 2
/-- eigenvalue ratios -/
noncomputable def rr (a : Fin n) : ℝ := d a / d i₁

/-- splitting a spectral moment into the dominant term and the rest, in units of `d i₁ ^ m` -/
theorem moment_split (hD : d i₁ ≠ 0) (m : ℕ) :
    ∑ a, cc q a ^ 2 * d a ^ m
      = d i₁ ^ m * (ww q i₁ + ∑ a ∈ rest i₁, ww q a * rr d i₁ a ^ m) := by
  unfold rest ww rr
  rw [← Finset.add_sum_erase Finset.univ _ (Finset.mem_univ i₁), mul_add, Finset.mul_sum]
  congr 1
  · ring
  · refine Finset.sum_congr rfl fun a _ => ?_
    rw [div_pow, mul_left_comm, mul_div_cancel₀ _ (pow_ne_zero m hD)]

/-- the hypotheses of `PowerAccuracy` on the spectrum and the start vector -/
structure Dominant : Prop where
  hq : ∀ a b, ∑ i, q a i * q b i = if a = b then 1 else 0
  hD : d i₁ ≠ 0
  hgap : ∀ a, a ≠ i₁ → |d a| ≤ |d i₁| / 2
  hstart : (3 / 10 : ℝ) ^ 2 * n ≤ (∑ i, q i₁ i) ^ 2
  hn : 0 < n

variable {q d i₁}

theorem Dominant.hw (_h : Dominant q d i₁) : ∀ a ∈ rest i₁, 0 ≤ ww q a :=
  fun _ _ => sq_nonneg _

theorem Dominant.hr (h : Dominant q d i₁) : ∀ a ∈ rest i₁, |rr d i₁ a| ≤ 1 / 2 := by
  intro a ha
  have hne : a ≠ i₁ := (Finset.mem_erase.mp ha).1
  have hpos : 0 < |d i₁| := abs_pos.mpr h.hD
  unfold rr
  rw [abs_div, div_le_iff₀ hpos]
  have := h.hgap a hne
  linarith

theorem Dominant.h₁ (h : Dominant q d i₁) : 0 < ww q i₁ :=
  lt_of_lt_of_le (mul_pos (by norm_num) (Nat.cast_pos.mpr h.hn)) h.hstart

/-- The non-dominant mass of the start vector is `n - ww i₁` with `ww i₁ ≥ 0.09·n`, hence at most
`(91/9)·ww i₁ ≤ 4²·ww i₁`.  This `4 ^ 2` is why the contraction starts at `k = 2`
(`Dominant.U_le`) and where the `96 / 4ᴺ` of `powerCap_accuracy` comes from. -/
theorem Dominant.hτ (h : Dominant q d i₁) :
    U (rest i₁) (ww q) (rr d i₁) 0 ≤ 4 ^ 2 * ww q i₁ := by
  have hs : ww q i₁ + ∑ a ∈ rest i₁, ww q a = n := by
    rw [← sum_c_sq q h.hq]
    exact Finset.add_sum_erase Finset.univ _ (Finset.mem_univ i₁)
  have hst : (n : ℝ) ≤ 100 / 9 * ww q i₁ := by
    have : (3 / 10 : ℝ) ^ 2 * n ≤ ww q i₁ := h.hstart
    linarith
  simp only [U, Nat.mul_zero, pow_zero, mul_one]
  calc ∑ a ∈ rest i₁, ww q a = n - ww q i₁ := eq_sub_of_add_eq' hs
    _ ≤ 91 / 9 * ww q i₁ := by linarith
    _ ≤ 4 ^ 2 * ww q i₁ := mul_le_mul_of_nonneg_right (by norm_num) h.h₁.le

/-- from the second multiplication on the non-dominant mass is at most the dominant one -/
theorem Dominant.U_le (h : Dominant q d i₁) (k : ℕ) (hk : 2 ≤ k) :
    U (rest i₁) (ww q) (rr d i₁) k ≤ ww q i₁ :=
  U_le_w₁ h.hw h.hr h.h₁ 2 h.hτ k hk

end dominant

section rayleigh
variable {n : ℕ} (M : Matrix (Fin n) (Fin n) ℝ) {q : Fin n → Fin n → ℝ} {d : Fin n → ℝ}
  {i₁ : Fin n}
  (hsym : ∀ i j, M i j = M j i)
  (heig : ∀ a i, ∑ j, M i j * q a j = d a * q a i)
  (h : Dominant q d i₁)
include hsym heig h

/-- the normalised Rayleigh quotient of layer 1, for this spectrum and start vector -/
noncomputable abbrev rhoOf (_h : Dominant q d i₁) (k : ℕ) : ℝ :=
  rho (rest i₁) (ww q) (rr d i₁) (ww q i₁) k
/-- the relative eigenvalue error of layer 1, for this spectrum and start vector -/
noncomputable abbrev epsOf (_h : Dominant q d i₁) (k : ℕ) : ℝ :=
  eps (rest i₁) (ww q) (rr d i₁) (ww q i₁) k

theorem dot_iter (j k : ℕ) : iter M j ⬝ᵥ iter M k
    = d i₁ ^ (j + k) * (ww q i₁ + ∑ a ∈ rest i₁, ww q a * rr d i₁ a ^ (j + k)) := by
  rw [moment M q d hsym h.hq heig, moment_split q d i₁ h.hD]

theorem norm_iter (k : ℕ) : iter M k ⬝ᵥ iter M k
    = d i₁ ^ (2 * k) * (ww q i₁ + U (rest i₁) (ww q) (rr d i₁) k) := by
  rw [dot_iter M hsym heig h, ← two_mul]
  rfl

theorem norm_iter_pos (k : ℕ) : 0 < iter M k ⬝ᵥ iter M k := by
  rw [norm_iter M hsym heig h]
  exact mul_pos ((even_two_mul k).pow_pos h.hD) (den_pos h.hw h.hr h.h₁ k)

theorem rq_iter (k : ℕ) :
    (iter M k ⬝ᵥ M *ᵥ iter M k) / (iter M k ⬝ᵥ iter M k) = d i₁ * rhoOf h k := by
  have e : iter M k ⬝ᵥ M *ᵥ iter M k
      = d i₁ * d i₁ ^ (2 * k) * (ww q i₁ + V (rest i₁) (ww q) (rr d i₁) k) := by
    have := dot_iter M hsym heig h k (k + 1)
    rw [show k + (k + 1) = 2 * k + 1 by omega, pow_succ'] at this
    exact this
  rw [e, norm_iter M hsym heig h, mul_assoc, mul_div_assoc,
    mul_div_mul_left _ _ (pow_ne_zero _ h.hD)]
  rfl

end rayleigh
end SV.C13.Acc
