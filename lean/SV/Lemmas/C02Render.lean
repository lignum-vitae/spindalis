import SV.Lemmas.C02Grammar
/-!
Every text of the grammar is accepted, step by step along the parser (letters may repeat within a
term: `TermSyn.WF'`, `TermSyn.read`): the normalisation leaves every term body alone and turns every
separator into `+` (`protectDash_render`), the split at `+` gives one part per term (`parts_render`),
and each part parses to the term the parser builds for it (`parsePart_render`).  With distinct letters
nothing is merged (`SV.C16Inter.read_eq_toITerm`), which gives `parse_render`.
-/
namespace SV.C02
open SV SV.Text

theorem protectDash_dash {p : Option Char} (h : p ≠ some '^') (cs : List Char) :
    protectDash p ('-' :: cs) = '+' :: '-' :: protectDash (some '-') cs := by
  rw [protectDash, if_pos ⟨rfl, h⟩]

theorem protectDash_ne {c : Char} (h : c ≠ '-') (p : Option Char) (cs : List Char) :
    protectDash p (c :: cs) = c :: protectDash (some c) cs := by
  rw [protectDash, if_neg (fun e => h e.1)]

theorem protectDash_caret_dash (cs : List Char) :
    protectDash (some '^') ('-' :: cs) = '-' :: protectDash (some '-') cs := by
  rw [protectDash, if_neg (fun e => e.2 rfl)]

/-- the state after `a`: its last character, or `prev` if `a` is empty -/
def lastOr : Option Char → List Char → Option Char
  | prev, [] => prev
  | _, c :: cs => lastOr (some c) cs

theorem protectDash_append (prev : Option Char) (a b : List Char) :
    protectDash prev (a ++ b) = protectDash prev a ++ protectDash (lastOr prev a) b := by
  induction a generalizing prev with
  | nil => rfl
  | cons c cs ih =>
    simp only [List.cons_append, protectDash, lastOr]
    split <;> simp [ih]

theorem lastOr_append (prev : Option Char) (a b : List Char) :
    lastOr prev (a ++ b) = lastOr (lastOr prev a) b := by
  induction a generalizing prev with
  | nil => rfl
  | cons c cs ih => simp only [List.cons_append, lastOr, ih]

theorem lastOr_eq_getLast? {a : List Char} (ha : a ≠ []) (prev : Option Char) :
    lastOr prev a = a.getLast? := by
  induction a generalizing prev with
  | nil => exact absurd rfl ha
  | cons c cs ih =>
    cases cs with
    | nil => rfl
    | cons d ds => rw [lastOr, ih (by simp), List.getLast?_cons_cons]

/-- the text is left alone whatever precedes it -/
def Stable (a : List Char) : Prop := ∀ prev, protectDash prev a = a

theorem Stable.append {a b : List Char} (ha : Stable a) (hb : Stable b) : Stable (a ++ b) := by
  intro prev
  rw [protectDash_append, ha, hb]

theorem stable_of_no_dash {a : List Char} (h : '-' ∉ a) : Stable a := by
  induction a with
  | nil => exact fun _ => rfl
  | cons c cs ih =>
    intro prev
    rw [protectDash_ne (fun e => h (by simp [e])), ih (fun e => h (by simp [e]))]

theorem dash_not_mem_coef {k : Coef} (hk : k.WF) : '-' ∉ k.render := fun h => by
  rcases coefChars hk _ h with h | h | h
  · exact digit_ne_dash h rfl
  · exact absurd h (by decide)
  · exact absurd h (by decide)

/-- directly after `^` an exponent keeps its sign -/
theorem protectDash_expo {e : Expo} (he : e.WF) : protectDash (some '^') e.render = e.render := by
  have signed : ∀ (neg : Bool) {x : List Char}, Stable x →
      protectDash (some '^') (signChars neg ++ x) = signChars neg ++ x := by
    intro neg x hx
    cases neg with
    | false => exact hx _
    | true => exact (protectDash_caret_dash x).trans (congrArg _ (hx _))
  cases e with
  | dec neg u => exact signed neg (stable_of_no_dash (UDec.dash_not_mem he))
  | frac neg a b =>
    rw [Expo.render, List.append_assoc]
    exact signed neg (stable_of_no_dash (dash_not_mem_coef (k := .frac a b) he))

theorem stable_factors {fs : List Factor} (hl : ∀ f ∈ fs, isAsciiLetter f.letter = true)
    (he : ∀ f ∈ fs, ∀ e, f.exp = some e → e.WF) : Stable (renderFactors fs) := by
  induction fs with
  | nil => exact fun _ => rfl
  | cons f fs ih =>
    rw [renderFactors_cons]
    refine Stable.append (fun prev => ?_)
      (ih (fun g hg => hl g (by simp [hg])) (fun g hg => he g (by simp [hg])))
    rw [Factor.render, protectDash_ne (letter_ne_dash (hl f (by simp)))]
    cases hx : f.exp with
    | none => rfl
    | some e =>
      simp only
      rw [protectDash_ne (by decide), protectDash_expo (he f (by simp) e hx)]

/-- a term body passes through the normalisation unchanged, whatever precedes it, and the next
character is never taken for "directly after `^`" -/
theorem protectDash_body {t : TermSyn} (ht : t.WF') (p : Option Char) (rest : List Char) :
    ∃ p', p' ≠ some '^' ∧ protectDash p (t.body ++ rest) = t.body ++ protectDash p' rest := by
  have hs : Stable t.body :=
    (stable_of_no_dash (dash_not_mem_coef ht.coef_wf)).append (stable_factors ht.letters ht.exps_wf)
  obtain ⟨hne, hend⟩ := endsOK_body ht
  refine ⟨lastOr p t.body, fun e => ?_, by rw [protectDash_append, hs]⟩
  rw [lastOr_eq_getLast? hne] at e
  exact (hend _ e).not_op.2.2.1 rfl

theorem protectDash_sep (neg : Bool) {p : Option Char} (hp : p ≠ some '^') (rest : List Char) :
    ∃ p', protectDash p ((if neg then '-' else '+') :: rest) =
      '+' :: signChars neg ++ protectDash p' rest := by
  cases neg with
  | false => exact ⟨some '+', by rw [if_neg Bool.false_ne_true, protectDash_ne (by decide)]; rfl⟩
  | true => exact ⟨some '-', by rw [if_pos rfl, protectDash_dash hp]; rfl⟩

theorem protectDash_lead (neg lead : Bool) (rest : List Char) :
    ∃ p', protectDash none ((if neg then ['-'] else if lead then ['+'] else []) ++ rest) =
      (if neg = true ∨ lead = true then ['+'] else []) ++ signChars neg ++ protectDash p' rest := by
  cases neg with
  | true =>
    refine ⟨some '-', ?_⟩
    rw [if_pos rfl, if_pos (Or.inl rfl)]
    exact protectDash_dash (by simp) rest
  | false =>
    cases lead with
    | true => exact ⟨some '+', protectDash_ne (by decide) none rest⟩
    | false => exact ⟨none, rfl⟩

theorem protectDash_tail (ts : List TermSyn) (hwf : ∀ t ∈ ts, t.WF') (p : Option Char)
    (hp : p ≠ some '^') :
    protectDash p (ts.flatMap fun u => (if u.neg then '-' else '+') :: u.body) =
      ts.flatMap fun u => '+' :: u.piece := by
  induction ts generalizing p with
  | nil => rfl
  | cons u us ih =>
    obtain ⟨p1, e1⟩ := protectDash_sep u.neg hp
      (u.body ++ us.flatMap fun u => (if u.neg then '-' else '+') :: u.body)
    obtain ⟨p', h1, h2⟩ := protectDash_body (hwf u (by simp)) p1
      (us.flatMap fun u => (if u.neg then '-' else '+') :: u.body)
    rw [List.flatMap_cons, List.cons_append, e1, h2, ih (fun t ht => hwf t (by simp [ht])) p' h1,
      List.flatMap_cons]
    simp only [TermSyn.piece, List.cons_append, List.append_assoc]

/-- **Normalisation of a rendering**: the pieces joined by `+`, with a leading `+` exactly when the
first term is written with a sign.  Every `-` that is the sign of an exponent stays inside its piece. -/
theorem protectDash_render (lead : Bool) (t : TermSyn) (ts : List TermSyn)
    (hwf : ∀ u ∈ t :: ts, u.WF') :
    protectDash none (render lead (t :: ts)) =
      (if t.neg = true ∨ lead = true then ['+'] else []) ++ t.piece ++
        ts.flatMap fun u => '+' :: u.piece := by
  obtain ⟨p1, e1⟩ := protectDash_lead t.neg lead
    (t.body ++ ts.flatMap fun u => (if u.neg then '-' else '+') :: u.body)
  obtain ⟨p', h1, h2⟩ := protectDash_body (hwf t (by simp)) p1
    (ts.flatMap fun u => (if u.neg then '-' else '+') :: u.body)
  rw [render, List.append_assoc, e1, h2,
    protectDash_tail ts (fun u hu => hwf u (by simp [hu])) p' h1]
  simp only [TermSyn.piece, List.append_assoc]

theorem piece_ne_nil {t : TermSyn} (ht : t.WF') : t.piece ≠ [] := by
  unfold TermSyn.piece
  intro e
  exact body_ne_nil ht (List.append_eq_nil_iff.1 e).2

theorem piece_ne_dash {t : TermSyn} (ht : t.WF') : t.piece ≠ ['-'] := by
  intro e
  have h : EndsOK t.piece := (endsOK_body ht).append_left _
  rw [e] at h
  exact (h.2 '-' rfl).not_op.2.1 rfl

theorem parts_join (c : Prop) [Decidable c] (q : List Char) (qs : List (List Char)) (hq : q ≠ [])
    (h : ∀ r ∈ q :: qs, '+' ∉ r) :
    parts ((if c then ['+'] else []) ++ q ++ qs.flatMap fun r => '+' :: r) = q :: qs := by
  unfold parts
  by_cases hc : c
  · have e : (['+'] ++ q ++ qs.flatMap fun r => '+' :: r) = [] ++ (q :: qs).flatMap fun r => '+' :: r :=
      rfl
    rw [if_pos hc, e, splitOn_join [] _ (by simp) h]
  · rw [if_neg hc, List.nil_append, splitOn_join q qs (h q (by simp)) (fun r hr => h r (by simp [hr]))]
    cases q with
    | nil => exact absurd rfl hq
    | cons d ds => rfl

theorem parts_render (lead : Bool) (ts : List TermSyn) (hwf : ∀ u ∈ ts, u.WF') :
    parts (protectDash none (render lead ts)) = ts.map TermSyn.piece := by
  cases ts with
  | nil => rfl
  | cons t ts =>
    rw [protectDash_render lead t ts hwf,
      (List.flatMap_map TermSyn.piece (fun r => '+' :: r) ts).symm,
      parts_join _ _ _ (piece_ne_nil (hwf t (by simp)))]
    · rfl
    · intro r hr
      obtain ⟨u, hu, rfl⟩ := List.mem_map.1 (List.map_cons ▸ hr)
      exact plus_not_mem_piece (hwf u hu)

/-- where the coefficient scan and the exponent scan stop: at the end of the text or at an ASCII letter -/
def LetterHead (r : List Char) : Prop := r = [] ∨ ∃ c cs, r = c :: cs ∧ isAsciiLetter c = true

theorem letterHead_factors {fs : List Factor} (hl : ∀ f ∈ fs, isAsciiLetter f.letter = true) :
    LetterHead (renderFactors fs) := by
  cases fs with
  | nil => exact Or.inl rfl
  | cons f fs =>
    right
    refine ⟨f.letter, f.render.tail ++ renderFactors fs, ?_, hl f (by simp)⟩
    simp [renderFactors, Factor.render]

theorem scanCoeff_append {cc : CharClass} (hcc : NumericSane cc) (a rest : List Char)
    (ha : ∀ c ∈ a, isAsciiDigit c = true ∨ c = '.' ∨ c = '/') (hr : LetterHead rest) (first : Bool) :
    scanCoeff cc first (a ++ rest) = (a, rest) := by
  induction a generalizing first with
  | nil =>
    rcases hr with rfl | ⟨c, cs, rfl, hc⟩
    · rfl
    · rw [List.nil_append, scanCoeff, if_neg]
      rintro (h | h | h | h)
      · rw [hcc.letter_not_numeric c hc] at h; cases h
      · exact letter_ne_dot hc h
      · exact letter_ne_dash hc h.2
      · exact letter_ne_slash hc h
  | cons c cs ih =>
    have hc : cc.isNumeric c = true ∨ c = '.' ∨ (first = true ∧ c = '-') ∨ c = '/' := by
      rcases ha c (by simp) with h | h | h
      · exact Or.inl (hcc.digit_numeric c h)
      · exact Or.inr (Or.inl h)
      · exact Or.inr (Or.inr (Or.inr h))
    rw [List.cons_append, scanCoeff, if_pos hc, ih (fun d hd => ha d (by simp [hd]))]

theorem scanCoeff_signed {cc : CharClass} (hcc : NumericSane cc) (neg : Bool) (a rest : List Char)
    (ha : ∀ c ∈ a, isAsciiDigit c = true ∨ c = '.' ∨ c = '/') (hr : LetterHead rest) :
    scanCoeff cc true (signChars neg ++ a ++ rest) = (signChars neg ++ a, rest) := by
  cases neg with
  | false => simpa [signChars] using scanCoeff_append hcc a rest ha hr true
  | true =>
    simp only [signChars, if_true, List.cons_append, List.nil_append]
    rw [scanCoeff, if_pos (Or.inr (Or.inr (Or.inl ⟨rfl, rfl⟩))), scanCoeff_append hcc a rest ha hr]

theorem signed_udec_ne {u : UDec} (hu : u.WF) (neg : Bool) (x : List Char) :
    signChars neg ++ u.render ++ x ≠ [] ∧ signChars neg ++ u.render ++ x ≠ ['-'] := by
  obtain ⟨c, hc⟩ := List.exists_mem_of_ne_nil _ (UDec.render_ne_nil hu)
  have hm : c ∈ signChars neg ++ u.render ++ x := by simp [hc]
  constructor
  · intro e
    rw [e] at hm
    cases hm
  · intro e
    rw [e] at hm
    exact UDec.dash_not_mem hu (List.mem_singleton.1 hm ▸ hc)

theorem contains_slash_signed {u : UDec} (hu : u.WF) (neg : Bool) :
    (signChars neg ++ u.render).contains '/' = false := by
  rw [List.contains_eq_mem, decide_eq_false_iff_not]
  intro h
  rcases List.mem_append.1 h with h | h
  · exact absurd (mem_signChars h) (by decide)
  · exact UDec.slash_not_mem hu h

theorem expValue_dec {s : List Char} {d : Dec}
    (h2 : s.contains '/' = false) (h3 : parseSignedDec s = some d) :
    expValue s = .ok (.dec d) := by
  unfold expValue
  rw [if_neg (by rw [h2]; decide), h3]

theorem expValue_frac {s : List Char} {v : Num}
    (h2 : s.contains '/' = true) (h3 : parseFraction s = some v) :
    expValue s = .ok v := by
  unfold expValue
  rw [if_pos h2, h3]

theorem expValue_render {e : Expo} (he : e.WF) : expValue e.render = .ok e.num := by
  cases e with
  | dec neg u =>
    exact expValue_dec (contains_slash_signed he neg) (parseSignedDec_render he neg)
  | frac neg a b =>
    exact expValue_frac (by simp [Expo.render]) (parseFraction_render he.1 he.2.1 he.2.2 neg)

/-- a coefficient text other than `""` and `"-"` is read like an exponent text (the two readers
differ in the error they report) -/
theorem coeffValue_eq_ok_iff {s : List Char} (h0 : s ≠ []) (h1 : s ≠ ['-']) (c : Num) :
    coeffValue s = .ok c ↔ expValue s = .ok c := by
  rw [coeffValue, if_neg h0, if_neg h1, expValue]
  split
  · cases parseFraction s <;> simp
  · cases parseSignedDec s <;> simp

theorem coeffValue_render {k : Coef} (hk : k.WF) (neg : Bool) :
    coeffValue (signChars neg ++ k.render) = .ok (k.num neg) := by
  cases k with
  | none =>
    cases neg <;> simp [coeffValue, signChars, Coef.render, Coef.num]
  | dec u =>
    have h := signed_udec_ne hk neg []
    rw [List.append_nil] at h
    exact (coeffValue_eq_ok_iff h.1 h.2 _).2 (expValue_render (e := .dec neg u) hk)
  | frac a b =>
    have h := signed_udec_ne hk.1 neg ('/' :: b.render)
    rw [show signChars neg ++ (Coef.frac a b).render = (Expo.frac neg a b).render from
      (List.append_assoc _ _ _).symm]
    exact (coeffValue_eq_ok_iff h.1 h.2 _).2 (expValue_render (e := .frac neg a b) hk)

theorem scanExp_append (a rest : List Char)
    (ha : ∀ c ∈ a, isAsciiDigit c = true ∨ c = '.' ∨ c = '/' ∨ c = '-') (hr : LetterHead rest) :
    scanExp (a ++ rest) = (a, rest) := by
  induction a with
  | nil =>
    rcases hr with rfl | ⟨c, cs, rfl, hc⟩
    · rfl
    · rw [List.nil_append, scanExp, if_neg]
      rintro (h | h | h | h)
      · rw [letter_not_digit hc] at h; cases h
      · exact letter_ne_dot hc h
      · exact letter_ne_slash hc h
      · exact letter_ne_dash hc h
  | cons c cs ih =>
    rw [List.cons_append, scanExp, if_pos (ha c (by simp)), ih (fun d hd => ha d (by simp [hd]))]

theorem scanVars_nil (fuel : Nat) (vars : List (String × Num)) : scanVars fuel [] vars = .ok vars := by
  cases fuel <;> rfl

theorem scanVars_factor {f : Factor} (hl : isAsciiLetter f.letter = true)
    (he : ∀ e, f.exp = some e → e.WF) (fuel : Nat) {rest : List Char} (hr : LetterHead rest)
    (vars : List (String × Num)) :
    scanVars (fuel + 1) (f.render ++ rest) vars =
      scanVars fuel rest (addVar vars (String.singleton f.letter) f.num) := by
  unfold Factor.render Factor.num
  cases hx : f.exp with
  | none =>
    rw [List.cons_append, List.nil_append, scanVars, if_pos hl]
    intro rest' h
    rcases hr with h' | ⟨d, ds, h', hd⟩
    · rw [h'] at h; cases h
    · rw [h'] at h; cases h; exact letter_ne_caret hd rfl
  | some e =>
    have hwe := he e hx
    simp only [List.cons_append]
    rw [scanVars, if_pos hl]
    simp only [scanExp_append _ _ (expoChars hwe) hr, expValue_render hwe]

theorem scanVars_render (fs : List Factor) (hl : ∀ f ∈ fs, isAsciiLetter f.letter = true)
    (he : ∀ f ∈ fs, ∀ e, f.exp = some e → e.WF) (fuel : Nat)
    (hf : (renderFactors fs).length ≤ fuel) (acc : List (String × Num)) :
    scanVars fuel (renderFactors fs) acc = .ok (mergeFactors fs acc) := by
  induction fs generalizing fuel acc with
  | nil => exact scanVars_nil fuel acc
  | cons f fs ih =>
    have hl' : ∀ g ∈ fs, isAsciiLetter g.letter = true := fun g hg => hl g (by simp [hg])
    rw [renderFactors_cons] at hf ⊢
    cases fuel with
    | zero => simp [Factor.render] at hf
    | succ fuel =>
      rw [scanVars_factor (hl f (by simp)) (he f (by simp)) fuel (letterHead_factors hl'),
        ih hl' (fun g hg => he g (by simp [hg])) fuel]
      · rfl
      · simp only [List.length_append, Factor.render, List.length_cons] at hf
        omega

theorem parsePart_render {cc : CharClass} (hcc : NumericSane cc) {t : TermSyn} (ht : t.WF') :
    parsePart cc t.piece = .ok t.read := by
  unfold parsePart
  rw [piece_eq, scanCoeff_signed hcc t.neg _ _ (coefChars ht.coef_wf) (letterHead_factors ht.letters)]
  simp only [coeffValue_render ht.coef_wf t.neg]
  rw [scanVars_render t.factors ht.letters ht.exps_wf _ (Nat.le_succ _) []]
  rfl

theorem parseParts_render {cc : CharClass} (hcc : NumericSane cc) (ts : List TermSyn)
    (hwf : ∀ t ∈ ts, t.WF') :
    parseParts cc (ts.map TermSyn.piece) = .ok (ts.map TermSyn.read) := by
  rw [parseParts_eq_ok_iff, List.forall₂_map_left_iff, List.forall₂_map_right_iff, List.forall₂_same]
  exact fun t ht => parsePart_render hcc (hwf t ht)

/-- **Every text whose non-white-space characters are a rendering of well-formed terms — letters may
repeat, the list may be empty — is accepted, one parsed term per written term.** -/
theorem parse_render' {cc : CharClass} (hcc : NumericSane cc) (lead : Bool) (ts : List TermSyn)
    (hwf : ∀ t ∈ ts, t.WF') (s : List Char) (hs : stripWs cc s = render lead ts) :
    parse cc s = .ok ⟨ts.map TermSyn.read, variablesOf (ts.map TermSyn.read)⟩ := by
  have hp : parts (normalize cc s) = ts.map TermSyn.piece := by
    rw [normalize, hs, parts_render lead ts hwf]
  rw [parse_eq_ok_iff, hp]
  refine ⟨fun part hpart => ?_, parseParts_render hcc ts hwf, rfl⟩
  obtain ⟨t, ht, rfl⟩ := List.mem_map.1 hpart
  exact ⟨piece_ne_nil (hwf t ht), piece_ne_dash (hwf t ht)⟩

theorem mergeFactors_distinct (fs : List Factor) (acc : List (String × Num))
    (hd : (fs.map (·.letter)).Nodup)
    (hdis : ∀ f ∈ fs, String.singleton f.letter ∉ names acc) :
    mergeFactors fs acc = acc ++ fs.map Factor.entry := by
  unfold mergeFactors
  induction fs generalizing acc with
  | nil => simp
  | cons f fs ih =>
    simp only [List.map_cons, List.nodup_cons] at hd
    simp only [List.foldl_cons, List.map_cons]
    rw [addVar_fresh _ _ _ (hdis f (by simp)), ih _ hd.2]
    · simp [Factor.entry]
    · intro g hg hmem
      simp only [names, List.map_append, List.map_cons, List.map_nil, List.mem_append,
        List.mem_singleton] at hmem
      rcases hmem with h | h
      · exact hdis g (by simp [hg]) h
      · have : g.letter = f.letter := String.singleton_inj.1 h
        exact hd.1 (this ▸ List.mem_map.2 ⟨g, hg, rfl⟩)

end SV.C02

namespace SV.C16Inter
open SV SV.Text SV.C02

theorem read_eq_toITerm {t : TermSyn} (hd : (t.factors.map (·.letter)).Nodup) :
    t.read = t.toITerm := by
  unfold TermSyn.read TermSyn.toITerm
  rw [mergeFactors_distinct t.factors [] hd (fun f _ h => by simp [names] at h), List.nil_append]

end SV.C16Inter

namespace SV.C02
open SV SV.Text

theorem parse_render {cc : CharClass} (hcc : Sane cc) (lead : Bool) (ts : List TermSyn)
    (hne : ts ≠ []) (hwf : ∀ t ∈ ts, t.WF) (s : List Char) (hs : stripWs cc s = render lead ts) :
    parse cc s = .ok ⟨ts.map TermSyn.toITerm, variablesOf (ts.map TermSyn.toITerm)⟩ := by
  have h : ts.map TermSyn.toITerm = ts.map TermSyn.read :=
    List.map_congr_left fun t ht => (C16Inter.read_eq_toITerm (hwf t ht).distinct).symm
  rw [h]
  exact parse_render' hcc.numeric lead ts (fun t ht => (hwf t ht).wf') s hs

end SV.C02
