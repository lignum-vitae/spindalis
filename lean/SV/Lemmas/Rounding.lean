import SV.Model.Basic
import Mathlib.Data.Real.Basic
import Mathlib.Algebra.Order.Ring.Abs
import Mathlib.Algebra.Order.Ring.Pow
import Mathlib.Algebra.Order.Field.Basic
import Mathlib.Algebra.BigOperators.Intervals
import Mathlib.Algebra.BigOperators.Ring.Finset
import Mathlib.Algebra.BigOperators.Group.List.Basic
import Mathlib.Algebra.Order.BigOperators.Group.Finset
import Mathlib.Tactic.Ring
import Mathlib.Tactic.Linarith
import Mathlib.Tactic.Positivity
/-!
# The rounding layer: the standard model of floating-point arithmetic

Every numerical model of `SV.Model.*` is written once, generically over its scalar type, is run at
`Float` by the driver (bit-identical to the Rust code) and is reasoned about over fields, i.e. with
rounding error 0.  This file adds a third instantiation of **the same definitions**: a scalar type
`Fl M` whose every arithmetic operation is the exact real operation followed by a rounding
`M.rnd` that obeys the *standard model* (Higham, *Accuracy and Stability of Numerical Algorithms*,
2nd ed., (2.4)):

    fl(x op y) = (x op y)(1 + δ),   |δ| ≤ u.

Theorems proved about `SV.sumFrom`, `SV.C11.dot`, `SV.C18.arithMean`, `SV.Poly.evalSimple` … *at
`Fl M`* are then rounding-error bounds for the very definitions the driver runs.

## Relation to IEEE binary64 (`f64`)

Round-to-nearest binary64 arithmetic satisfies the standard model with unit roundoff
`u = 2⁻⁵³ ≈ 1.11·10⁻¹⁶` for `+ − × ÷` (and `sqrt`), **provided the exact result neither overflows
nor falls into the subnormal range**.  For such an `M` (`M.u = 2⁻⁵³`, `M.rnd` = round to nearest
even, exponent unbounded) an operation of `Fl M` on representable arguments is the operation of `f64`
whenever its exact result lies in the normal range.
`SV.Lemmas.RoundingNearest` constructs a model of this kind but for the tie rule:
`FlModel.binary64` is round-to-nearest, ties upwards, onto the numbers with a 53-bit significand and
unbounded exponent, proved to satisfy the standard model with `u = 2⁻⁵³` and to fix every
representable number.  No bound depends on the tie rule.  The property files specialise their main
forward bound to it (`…_binary64`: `γ_n ≤ n·2⁻⁵²` for `n ≤ 2⁵²`).

## What is NOT covered

* **Underflow**: for a subnormal result the relative error bound fails (IEEE gives
  `fl(x) = x(1+δ) + η`, `|η| ≤ 2⁻¹⁰⁷⁵`); the model has no `η` term.  Sums are still fine in IEEE
  (an addition that underflows is exact) but products and quotients are not.
* **Overflow**, `∞`, NaN, signed zeros: `Fl M` carries real numbers only.
* **The decimal→binary conversion of the inputs** (`str::parse::<f64>`): the inputs of every
  theorem are the values the computation *starts* from (arbitrary reals, embedded exactly); the
  error committed when a decimal literal is rounded to binary64 is a separate relative error `≤ u`
  per input, not included.
* Nothing is assumed about `rnd` beyond the model: not monotone, not idempotent, not symmetric.
  Consequently `0 + x`, `1 * x` and `-x` are charged one rounding each (IEEE performs them
  exactly); the bounds are valid for IEEE and pessimistic by at most these few units.

## Method

Computed quantities are written as sums of exact terms weighted by accumulated rounding factors,
counted by `FlModel.Fac` (Higham's `⟨n⟩`): `FlModel.Scaled` for one term, `FlModel.WSum` for a sum
with its positions.  `WSum.theta` reads such a sum backwards (perturbed data, `|θ| ≤ γ_n`),
`WSum.abs_sub_le` forwards (`γ_n·Σ|terms|`).
-/
namespace SV
open Finset

/-- The standard model of floating-point arithmetic without underflow/overflow: a rounding
function with relative error at most the unit roundoff `u < 1`.  (binary64: `u = 2⁻⁵³`.) -/
structure FlModel where
  u : ℝ
  hu : 0 ≤ u ∧ u < 1
  rnd : ℝ → ℝ
  hrnd : ∀ x, ∃ δ, |δ| ≤ u ∧ rnd x = x * (1 + δ)

namespace FlModel

def ideal : FlModel where
  u := 0
  hu := ⟨le_refl 0, zero_lt_one⟩
  rnd := id
  hrnd := fun x => ⟨0, by simp, by simp⟩

instance : Inhabited FlModel := ⟨ideal⟩

/-- a model with a genuinely non-zero error for every `u ∈ (0,1)`: every result is inflated by the
factor `1 + u/2`.  (Not a sensible arithmetic — it only shows that the structure is inhabited with
`u > 0` and `rnd ≠ id`, so no theorem below holds for the trivial reason `rnd = id`.) -/
noncomputable def skew (u : ℝ) (h : 0 ≤ u ∧ u < 1) : FlModel where
  u := u
  hu := h
  rnd := fun x => x * (1 + u / 2)
  hrnd := fun _ => ⟨u / 2, by rw [abs_of_nonneg (by linarith [h.1])]; linarith [h.1], rfl⟩

theorem skew_u (u : ℝ) (h : 0 ≤ u ∧ u < 1) : (skew u h).u = u := rfl
theorem skew_rnd (u : ℝ) (h : 0 ≤ u ∧ u < 1) (x : ℝ) : (skew u h).rnd x = x * (1 + u / 2) := rfl

/-- non-vacuity: a model with the unit roundoff of binary64 whose rounding is not the identity -/
example : ∃ M : FlModel, M.u = 2⁻¹ ^ 53 ∧ M.rnd 1 ≠ 1 := by
  have hpos : (0 : ℝ) < 2⁻¹ ^ 53 := by positivity
  have h : (0 : ℝ) ≤ 2⁻¹ ^ 53 ∧ (2⁻¹ : ℝ) ^ 53 < 1 :=
    ⟨hpos.le, pow_lt_one₀ (by norm_num) (by norm_num) (by norm_num)⟩
  refine ⟨skew (2⁻¹ ^ 53) h, rfl, ?_⟩
  rw [skew_rnd, one_mul]
  exact (lt_add_of_pos_right 1 (half_pos hpos)).ne'

variable (M : FlModel)

theorem one_sub_pos : 0 < 1 - M.u := by linarith [M.hu.2]

noncomputable def gamma (n : ℕ) : ℝ := n * M.u / (1 - n * M.u)

theorem mul_u_nonneg (n : ℕ) : 0 ≤ n * M.u := mul_nonneg (Nat.cast_nonneg n) M.hu.1

theorem gamma_nonneg {n : ℕ} (hn : n * M.u < 1) : 0 ≤ M.gamma n :=
  div_nonneg (M.mul_u_nonneg n) (sub_nonneg.mpr hn.le)

theorem gamma_zero : M.gamma 0 = 0 := by simp [gamma]

theorem gamma_ideal (n : ℕ) : ideal.gamma n = 0 := by
  simp [gamma, ideal]

theorem ideal_hyp (n : ℕ) : (n : ℝ) * ideal.u < 1 := by
  simp [ideal]

theorem mul_u_le_gamma {n : ℕ} (hn : n * M.u < 1) : n * M.u ≤ M.gamma n := by
  rw [gamma, le_div_iff₀ (sub_pos.mpr hn)]
  exact mul_le_of_le_one_right (M.mul_u_nonneg n) (sub_le_self 1 (M.mul_u_nonneg n))

theorem u_le_gamma_one (h : M.u < 1) : M.u ≤ M.gamma 1 := by
  have := M.mul_u_le_gamma (n := 1) (by rwa [Nat.cast_one, one_mul])
  rwa [Nat.cast_one, one_mul] at this

/-- binary64: the hypothesis holds for every `n ≤ 2⁵²` -/
theorem gamma_le_two_mul {n : ℕ} (hn : n * M.u ≤ 1 / 2) : M.gamma n ≤ 2 * (n * M.u) := by
  rw [gamma, div_le_iff₀ (by linarith), mul_comm 2, mul_assoc]
  exact le_mul_of_one_le_right (M.mul_u_nonneg n) (by linarith)

theorem mul_u_mono {m n : ℕ} (h : m ≤ n) : (m : ℝ) * M.u ≤ n * M.u :=
  mul_le_mul_of_nonneg_right (Nat.cast_le.mpr h) M.hu.1

theorem hyp_mono {m n : ℕ} (h : m ≤ n) (hn : n * M.u < 1) : m * M.u < 1 :=
  (M.mul_u_mono h).trans_lt hn

theorem gamma_mono {m n : ℕ} (h : m ≤ n) (hn : n * M.u < 1) : M.gamma m ≤ M.gamma n :=
  div_le_div₀ (M.mul_u_nonneg n) (M.mul_u_mono h) (sub_pos.mpr hn)
    (sub_le_sub_left (M.mul_u_mono h) 1)

/-- `M.Fac n t`: `t` is an admissible accumulated factor of `n` roundings,
`(1−u)ⁿ ≤ t ≤ (1−u)⁻ⁿ` (the upper bound is written `t·(1−u)ⁿ ≤ 1`).  Every product of `n` factors
`(1+δᵢ)` or `(1+δᵢ)⁻¹` with `|δᵢ| ≤ u` satisfies it (`fac_one_add`, `Fac.mul`, `Fac.inv`). -/
def Fac (n : ℕ) (t : ℝ) : Prop := (1 - M.u) ^ n ≤ t ∧ t * (1 - M.u) ^ n ≤ 1

variable {M}

theorem Fac.pos {n : ℕ} {t : ℝ} (h : M.Fac n t) : 0 < t :=
  lt_of_lt_of_le (pow_pos M.one_sub_pos n) h.1

theorem fac_zero_one : M.Fac 0 1 := by simp [Fac]

theorem fac_zero_iff {t : ℝ} : M.Fac 0 t ↔ t = 1 := by
  simp only [Fac, pow_zero, mul_one]
  exact ⟨fun h => le_antisymm h.2 h.1, fun h => by rw [h]; exact ⟨le_refl 1, le_refl 1⟩⟩

theorem Fac.mul {m n : ℕ} {s t : ℝ} (hs : M.Fac m s) (ht : M.Fac n t) : M.Fac (m + n) (s * t) := by
  have hp : ∀ k : ℕ, 0 ≤ (1 - M.u) ^ k := fun k => (pow_pos M.one_sub_pos k).le
  constructor
  · rw [pow_add]
    exact mul_le_mul hs.1 ht.1 (hp n) hs.pos.le
  · rw [pow_add]
    calc s * t * ((1 - M.u) ^ m * (1 - M.u) ^ n)
        = (s * (1 - M.u) ^ m) * (t * (1 - M.u) ^ n) := by ring
      _ ≤ 1 := mul_le_one₀ hs.2 (mul_nonneg ht.pos.le (hp n)) ht.2

theorem Fac.inv {n : ℕ} {t : ℝ} (ht : M.Fac n t) : M.Fac n t⁻¹ := by
  have h0 := ht.pos
  constructor
  · rw [← one_div, le_div_iff₀ h0, mul_comm]
    exact ht.2
  · rw [inv_mul_le_iff₀ h0, mul_one]
    exact ht.1

theorem Fac.div {m n : ℕ} {s t : ℝ} (hs : M.Fac m s) (ht : M.Fac n t) : M.Fac (m + n) (s / t) := by
  rw [div_eq_mul_inv]
  exact hs.mul ht.inv

theorem Fac.mono {m n : ℕ} {t : ℝ} (ht : M.Fac n t) (h : n ≤ m) : M.Fac m t := by
  have hp : (1 - M.u) ^ m ≤ (1 - M.u) ^ n :=
    pow_le_pow_of_le_one M.one_sub_pos.le (sub_le_self 1 M.hu.1) h
  exact ⟨hp.trans ht.1, (mul_le_mul_of_nonneg_left hp ht.pos.le).trans ht.2⟩

theorem Fac.pow {n : ℕ} {t : ℝ} (ht : M.Fac n t) (k : ℕ) : M.Fac (n * k) (t ^ k) := by
  induction k with
  | zero => simpa using fac_zero_one
  | succ k ih => rw [pow_succ, Nat.mul_succ]; exact ih.mul ht

theorem fac_one_add {δ : ℝ} (hδ : |δ| ≤ M.u) : M.Fac 1 (1 + δ) := by
  obtain ⟨h1, h2⟩ := abs_le.mp hδ
  rw [Fac, pow_one]
  refine ⟨by linarith, ?_⟩
  calc (1 + δ) * (1 - M.u) ≤ (1 + M.u) * (1 - M.u) :=
        mul_le_mul_of_nonneg_right (by linarith) M.one_sub_pos.le
    _ = 1 - M.u * M.u := by ring
    _ ≤ 1 := sub_le_self 1 (mul_self_nonneg M.u)

/-- Bernoulli: `1 − n·u ≤ (1−u)ⁿ` -/
theorem one_sub_mul_le_pow (n : ℕ) : 1 - n * M.u ≤ (1 - M.u) ^ n := by
  have := one_add_mul_le_pow (a := -M.u) (by linarith [M.hu.2]) n
  rwa [mul_neg, ← sub_eq_add_neg, ← sub_eq_add_neg] at this

/-- an accumulated factor of `n` roundings is `1 + θ_n`, `|θ_n| ≤ γ_n` (Higham's notation) -/
theorem Fac.abs_sub_one_le {n : ℕ} {t : ℝ} (ht : M.Fac n t) (hn : n * M.u < 1) :
    |t - 1| ≤ M.gamma n := by
  have hb := one_sub_mul_le_pow (M := M) n
  rw [abs_le]
  constructor
  · linarith [ht.1, M.mul_u_le_gamma hn]
  · -- `t·(1 − n·u) ≤ t·(1−u)ⁿ ≤ 1`
    have h1 : t * (1 - n * M.u) ≤ 1 := (mul_le_mul_of_nonneg_left hb ht.pos.le).trans ht.2
    rw [gamma, le_div_iff₀ (sub_pos.mpr hn)]
    linarith

/-- **Higham, Lemma 3.1**, literally: if `|δᵢ| ≤ u` and `ρᵢ = ±1` for `i = 1..n` and `n·u < 1`
then `∏ (1+δᵢ)^ρᵢ = 1 + θ_n` with `|θ_n| ≤ γ_n`.  (`p.2 = true` stands for `ρ = +1`.) -/
theorem higham_lemma_3_1 (l : List (ℝ × Bool)) (hl : ∀ p ∈ l, |p.1| ≤ M.u)
    (hn : l.length * M.u < 1) :
    ∃ θ, |θ| ≤ M.gamma l.length ∧
      (l.map fun p => if p.2 then 1 + p.1 else (1 + p.1)⁻¹).prod = 1 + θ := by
  have key : M.Fac l.length (l.map fun p => if p.2 then 1 + p.1 else (1 + p.1)⁻¹).prod := by
    clear hn
    induction l with
    | nil => simpa using fac_zero_one
    | cons p l ih =>
      have hp : M.Fac 1 (if p.2 then 1 + p.1 else (1 + p.1)⁻¹) := by
        have h1 := fac_one_add (hl p (List.mem_cons_self ..))
        split
        · exact h1
        · exact h1.inv
      have := hp.mul (ih fun q hq => hl q (List.mem_cons_of_mem _ hq))
      rw [List.map_cons, List.prod_cons, List.length_cons, Nat.add_comm]
      exact this
  exact ⟨_ - 1, key.abs_sub_one_le hn, (add_sub_cancel _ _).symm⟩

variable (M)

theorem rnd_fac (x : ℝ) : ∃ t, M.Fac 1 t ∧ M.rnd x = x * t := by
  obtain ⟨δ, hδ, h⟩ := M.hrnd x
  exact ⟨1 + δ, fac_one_add hδ, h⟩

@[simp] theorem rnd_zero : M.rnd 0 = 0 := by
  obtain ⟨δ, _, h⟩ := M.hrnd 0
  rw [h, zero_mul]

theorem abs_rnd_sub_le (x : ℝ) : |M.rnd x - x| ≤ M.u * |x| := by
  obtain ⟨δ, hδ, h⟩ := M.hrnd x
  rw [h, show x * (1 + δ) - x = δ * x by ring, abs_mul]
  exact mul_le_mul_of_nonneg_right hδ (abs_nonneg x)

end FlModel

/-- A real number seen as a floating-point value of the model `M`: every arithmetic operation is
the exact operation followed by `M.rnd`; comparisons are exact. -/
structure Fl (M : FlModel) where
  val : ℝ

namespace Fl
variable {M : FlModel}

@[ext] theorem ext' {a b : Fl M} (h : a.val = b.val) : a = b := by
  cases a; cases b; cases h; rfl

noncomputable instance : Add (Fl M) := ⟨fun a b => ⟨M.rnd (a.val + b.val)⟩⟩
noncomputable instance : Sub (Fl M) := ⟨fun a b => ⟨M.rnd (a.val - b.val)⟩⟩
noncomputable instance : Mul (Fl M) := ⟨fun a b => ⟨M.rnd (a.val * b.val)⟩⟩
noncomputable instance : Div (Fl M) := ⟨fun a b => ⟨M.rnd (a.val / b.val)⟩⟩
noncomputable instance : Neg (Fl M) := ⟨fun a => ⟨M.rnd (-a.val)⟩⟩
instance : OfNat (Fl M) 0 := ⟨⟨0⟩⟩
instance : OfNat (Fl M) 1 := ⟨⟨1⟩⟩
instance : Inhabited (Fl M) := ⟨⟨0⟩⟩
/-- `n as f64`: the nearest representable value (exact below `2⁵³`) -/
noncomputable instance : NatCast (Fl M) := ⟨fun n => ⟨M.rnd n⟩⟩
instance : LT (Fl M) := ⟨fun a b => a.val < b.val⟩
noncomputable instance : DecidableRel (α := Fl M) (· < ·) := fun _ _ => Classical.propDecidable _

@[simp] theorem add_val (a b : Fl M) : (a + b).val = M.rnd (a.val + b.val) := rfl
@[simp] theorem sub_val (a b : Fl M) : (a - b).val = M.rnd (a.val - b.val) := rfl
@[simp] theorem mul_val (a b : Fl M) : (a * b).val = M.rnd (a.val * b.val) := rfl
@[simp] theorem div_val (a b : Fl M) : (a / b).val = M.rnd (a.val / b.val) := rfl
@[simp] theorem neg_val (a : Fl M) : (-a).val = M.rnd (-a.val) := rfl
@[simp] theorem zero_val : (0 : Fl M).val = 0 := rfl
@[simp] theorem one_val : (1 : Fl M).val = 1 := rfl
@[simp] theorem default_val : (default : Fl M).val = 0 := rfl
@[simp] theorem natCast_val (n : ℕ) : ((n : Fl M)).val = M.rnd n := rfl
theorem lt_iff (a b : Fl M) : a < b ↔ a.val < b.val := Iff.rfl
@[simp] theorem mk_val (x : ℝ) : (Fl.mk x : Fl M).val = x := rfl

/-- `-0.0`, the start value of `Iterator::sum`, is `0` -/
@[simp] theorem neg_zero_val : (-(0 : Fl M)).val = 0 := by simp

theorem add_fac (a b : Fl M) : ∃ t, M.Fac 1 t ∧ (a + b).val = (a.val + b.val) * t := M.rnd_fac _
theorem sub_fac (a b : Fl M) : ∃ t, M.Fac 1 t ∧ (a - b).val = (a.val - b.val) * t := M.rnd_fac _
theorem mul_fac (a b : Fl M) : ∃ t, M.Fac 1 t ∧ (a * b).val = (a.val * b.val) * t := M.rnd_fac _
theorem div_fac (a b : Fl M) : ∃ t, M.Fac 1 t ∧ (a / b).val = (a.val / b.val) * t := M.rnd_fac _
theorem natCast_fac (n : ℕ) : ∃ t, M.Fac 1 t ∧ ((n : Fl M)).val = (n : ℝ) * t := M.rnd_fac _

end Fl

section
variable {M : FlModel}

/-- `≤` on the rounding scalar is `≤` of the real values (comparisons are exact); with it the models
whose section variables include `[LE S]` elaborate at `Fl M` -/
instance : LE (Fl M) := ⟨fun a b => a.val ≤ b.val⟩
noncomputable instance : DecidableRel (α := Fl M) (· ≤ ·) := fun _ _ => Classical.propDecidable _

namespace Subst

/-- `==` on the rounding scalar is equality of the real values (so that `SV.C08.gaussSolve`, whose
scale test is `s[i] == 0.0`, elaborates at `Fl M`) -/
noncomputable instance : BEq (Fl M) := ⟨fun a b => @decide (a.val = b.val) (Classical.propDecidable _)⟩

end Subst

/-- `v` is the exact quantity `c` times an accumulated factor of at most `k` roundings: a computed
scalar (a literal, a cast, the segment width) -/
def FlModel.Scaled (M : FlModel) (k : ℕ) (v c : ℝ) : Prop := ∃ t, M.Fac k t ∧ v = c * t

namespace FlModel.Scaled
variable {k l : ℕ} {s r : Fl M} {c e : ℝ}

theorem mul_fl (hs : M.Scaled k s.val c) (hr : M.Scaled l r.val e) :
    M.Scaled (k + l + 1) (s * r).val (c * e) := by
  obtain ⟨t, ht, hs⟩ := hs
  obtain ⟨t', ht', hr⟩ := hr
  obtain ⟨d, hd, hmul⟩ := Fl.mul_fac s r
  exact ⟨t * t' * d, (ht.mul ht').mul hd, by rw [hmul, hs, hr]; ring⟩

theorem div_fl (hs : M.Scaled k s.val c) (hr : M.Scaled l r.val e) :
    M.Scaled (k + l + 1) (s / r).val (c / e) := by
  obtain ⟨t, ht, hs⟩ := hs
  obtain ⟨t', ht', hr⟩ := hr
  obtain ⟨d, hd, hdiv⟩ := Fl.div_fac s r
  exact ⟨t / t' * d, (ht.div ht').mul hd, by rw [hdiv, hs, hr]; ring⟩

end FlModel.Scaled

end

theorem sum_map_eq_sum_range {α : Type} (xs : List α) (g : α → ℝ) (d : α) :
    (xs.map g).sum = ∑ i ∈ range xs.length, g (xs.getD i d) := by
  induction xs with
  | nil => simp
  | cons x xs ih =>
    rw [List.map_cons, List.sum_cons, List.length_cons, Finset.sum_range_succ', ih]
    simp only [List.getD_cons_succ, List.getD_cons_zero]
    ring

theorem getD_map_of_lt {α β : Type} (xs : List α) (g : α → β) (d : α) (d' : β) {i : ℕ}
    (h : i < xs.length) : (xs.map g).getD i d' = g (xs.getD i d) := by
  simp [List.getD_eq_getElem?_getD, h]

theorem weighted_finset_bound {M : FlModel} (s : Finset ℕ) (m : ℕ) (e t : ℕ → ℝ)
    (ht : ∀ j ∈ s, M.Fac m (t j)) (hm : m * M.u < 1) :
    |∑ j ∈ s, e j * t j - ∑ j ∈ s, e j| ≤ M.gamma m * ∑ j ∈ s, |e j| := by
  rw [← Finset.sum_sub_distrib, Finset.mul_sum]
  refine (Finset.abs_sum_le_sum_abs _ _).trans (Finset.sum_le_sum fun j hj => ?_)
  rw [show e j * t j - e j = (t j - 1) * e j by ring, abs_mul]
  exact mul_le_mul_of_nonneg_right ((ht j hj).abs_sub_one_le hm) (abs_nonneg _)

theorem weighted_sum_bound {M : FlModel} (n m : ℕ) (e t : ℕ → ℝ)
    (ht : ∀ k, k < n → M.Fac m (t k)) (hm : m * M.u < 1) :
    |∑ k ∈ range n, e k * t k - ∑ k ∈ range n, e k| ≤ M.gamma m * ∑ k ∈ range n, |e k| :=
  weighted_finset_bound (range n) m e t (fun k hk => ht k (mem_range.mp hk)) hm

theorem eq_of_abs_sub_nonpos {a s : ℝ} (h : |a - s| ≤ 0) : s = a :=
  (sub_eq_zero.mp (abs_nonpos_iff.mp h)).symm

/-- with exact arithmetic (`u = 0`, so `γ_n = 0`) a bound `|a − s| ≤ γ_n·W` is an equation -/
theorem FlModel.eq_of_ideal_bound {n : ℕ} {a s W : ℝ}
    (h : (n : ℝ) * FlModel.ideal.u < 1 → |a - s| ≤ FlModel.ideal.gamma n * W) : s = a := by
  have h0 := h (FlModel.ideal_hyp n)
  rw [FlModel.gamma_ideal, zero_mul] at h0
  exact eq_of_abs_sub_nonpos h0

/-- the same for a bound `(c·γ_n + γ_n²)·W` -/
theorem FlModel.eq_of_ideal_bound_sq {n : ℕ} {c a s W : ℝ}
    (h : (n : ℝ) * FlModel.ideal.u < 1 →
      |a - s| ≤ (c * FlModel.ideal.gamma n + FlModel.ideal.gamma n ^ 2) * W) : s = a := by
  have h0 := h (FlModel.ideal_hyp n)
  rw [FlModel.gamma_ideal, mul_zero, zero_pow two_ne_zero, add_zero, zero_mul] at h0
  exact eq_of_abs_sub_nonpos h0

/-- weights on `s` rewritten as `1 + θ k` with `|θ k| ≤ γ_m` for **every** `k` (the indices outside
`s` are patched with `0`): a weighted sum is the exact sum of relatively perturbed terms -/
theorem weights_theta {M : FlModel} (s : Finset ℕ) (m : ℕ) (e t : ℕ → ℝ)
    (ht : ∀ k ∈ s, M.Fac m (t k)) (hm : m * M.u < 1) :
    ∃ θ : ℕ → ℝ, (∀ k, |θ k| ≤ M.gamma m) ∧ (∀ k ∈ s, t k = 1 + θ k) ∧
      ∑ k ∈ s, e k * t k = ∑ k ∈ s, e k * (1 + θ k) := by
  have hθ : ∀ k ∈ s, t k = 1 + (if k ∈ s then t k - 1 else 0) := fun k hk => by
    rw [if_pos hk, add_sub_cancel]
  refine ⟨fun k => if k ∈ s then t k - 1 else 0, fun k => ?_, hθ,
    Finset.sum_congr rfl fun k hk => congrArg (e k * ·) (hθ k hk)⟩
  dsimp only
  split_ifs with hk
  · exact (ht k hk).abs_sub_one_le hm
  · rw [abs_zero]
    exact M.gamma_nonneg hm

theorem weights_to_theta {M : FlModel} (n m : ℕ) (t : ℕ → ℝ)
    (ht : ∀ k, k < n → M.Fac m (t k)) (hm : m * M.u < 1) :
    ∃ θ : ℕ → ℝ, (∀ k, |θ k| ≤ M.gamma m) ∧ ∀ k, k < n → t k = 1 + θ k := by
  obtain ⟨θ, h1, h2, _⟩ :=
    weights_theta (range n) m (fun _ => 0) t (fun k hk => ht k (mem_range.mp hk)) hm
  exact ⟨θ, h1, fun k hk => h2 k (mem_range.mpr hk)⟩

/-- `v = Σ_{k ∈ s} e k · t k` exactly, the weight `t k` an accumulated factor of `c k` roundings: the
computed value `v` is the exact sum of relatively perturbed terms, position by position.  (The
statements `∃ t, (∀ k, … → M.Fac _ (t k)) ∧ v = Σ …` of this layer are this notion written out.)
`theta` is its backward reading, `abs_sub_le` its forward one; `FlModel.Rounded.of_weights`
(`SV.Lemmas.RoundingSum`) forgets the positions. -/
def FlModel.WSum (M : FlModel) (s : Finset ℕ) (c : ℕ → ℕ) (e : ℕ → ℝ) (v : ℝ) : Prop :=
  ∃ t : ℕ → ℝ, (∀ k ∈ s, M.Fac (c k) (t k)) ∧ v = ∑ k ∈ s, e k * t k

namespace FlModel.WSum
variable {M : FlModel} {s : Finset ℕ} {c d : ℕ → ℕ} {e e' : ℕ → ℝ} {v : ℝ} {n k : ℕ}

theorem of_range {t : ℕ → ℝ} (ht : ∀ k, k < n → M.Fac (c k) (t k))
    (hv : v = ∑ k ∈ range n, e k * t k) : M.WSum (range n) c e v :=
  ⟨t, fun k hk => ht k (mem_range.mp hk), hv⟩

theorem mono (h : M.WSum s c e v) (hc : ∀ k ∈ s, c k ≤ d k) : M.WSum s d e v := by
  obtain ⟨t, ht, hv⟩ := h
  exact ⟨t, fun k hk => (ht k hk).mono (hc k hk), hv⟩

theorem abs_sub_le (h : M.WSum s c e v) (hc : ∀ k ∈ s, c k ≤ n) (hn : n * M.u < 1) :
    |v - ∑ k ∈ s, e k| ≤ M.gamma n * ∑ k ∈ s, |e k| := by
  obtain ⟨t, ht, rfl⟩ := h
  exact weighted_finset_bound s n e t (fun k hk => (ht k hk).mono (hc k hk)) hn

theorem theta (h : M.WSum s c e v) (hc : ∀ k ∈ s, c k ≤ n) (hn : n * M.u < 1) :
    ∃ θ : ℕ → ℝ, (∀ k, |θ k| ≤ M.gamma n) ∧ v = ∑ k ∈ s, e k * (1 + θ k) := by
  obtain ⟨t, ht, rfl⟩ := h
  obtain ⟨θ, hθ, _, hsum⟩ := weights_theta s n e t (fun k hk => (ht k hk).mono (hc k hk)) hn
  exact ⟨θ, hθ, hsum⟩

/-- the terms were themselves computed: `e k` is `e' k` with `d k` roundings -/
theorem terms (h : M.WSum s c e v) (he : ∀ k ∈ s, M.Scaled (d k) (e k) (e' k)) :
    M.WSum s (fun k => d k + c k) e' v := by
  obtain ⟨t, ht, rfl⟩ := h
  choose! p hp hpe using he
  exact ⟨fun k => p k * t k, fun k hk => (hp k hk).mul (ht k hk),
    Finset.sum_congr rfl fun k hk => by rw [hpe k hk, mul_assoc]⟩

/-- the whole sum goes through `k` more roundings -/
theorem scale {p : ℝ} (h : M.WSum s c e v) (hp : M.Fac k p) :
    M.WSum s (fun j => c j + k) e (v * p) := by
  obtain ⟨t, ht, rfl⟩ := h
  exact ⟨fun j => t j * p, fun j hj => (ht j hj).mul hp,
    by rw [Finset.sum_mul]; exact Finset.sum_congr rfl fun j _ => mul_assoc _ _ _⟩

theorem div (a : ℝ) (h : M.WSum s c e v) : M.WSum s c (fun j => e j / a) (v / a) := by
  obtain ⟨t, ht, rfl⟩ := h
  refine ⟨t, ht, ?_⟩
  simp only [div_eq_mul_inv, Finset.sum_mul]
  exact Finset.sum_congr rfl fun j _ => mul_right_comm _ _ _

theorem single (i : ℕ) (h : M.Scaled k v (e i)) : M.WSum {i} (fun _ => k) e v := by
  obtain ⟨t, ht, rfl⟩ := h
  exact ⟨fun _ => t, fun _ _ => ht, (Finset.sum_singleton _ _).symm⟩

end FlModel.WSum

section sum
variable {M : FlModel}

/-- Left-to-right accumulation `acc += y` over a list, from `init`: the computed value is
`init·t₀ + Σ yᵢ·tᵢ` where `t₀` carries `n` roundings and the weight of the `i`-th summand carries the
`n − i` additions it takes part in. -/
theorem foldl_add_rounding (ys : List (Fl M)) (init : Fl M) :
    ∃ t0 : ℝ, ∃ t : ℕ → ℝ, M.Fac ys.length t0 ∧ (∀ i, i < ys.length → M.Fac (ys.length - i) (t i)) ∧
      (ys.foldl (fun acc y => acc + y) init).val
        = init.val * t0 + ∑ i ∈ range ys.length, (ys.getD i 0).val * t i := by
  induction ys generalizing init with
  | nil => exact ⟨1, fun _ => 1, FlModel.fac_zero_one, fun i hi => by simp at hi, by simp⟩
  | cons y ys ih =>
    obtain ⟨d, hd, hadd⟩ := Fl.add_fac init y
    obtain ⟨t0, t, ht0, ht, hval⟩ := ih (init + y)
    refine ⟨d * t0, fun i => match i with | 0 => d * t0 | i + 1 => t i, ?_, ?_, ?_⟩
    · rw [List.length_cons, Nat.add_comm]; exact hd.mul ht0
    · intro i hi
      cases i with
      | zero => simp only [List.length_cons, Nat.sub_zero]; rw [Nat.add_comm]; exact hd.mul ht0
      | succ i =>
        simp only [List.length_cons, Nat.add_sub_add_right]
        exact ht i (by simpa using hi)
    · rw [List.foldl_cons, hval, hadd, List.length_cons, Finset.sum_range_succ']
      simp only [List.getD_cons_succ, List.getD_cons_zero]
      ring

theorem sumFrom_rounding_general (init : Fl M) (lo hi : ℕ) (f : ℕ → Fl M) :
    ∃ t0 : ℝ, ∃ t : ℕ → ℝ, M.Fac (hi - lo) t0 ∧ (∀ k, k < hi - lo → M.Fac (hi - lo - k) (t k)) ∧
      (sumFrom init lo hi f).val
        = init.val * t0 + ∑ k ∈ range (hi - lo), (f (lo + k)).val * t k := by
  obtain ⟨t0, t, ht0, ht, hval⟩ := foldl_add_rounding ((List.range' lo (hi - lo)).map f) init
  rw [List.length_map, List.length_range'] at ht0 ht hval
  refine ⟨t0, t, ht0, ht, ?_⟩
  rw [sumFrom, ← List.foldl_map, hval]
  congr 1
  refine Finset.sum_congr rfl fun k hk => ?_
  have hk' : k < hi - lo := Finset.mem_range.mp hk
  rw [getD_map_of_lt _ f 0 0 (by rwa [List.length_range']), List.getD_eq_getElem?_getD,
    List.getElem?_range' hk', Option.getD_some, one_mul]

/-- `total = 0; total += f j` for `lo ≤ j < hi`: the term `j` takes part in `hi − j` additions (the
model starts from `0`, so the first term is charged one addition too) -/
theorem sumFrom_wsum (lo hi : ℕ) (f : ℕ → Fl M) :
    M.WSum (Ico lo hi) (fun j => hi - j) (fun j => (f j).val) (sumFrom 0 lo hi f).val := by
  obtain ⟨t0, t, _, ht, hval⟩ := sumFrom_rounding_general (0 : Fl M) lo hi f
  refine ⟨fun j => t (j - lo), fun j hj => ?_, ?_⟩
  · obtain ⟨h1, h2⟩ := mem_Ico.1 hj
    have := ht (j - lo) (by omega)
    rwa [show hi - lo - (j - lo) = hi - j by omega] at this
  · rw [hval, Fl.zero_val, zero_mul, zero_add, Finset.sum_Ico_eq_sum_range]
    exact Finset.sum_congr rfl fun k _ => by dsimp only; rw [Nat.add_sub_cancel_left]

/-- `sumFrom 0 0 n f` run at `Fl M` returns `Σ f k · t k` where `t k` is a
product of the `n − k` rounding factors of the additions the `k`-th term takes part in (the model
starts from `0`, so the first term is charged one addition too). -/
theorem sumFrom_rounding_weights (n : ℕ) (f : ℕ → Fl M) :
    ∃ t : ℕ → ℝ, (∀ k, k < n → M.Fac (n - k) (t k)) ∧
      (sumFrom 0 0 n f).val = ∑ k ∈ range n, (f k).val * t k := by
  obtain ⟨t, ht, hval⟩ := sumFrom_wsum 0 n f
  exact ⟨t, fun k hk => ht k (mem_Ico.2 ⟨k.zero_le, hk⟩), by rw [hval, Nat.Ico_zero_eq_range]⟩

/-- Higham (4.2) -/
theorem sumFrom_rounding (n : ℕ) (f : ℕ → Fl M) (hn : n * M.u < 1) :
    ∃ θ : ℕ → ℝ, (∀ k, |θ k| ≤ M.gamma n) ∧
      (sumFrom 0 0 n f).val = ∑ k ∈ range n, (f k).val * (1 + θ k) := by
  rw [← Nat.Ico_zero_eq_range]
  exact (sumFrom_wsum 0 n f).theta (fun k _ => Nat.sub_le n k) hn

/-- Higham (4.4) -/
theorem sumFrom_rounding_abs (n : ℕ) (f : ℕ → Fl M) (hn : n * M.u < 1) :
    |(sumFrom 0 0 n f).val - ∑ k ∈ range n, (f k).val| ≤ M.gamma n * ∑ k ∈ range n, |(f k).val| := by
  rw [← Nat.Ico_zero_eq_range]
  exact (sumFrom_wsum 0 n f).abs_sub_le (fun k _ => Nat.sub_le n k) hn

/-- non-vacuity: in the model `rnd t = t·(1 + 1/8)` (`u = 1/4`, `2·u < 1`) the computed sum
of `1, 1` is `((0+1)·r + 1)·r ≠ 2` — the theorems above are not statements about exact
arithmetic -/
example : ∃ (M : FlModel) (f : ℕ → Fl M), 0 < M.u ∧ ((2 : ℕ) : ℝ) * M.u < 1 ∧
    (sumFrom 0 0 2 f).val ≠ ∑ k ∈ range 2, (f k).val := by
  have h4 : (0 : ℝ) ≤ 1 / 4 ∧ (1 / 4 : ℝ) < 1 := by norm_num
  refine ⟨FlModel.skew (1 / 4) h4, fun _ => 1, ?_, ?_, ?_⟩
  · rw [FlModel.skew_u]
    norm_num
  · rw [FlModel.skew_u]
    norm_num
  · norm_num [sumFrom, List.range', FlModel.skew_rnd, Finset.sum_range_succ]

/-- the other scalar-generic kernel functions elaborate at `Fl M` as well -/
noncomputable example (x : Fl M) : Fl M := sabs x
noncomputable example (A : Mat (Fl M)) : Mat (Fl M) := A.transpose

end sum

end SV
