import Mathlib.Algebra.BigOperators.Ring.Finset
import Mathlib.Algebra.BigOperators.Field
import Mathlib.Algebra.Order.BigOperators.Group.Finset
import Mathlib.Algebra.Order.Field.Basic
import Mathlib.Data.Real.Basic
import Mathlib.Tactic.Ring
import Mathlib.Tactic.Linarith
import Mathlib.Tactic.NormNum
import Mathlib.Tactic.Positivity
/-!
# C13 accuracy, layer 1 — the Rayleigh-quotient sequence of the power method (pure real analysis)

No matrices here.  `s` is the finite set of *non-dominant* spectral indices, `w a ≥ 0` the squared
coefficient of the start vector on eigenvector `a`, `r a = d a / d₁` the eigenvalue ratio
(`|r a| ≤ 1/2`), `w₁ > 0` the squared coefficient on the dominant eigenvector.  After `k`
multiplications the (scale-free) Rayleigh quotient of the iterate, in units of `d₁`, is

  `rho k = (w₁ + V k) / (w₁ + U k)`,  `U k = Σ_{a∈s} w a · r a ^ (2k)`,  `V k = Σ_{a∈s} w a · r a ^ (2k+1)`

and `eps k = 1 - rho k = Nn k / (w₁ + U k) ≥ 0` is the relative eigenvalue error.  All sums have the
common non-negative weights `w a · r a ^ (2k)`, so every comparison between them is a comparison of
polynomials in one ratio (`ratio_bounds`).  Once the non-dominant mass `U k` is at most the dominant
one `w₁` (`U_le_w₁`: from `k = j` on when `U 0 ≤ 4ʲ·w₁`) the error halves with every multiplication
and `rho k ≥ 1/4`; a passed stopping test then bounds the error by the tolerance (`aposteriori`), and
the test is passed as soon as `4·eps k` is below the tolerance (`apriori_stop`).
-/

set_option linter.unusedSectionVars false

namespace SV.C13.Acc
open Finset

/-- what the gap gives for one eigenvalue ratio -/
theorem ratio_bounds {x : ℝ} (h : |x| ≤ 1 / 2) : x ^ 2 ≤ 1 / 4 ∧ 1 / 2 ≤ 1 - x ∧ 1 - x ≤ 3 / 2 := by
  obtain ⟨h1, h2⟩ := abs_le.mp h
  refine ⟨?_, by linarith, by linarith⟩
  calc x ^ 2 = |x| ^ 2 := (sq_abs x).symm
    _ ≤ (1 / 2) ^ 2 := pow_le_pow_left₀ (abs_nonneg x) h 2
    _ = 1 / 4 := by norm_num

/-- an estimate `d·ρ` of `d` whose relative error `ε = 1 - ρ` is below `tol·ρ`, with `ρ ≥ 1/4` -/
theorem near_of_ratio {d ρ ε tol : ℝ} (hd : d ≠ 0) (hρ : ρ = 1 - ε) (h0 : 0 ≤ ε)
    (he : ε < tol * ρ) (h4 : 1 / 4 ≤ ρ) :
    |d * ρ - d| ≤ tol * |d| ∧ 0 < d * ρ / d ∧ |d| / 4 ≤ |d * ρ| ∧ |d * ρ| ≤ |d| := by
  have hρ0 : 0 < ρ := by linarith
  have hρ1 : ρ ≤ 1 := by linarith
  have hd0 : 0 ≤ |d| := abs_nonneg d
  have htol : 0 < tol := (mul_pos_iff_of_pos_right hρ0).mp (h0.trans_lt he)
  have e : d * ρ - d = -(d * ε) := by rw [hρ]; ring
  refine ⟨?_, ?_, ?_, ?_⟩
  · rw [e, abs_neg, abs_mul, abs_of_nonneg h0, mul_comm]
    exact mul_le_mul_of_nonneg_right (he.le.trans (mul_le_of_le_one_right htol.le hρ1)) hd0
  · rw [mul_div_cancel_left₀ _ hd]
    exact hρ0
  · rw [abs_mul, abs_of_pos hρ0, div_eq_mul_one_div]
    exact mul_le_mul_of_nonneg_left h4 hd0
  · rw [abs_mul, abs_of_pos hρ0]
    exact mul_le_of_le_one_right hd0 hρ1

section sums
variable {ι : Type} (s : Finset ι) (w r : ι → ℝ)

def U (k : ℕ) : ℝ := ∑ a ∈ s, w a * r a ^ (2 * k)
def V (k : ℕ) : ℝ := ∑ a ∈ s, w a * r a ^ (2 * k + 1)
def Nn (k : ℕ) : ℝ := ∑ a ∈ s, w a * r a ^ (2 * k) * (1 - r a)
def Q2 (k : ℕ) : ℝ := ∑ a ∈ s, w a * r a ^ (2 * k) * (1 - r a) ^ 2

theorem Nn_eq (k : ℕ) : Nn s w r k = U s w r k - V s w r k := by
  unfold Nn U V
  rw [← Finset.sum_sub_distrib]
  exact Finset.sum_congr rfl fun a _ => by ring

theorem Q2_eq (k : ℕ) : Q2 s w r k = U s w r k - 2 * V s w r k + U s w r (k + 1) := by
  unfold Q2 U V
  rw [Finset.mul_sum, ← Finset.sum_sub_distrib, ← Finset.sum_add_distrib]
  exact Finset.sum_congr rfl fun a _ => by ring

variable {s w r} (hw : ∀ a ∈ s, 0 ≤ w a) (hr : ∀ a ∈ s, |r a| ≤ 1 / 2)
include hw hr

theorem term_nonneg (k : ℕ) (a : ι) (ha : a ∈ s) : 0 ≤ w a * r a ^ (2 * k) :=
  mul_nonneg (hw a ha) ((even_two_mul k).pow_nonneg (r a))

theorem U_nonneg (k : ℕ) : 0 ≤ U s w r k :=
  Finset.sum_nonneg fun a ha => term_nonneg hw hr k a ha

theorem U_succ_le (k : ℕ) : U s w r (k + 1) ≤ U s w r k / 4 := by
  unfold U
  rw [Finset.sum_div]
  refine Finset.sum_le_sum fun a ha => ?_
  calc w a * r a ^ (2 * (k + 1)) = w a * r a ^ (2 * k) * r a ^ 2 := by ring
    _ ≤ w a * r a ^ (2 * k) * (1 / 4) :=
      mul_le_mul_of_nonneg_left (ratio_bounds (hr a ha)).1 (term_nonneg hw hr k a ha)
    _ = w a * r a ^ (2 * k) / 4 := by ring

theorem U_le_pow (k : ℕ) : U s w r k ≤ U s w r 0 / 4 ^ k := by
  induction k with
  | zero => rw [pow_zero, div_one]
  | succ k ih =>
    rw [pow_succ, ← div_div]
    exact (U_succ_le hw hr k).trans (div_le_div_of_nonneg_right ih (by norm_num))

theorem Nn_term_nonneg (k : ℕ) (a : ι) (ha : a ∈ s) : 0 ≤ w a * r a ^ (2 * k) * (1 - r a) :=
  mul_nonneg (term_nonneg hw hr k a ha) (by linarith [(ratio_bounds (hr a ha)).2.1])

theorem Nn_nonneg (k : ℕ) : 0 ≤ Nn s w r k :=
  Finset.sum_nonneg fun a ha => Nn_term_nonneg hw hr k a ha

theorem Nn_upper (k : ℕ) : Nn s w r k ≤ 3 / 2 * U s w r k := by
  unfold U Nn
  rw [Finset.mul_sum]
  refine Finset.sum_le_sum fun a ha => ?_
  rw [mul_comm (3 / 2 : ℝ)]
  exact mul_le_mul_of_nonneg_left (ratio_bounds (hr a ha)).2.2 (term_nonneg hw hr k a ha)

theorem Nn_succ_le (k : ℕ) : Nn s w r (k + 1) ≤ Nn s w r k / 4 := by
  unfold Nn
  rw [Finset.sum_div]
  refine Finset.sum_le_sum fun a ha => ?_
  calc w a * r a ^ (2 * (k + 1)) * (1 - r a)
      = w a * r a ^ (2 * k) * (1 - r a) * r a ^ 2 := by ring
    _ ≤ w a * r a ^ (2 * k) * (1 - r a) * (1 / 4) :=
      mul_le_mul_of_nonneg_left (ratio_bounds (hr a ha)).1 (Nn_term_nonneg hw hr k a ha)
    _ = w a * r a ^ (2 * k) * (1 - r a) / 4 := by ring

theorem Q2_le (k : ℕ) : Q2 s w r k ≤ 3 / 2 * Nn s w r k := by
  unfold Q2 Nn
  rw [Finset.mul_sum]
  refine Finset.sum_le_sum fun a ha => ?_
  rw [sq, ← mul_assoc, mul_comm (3 / 2 : ℝ)]
  exact mul_le_mul_of_nonneg_left (ratio_bounds (hr a ha)).2.2 (Nn_term_nonneg hw hr k a ha)

theorem Q2_nonneg (k : ℕ) : 0 ≤ Q2 s w r k :=
  Finset.sum_nonneg fun a ha => mul_nonneg (term_nonneg hw hr k a ha) (sq_nonneg _)

end sums

section quotients
variable {ι : Type} (s : Finset ι) (w r : ι → ℝ) (w₁ : ℝ)

/-- the Rayleigh quotient after `k` multiplications, in units of the dominant eigenvalue -/
noncomputable def rho (k : ℕ) : ℝ := (w₁ + V s w r k) / (w₁ + U s w r k)
/-- the relative eigenvalue error `1 - rho k` -/
noncomputable def eps (k : ℕ) : ℝ := Nn s w r k / (w₁ + U s w r k)

variable {s w r w₁} (hw : ∀ a ∈ s, 0 ≤ w a) (hr : ∀ a ∈ s, |r a| ≤ 1 / 2) (h₁ : 0 < w₁)
include hw hr h₁

theorem den_pos (k : ℕ) : 0 < w₁ + U s w r k :=
  add_pos_of_pos_of_nonneg h₁ (U_nonneg hw hr k)

theorem rho_eq (k : ℕ) : rho s w r w₁ k = 1 - eps s w r w₁ k := by
  unfold rho eps
  rw [Nn_eq, eq_sub_iff_add_eq, ← add_div, div_eq_one_iff_eq (den_pos hw hr h₁ k).ne']
  ring

theorem eps_nonneg (k : ℕ) : 0 ≤ eps s w r w₁ k :=
  div_nonneg (Nn_nonneg hw hr k) (den_pos hw hr h₁ k).le

/-- **a-priori bound**: `eps k ≤ (3/2)·τ / 4^k` when the non-dominant mass of the start vector is at
most `τ` times the dominant one -/
theorem eps_le_pow (τ : ℝ) (hτ : U s w r 0 ≤ τ * w₁) (k : ℕ) :
    eps s w r w₁ k ≤ 3 / 2 * τ / 4 ^ k := by
  have hU : U s w r k / w₁ ≤ τ / 4 ^ k := by
    rw [div_le_iff₀ h₁, div_mul_eq_mul_div]
    exact (U_le_pow hw hr k).trans (div_le_div_of_nonneg_right hτ (by positivity))
  calc eps s w r w₁ k ≤ Nn s w r k / w₁ :=
        div_le_div_of_nonneg_left (Nn_nonneg hw hr k) h₁
          (le_add_of_nonneg_right (U_nonneg hw hr k))
    _ ≤ 3 / 2 * U s w r k / w₁ := div_le_div_of_nonneg_right (Nn_upper hw hr k) h₁.le
    _ = 3 / 2 * (U s w r k / w₁) := mul_div_assoc _ _ _
    _ ≤ 3 / 2 * (τ / 4 ^ k) := mul_le_mul_of_nonneg_left hU (by norm_num)
    _ = 3 / 2 * τ / 4 ^ k := (mul_div_assoc _ _ _).symm

/-- from the `j`-th multiplication on the non-dominant mass is at most the dominant one -/
theorem U_le_w₁ (j : ℕ) (hτ : U s w r 0 ≤ 4 ^ j * w₁) (k : ℕ) (hk : j ≤ k) : U s w r k ≤ w₁ := by
  refine (U_le_pow hw hr k).trans ((div_le_iff₀ (by positivity)).mpr (hτ.trans ?_))
  rw [mul_comm]
  exact mul_le_mul_of_nonneg_left (pow_le_pow_right₀ (by norm_num) hk) h₁.le

/-- **contraction**: once `U k ≤ w₁` the error at least halves -/
theorem eps_succ_le_half (k : ℕ) (hU : U s w r k ≤ w₁) :
    eps s w r w₁ (k + 1) ≤ eps s w r w₁ k / 2 := by
  have hN := Nn_nonneg hw hr k
  unfold eps
  calc Nn s w r (k + 1) / (w₁ + U s w r (k + 1)) ≤ Nn s w r (k + 1) / w₁ :=
        div_le_div_of_nonneg_left (Nn_nonneg hw hr (k + 1)) h₁
          (le_add_of_nonneg_right (U_nonneg hw hr (k + 1)))
    _ ≤ Nn s w r k / 4 / w₁ := div_le_div_of_nonneg_right (Nn_succ_le hw hr k) h₁.le
    _ = Nn s w r k / (4 * w₁) := div_div _ _ _
    _ ≤ Nn s w r k / ((w₁ + U s w r k) * 2) :=
        div_le_div_of_nonneg_left hN (mul_pos (den_pos hw hr h₁ k) two_pos) (by linarith)
    _ = Nn s w r k / (w₁ + U s w r k) / 2 := (div_div _ _ _).symm

theorem rho_ge (k : ℕ) (hU : U s w r k ≤ w₁) : 1 / 4 ≤ rho s w r w₁ k := by
  have hN := Nn_upper hw hr k
  rw [Nn_eq] at hN
  unfold rho
  rw [le_div_iff₀ (den_pos hw hr h₁ k)]
  linarith

theorem U_succ_le_w₁ (k : ℕ) (hU : U s w r k ≤ w₁) : U s w r (k + 1) ≤ w₁ := by
  have := U_succ_le hw hr k
  have := U_nonneg hw hr k
  linarith

/-- the relative change of two consecutive quotients, written with the errors -/
theorem change_eq (k : ℕ) (hU : U s w r k ≤ w₁) :
    |(rho s w r w₁ (k + 1) - rho s w r w₁ k) / rho s w r w₁ (k + 1)|
      = (eps s w r w₁ k - eps s w r w₁ (k + 1)) / rho s w r w₁ (k + 1) := by
  have hp := rho_ge hw hr h₁ (k + 1) (U_succ_le_w₁ hw hr h₁ k hU)
  have hh := eps_succ_le_half hw hr h₁ k hU
  have h0 := eps_nonneg hw hr h₁ k
  rw [rho_eq hw hr h₁ k, rho_eq hw hr h₁ (k + 1), sub_sub_sub_cancel_left,
    ← rho_eq hw hr h₁ (k + 1), abs_of_nonneg]
  exact div_nonneg (by linarith) (by linarith)

/-- **a-posteriori bound**: a stopping test passed once `U k ≤ w₁` bounds the error of the *new*
quotient by the tolerance (constant 1) -/
theorem aposteriori (k : ℕ) (hU : U s w r k ≤ w₁) (tol : ℝ)
    (h : |(rho s w r w₁ (k + 1) - rho s w r w₁ k) / rho s w r w₁ (k + 1)| < tol) :
    eps s w r w₁ (k + 1) < tol * rho s w r w₁ (k + 1) := by
  have hp := rho_ge hw hr h₁ (k + 1) (U_succ_le_w₁ hw hr h₁ k hU)
  have hh := eps_succ_le_half hw hr h₁ k hU
  rw [change_eq hw hr h₁ k hU, div_lt_iff₀ (by linarith)] at h
  linarith

/-- **a-priori stop**: the stopping test is passed as soon as `4·eps k` is below the tolerance -/
theorem apriori_stop (k : ℕ) (hU : U s w r k ≤ w₁) (tol : ℝ) (h : 4 * eps s w r w₁ k < tol) :
    |(rho s w r w₁ (k + 1) - rho s w r w₁ k) / rho s w r w₁ (k + 1)| < tol := by
  have hp := rho_ge hw hr h₁ (k + 1) (U_succ_le_w₁ hw hr h₁ k hU)
  have h0 := eps_nonneg hw hr h₁ (k + 1)
  have ht : 0 ≤ tol := by linarith [eps_nonneg hw hr h₁ k]
  have hq : tol * (1 / 4) ≤ tol * rho s w r w₁ (k + 1) := mul_le_mul_of_nonneg_left hp ht
  rw [change_eq hw hr h₁ k hU, div_lt_iff₀ (by linarith)]
  linarith

/-- `‖Mx − λx‖² / (d₁²‖x‖²)` for `x = Mᵏ·1`, `λ = d₁·rho k`: by the residual identity it is
`‖Mx‖²/(d₁²‖x‖²) − rho k ²`, and `‖Mʲ·1‖² = d₁^(2j)·(w₁ + U j)`.  Here written with `Q2` and the
error. -/
theorem resid_eq (k : ℕ) :
    (w₁ + U s w r (k + 1)) / (w₁ + U s w r k) - rho s w r w₁ k ^ 2
      = Q2 s w r k / (w₁ + U s w r k) - (1 - rho s w r w₁ k) ^ 2 := by
  have hd := (den_pos hw hr h₁ k).ne'
  have e : w₁ + U s w r (k + 1)
      = Q2 s w r k - (w₁ + U s w r k) + 2 * (w₁ + V s w r k) := by rw [Q2_eq]; ring
  unfold rho
  rw [e, add_div, sub_div, div_self hd, mul_div_assoc]
  ring

theorem resid_le (k : ℕ) :
    (w₁ + U s w r (k + 1)) / (w₁ + U s w r k) - rho s w r w₁ k ^ 2
      ≤ 3 / 2 * eps s w r w₁ k := by
  have h1 : Q2 s w r k / (w₁ + U s w r k) ≤ 3 / 2 * eps s w r w₁ k := by
    unfold eps
    rw [← mul_div_assoc]
    exact div_le_div_of_nonneg_right (Q2_le hw hr k) (den_pos hw hr h₁ k).le
  rw [resid_eq hw hr h₁]
  linarith [sq_nonneg (1 - rho s w r w₁ k)]

/-- with `eps < tol·rho ≤ 4·tol·rho²` the bound `(3/2)·eps` of `resid_le` is below `6·tol·rho²` -/
theorem resid_le_tol (k : ℕ) (tol : ℝ) (he : eps s w r w₁ k < tol * rho s w r w₁ k)
    (hq : 1 / 4 ≤ rho s w r w₁ k) :
    w₁ + U s w r (k + 1)
      ≤ (rho s w r w₁ k ^ 2 + 6 * tol * rho s w r w₁ k ^ 2) * (w₁ + U s w r k) := by
  have h0 := eps_nonneg hw hr h₁ k
  have ht : 0 ≤ tol * rho s w r w₁ k := by linarith
  have h1 : tol * rho s w r w₁ k * (1 / 4) ≤ tol * rho s w r w₁ k * rho s w r w₁ k :=
    mul_le_mul_of_nonneg_left hq ht
  rw [← div_le_iff₀ (den_pos hw hr h₁ k)]
  linarith [resid_le hw hr h₁ k]

variable (s w r w₁) in
/-- a lower bound for the same quantity (not its non-negativity); not used by the accuracy proof -/
theorem resid_ge (k : ℕ) : -(1 - rho s w r w₁ k) ^ 2 ≤
    (w₁ + U s w r (k + 1)) / (w₁ + U s w r k) - rho s w r w₁ k ^ 2 := by
  rw [resid_eq hw hr h₁]
  linarith [div_nonneg (Q2_nonneg hw hr k) (den_pos hw hr h₁ k).le]

end quotients
end SV.C13.Acc
