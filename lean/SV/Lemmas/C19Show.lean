import SV.Lemmas.C19Spell
/-!
Lemmas for C19, display part: the text `Display` prints for a well-formed tree is lexed, dotted by the
implied-multiplication pass and parsed back to the same tree.

`Shows s e pw` is the invariant of one induction over the tree: the text `s` is lexed as some tokens (`SInv`), and
after the implied-multiplication pass these are a canonical reading (`CR`), at the level `pw` that `display_power`
gives, of a tree equal to `e` up to `norm`; `CR.parse` then says that the parser returns that tree.  There is one
lemma for each way `render` puts text together; a juxtaposition `2x` is the binary case with the `·` that the
implied-multiplication pass inserts.
-/
namespace SV.C19
open SV SV.Text

def isOperand : Tok Dec → Bool
  | .num _ | .var _ | .const _ => true
  | _ => false

theorem isLetterTok_not_num {t : Tok Dec} (h : isLetterTok t = true) : isNumTok t = false := by
  cases t <;> first | rfl | cases h

/-- text that is lexed, dotted and read back canonically, at level `pw`, as a tree equal to `e` up to `paren`
flags and the spelling of literals -/
def Shows (s : List Char) (e : Expr Dec) (pw : Nat) : Prop :=
  ∃ ts e', norm e' = norm e ∧ SInv s ts ∧ CR e' (impliedMul ts) pw

variable {s sl sr : List Char} {ts tl tr : List (Tok Dec)} {e v l r : Expr Dec} {pw pl pr : Nat}

theorem sinv_infix (hl : SInv sl tl) (hr : SInv sr tr) (o : Op) :
    SInv (sl ++ (o.sym.toList ++ sr)) (tl ++ .op o :: tr) :=
  sinv_append_symR hl (sinv_append_symL (sinv_op o) hr (fun _ hx => by cases hx; rfl))
    (fun _ hy => by cases hy; rfl)

theorem sinv_infix_sp (hl : SInv sl tl) (hr : SInv sr tr) (o : Op) :
    SInv (sl ++ ' ' :: (o.sym.toList ++ ' ' :: sr)) (tl ++ .op o :: tr) :=
  sinv_append_sp hl (sinv_append_sp (sinv_op o) hr fun x hx y _ => noClash_sym_left (by cases hx; rfl) y)
    fun x _ y hy => noClash_sym_right x (by cases hy; rfl)

theorem wrap_toList (t : String) (pw needed : Nat) (strict : Bool) :
    (wrap t pw needed strict).toList =
      if pw < needed ∨ (strict = true ∧ pw = needed) then '(' :: t.toList ++ [')'] else t.toList := by
  unfold wrap
  split
  · simp
  · rfl

theorem Shows.par (h : Shows s e pw) : Shows ('(' :: s ++ [')']) e inf := by
  obtain ⟨ts, e', hn, hs, hr⟩ := h
  exact ⟨_, _, (norm_setParen e').trans hn, sinv_par hs, by rw [impliedMul_par]; exact .paren hr⟩

/-- `fmt_operand`: parentheses where the operand binds too loosely; afterwards it binds tightly enough -/
theorem Shows.wrap {t : String} (h : Shows t.toList e pw)
    (needed : Nat) (strict : Bool) (hn : needed ≤ inf) (hs : strict = true → needed < inf) :
    ∃ P, needed ≤ P ∧ (strict = true → needed < P) ∧ Shows (SV.C19.wrap t pw needed strict).toList e P := by
  rw [wrap_toList]
  split
  · exact ⟨inf, hn, hs, h.par⟩
  · rename_i hw
    refine ⟨pw, by omega, fun hst => ?_, h⟩
    have : pw ≠ needed := fun he => hw (.inr ⟨hst, he⟩)
    omega

theorem Shows.neg (h : Shows s v pw) (hp : 2 * SV.Gen.unaryMinPow ≤ pw + 1) :
    Shows ('-' :: s) (.pre .sub v) (2 * SV.Gen.unaryMinPow - 1) := by
  obtain ⟨ts, v', hn, hs, hr⟩ := h
  refine ⟨.op .sub :: ts, .pre .sub v', by rw [norm, norm, hn],
    sinv_append_symL (sinv_op .sub) hs (fun _ hx => by cases hx; rfl), ?_⟩
  rw [impliedMul_cons_of_not (needsDot_op_left .sub)]
  exact .neg hr hp

theorem Shows.post (h : Shows s v pw) (hp : inf ≤ pw) : Shows (s ++ ['!']) (.post .fac v) inf := by
  obtain ⟨ts, v', hn, hs, hr⟩ := h
  obtain rfl : pw = top := Nat.le_antisymm hr.level_le hp
  refine ⟨ts ++ [.op .fac], .post .fac v', by rw [norm, norm, hn],
    sinv_append_symR hs (show SInv ['!'] [.op .fac] from sinv_op .fac) (fun _ hy => by cases hy; rfl), ?_⟩
  rw [impliedMul_infix]
  exact .post hr

theorem Shows.func (f : Func) {i : Expr Dec} (h : Shows s i pw) :
    Shows (f.name.toList ++ ('(' :: s ++ [')'])) (.func f i) inf := by
  obtain ⟨ts, i', hn, hs, hr⟩ := h
  have hs' := sinv_append_symR (sinv_funcName f) (sinv_par hs) (fun _ hy => by cases hy; rfl)
  refine ⟨.func f :: .lp :: ts ++ [.rp], .func f (setParen i'), by rw [norm, norm, norm_setParen, hn], hs', ?_⟩
  rw [List.cons_append, impliedMul_cons_of_not (needsDot_func_left f), impliedMul_par]
  exact .func f hr

theorem Shows.flag {body : String} {o : Op} {P : Nat} (p : Bool) (h : Shows body.toList (.bin o l r false) P) :
    Shows (if p then "(" ++ body ++ ")" else body).toList (.bin o l r p) (if p then inf else P) := by
  cases p with
  | false => exact h
  | true =>
    obtain ⟨ts, e', hn, h2⟩ := h.par
    exact ⟨ts, e', hn, by simpa using h2⟩

/-- a binary node from its operands' tokens, whatever the spacing of the text -/
theorem Shows.bin (p : Bool) {o : Op} (ho1 : o ≠ .cdot) (ho2 : o ≠ .fac) {l' r' : Expr Dec}
    (hnl : norm l' = norm l) (hnr : norm r' = norm r) (hrl : CR l' (impliedMul tl) pl) (hrr : CR r' (impliedMul tr) pr)
    (hpl : 2 * bp o ≤ pl) (hpr : 2 * bp o < pr) {body : String} (hs : SInv body.toList (tl ++ .op o :: tr)) :
    Shows (if p then "(" ++ body ++ ")" else body).toList (.bin o l r p) (if p then inf else 2 * bp o) := by
  refine Shows.flag p ⟨tl ++ .op o :: tr, .bin o l' r' false, norm_bin_congr o _ _ hnl hnr, hs, ?_⟩
  have := CR.bin o hrl hrr ho2 hpl hpr
  rw [if_neg ho1] at this
  rwa [impliedMul_infix]

theorem SInv.head_not_num (h : SInv s ts) (hc : ∀ c ∈ s.head?, isNumChar c = false) :
    ∀ b ∈ ts.head?, isNumTok b = false := by
  obtain ⟨c, s', t, ts', rfl, -, rfl, hfit⟩ := h.2
  intro b hb
  cases hb
  cases hn : isNumTok t with
  | false => rfl
  | true => exact ((hc c rfl).symm.trans (hfit.1.mpr hn)).symm

/-- an operand token in front of a factor, read with the `·` of the implied-multiplication pass between them:
exactly one of the two tokens at the seam is a literal -/
theorem Shows.juxt (p : Bool) {sa sr : String} {a : Tok Dec} {ea r' : Expr Dec}
    (hsa : SInv sa.toList [a]) (hra : CR ea [a] top) (hat : isOperand a = true)
    (hsr : SInv sr.toList tr) (hrr : CR r' (impliedMul tr) pr) (hpr : 2 * bp .cdot < pr)
    (hab : ∀ b ∈ tr.head?, (isNumTok a != isNumTok b) = true) (hnl : norm ea = norm l) (hnr : norm r' = norm r) :
    Shows (if p then "(" ++ (sa ++ sr) ++ ")" else sa ++ sr).toList (.bin .mul l r p)
      (if p then inf else 2 * bp .cdot) := by
  refine Shows.flag p ⟨a :: tr, .bin .mul ea r' false, norm_bin_congr .mul _ _ hnl hnr, ?_, ?_⟩
  all_goals obtain ⟨c, s', b, tr', -, -, rfl, -⟩ := hsr.2
  all_goals
    have hb : HeadTok (2 * bp .cdot) b :=
      ((impliedMul_head? (b :: tr') ▸ hrr.head) b rfl).mono (Nat.le_of_lt hpr)
    have hne : isNumTok a ≠ isNumTok b := by simpa using hab b rfl
  · have hcl : ¬ Clash a b := by
      rintro (⟨h1, h2⟩ | ⟨h1, h2⟩)
      · exact hne (h1.trans h2.symm)
      · exact hne ((isLetterTok_not_num h1).trans (isLetterTok_not_num h2).symm)
    rw [String.toList_append]
    exact sinv_append hsa hsr (fun x hx y hy => by cases hx; cases hy; exact hcl)
  · have hneg : ¬ 2 * bp .cdot < 2 * SV.Gen.unaryMinPow := by decide
    have hdot : needsDot a b = true := by
      cases b with
      | op o => exact absurd hb.2 hneg
      | rp => exact hb.elim
      | num x => cases a <;> first | rfl | exact absurd hat Bool.false_ne_true | exact absurd rfl hne
      | _ => cases a <;> first | rfl | exact absurd hat Bool.false_ne_true
    rw [impliedMul, if_pos hdot]
    exact CR.bin (o := .cdot) hra hrr (by decide) (Nat.le_of_lt (two_bp_lt_top _)) hpr

def isBin : Expr Dec → Bool
  | .bin _ _ _ _ => true
  | _ => false

theorem render_pre (fmt : Dec → String) (o : Op) (v : Expr Dec) :
    render fmt (.pre o v) =
      (o.sym ++ (if isBin v then wrap (render fmt v).1 (render fmt v).2 (2 * SV.Gen.unaryMinPow) false
        else (render fmt v).1), 5) := by
  cases v <;> rfl

theorem render_bin (fmt : Dec → String) (o : Op) (l r : Expr Dec) (p : Bool) :
    render fmt (.bin o l r p) =
      ((if p then "(" ++ (match implied fmt o l r (render fmt r).1 with
          | some s => s
          | none => wrap (render fmt l).1 (render fmt l).2 (2 * bp o) false ++ " " ++ o.sym ++ " " ++
              wrap (render fmt r).1 (render fmt r).2 (2 * bp o) true) ++ ")"
        else (match implied fmt o l r (render fmt r).1 with
          | some s => s
          | none => wrap (render fmt l).1 (render fmt l).2 (2 * bp o) false ++ " " ++ o.sym ++ " " ++
              wrap (render fmt r).1 (render fmt r).2 (2 * bp o) true)),
       if p then inf else if (implied fmt o l r (render fmt r).1).isSome ∧ o = .mul then 8 else 2 * bp o) := rfl

theorem render_pow_not_bin (h : isBin e = false) : 2 * SV.Gen.unaryMinPow ≤ (render fmtDec e).2 + 1 := by
  cases e with
  | pre => rw [render_pre]; exact (by decide : 2 * SV.Gen.unaryMinPow ≤ 5 + 1)
  | bin => cases h
  | _ => exact (by decide : 2 * SV.Gen.unaryMinPow ≤ inf + 1)

/-- the trees printed as a single token -/
def isOperandE : Expr Dec → Bool
  | .num _ | .var _ | .const _ => true
  | _ => false

def isLit : Expr Dec → Bool
  | .num _ => true
  | _ => false

theorem shows_operand (h : Wf e) (ho : isOperandE e = true) :
    ∃ a ea, isOperand a = true ∧ isNumTok a = isLit e ∧ norm ea = norm e ∧
      SInv (render fmtDec e).1.toList [a] ∧ CR ea [a] top := by
  cases h with
  | num hd => exact ⟨_, _, rfl, rfl, norm_num_canon _, sinv_num hd, .num _⟩
  | var hv => exact ⟨_, _, rfl, rfl, rfl, sinv_var hv, .var _⟩
  | const c => exact ⟨_, _, rfl, rfl, rfl, sinv_const c, .const _⟩
  | _ => cases ho

/-- The outcomes of `implied_form` on a binary node `l o r`. -/
inductive ImpliedForm (fmt : Dec → String) (l r : Expr Dec) : Op → Option String → Prop
  /-- none: the node is printed `l o r` -/
  | spaced (o : Op) : ImpliedForm fmt l r o none
  /-- two operands of which exactly one is a literal are put side by side: `2x`, `x2` -/
  | juxt : isOperandE l = true → isOperandE r = true → (isLit l != isLit r) = true →
      ImpliedForm fmt l r .mul (some ((render fmt l).1 ++ (render fmt r).1))
  /-- so is a literal with a power whose text does not begin like a number: `2x^3`, not `23^2` -/
  | beforePower {n : Dec} {a b : Expr Dec} {q : Bool} : l = .num n → r = .bin .caret a b q →
      (∀ c ∈ (render fmt r).1.toList.head?, isNumChar c = false) →
      ImpliedForm fmt l r .mul (some (fmt n ++ (render fmt r).1))
  /-- a power of two operands is written without spaces: `x^2` -/
  | tightPower : isOperandE l = true → isOperandE r = true →
      ImpliedForm fmt l r .caret (some ((render fmt l).1 ++ "^" ++ (render fmt r).1))

theorem implied_cases (fmt : Dec → String) (o : Op) (l r : Expr Dec) :
    ImpliedForm fmt l r o (implied fmt o l r (render fmt r).1) := by
  generalize h : implied fmt o l r (render fmt r).1 = x
  generalize htr : (render fmt r).1 = tr at h
  unfold implied at h
  split at h
  · subst htr h; exact .juxt rfl rfl rfl
  · subst htr h; exact .juxt rfl rfl rfl
  · rename_i n _ _ _
    have hx : x = none ∨ (∀ c ∈ tr.toList.head?, isNumChar c = false) ∧ x = some (fmt n ++ tr) := by
      split at h
      · split at h
        · exact .inl h.symm
        · rename_i c _ hc hn
          refine .inr ⟨fun d hd => ?_, h.symm⟩
          rw [hc] at hd
          cases hd
          simpa [isNumChar] using hn
      · rename_i hc
        refine .inr ⟨fun d hd => ?_, h.symm⟩
        rw [hc] at hd
        cases hd
    subst htr
    rcases hx with rfl | ⟨hc, rfl⟩
    · exact .spaced _
    · exact .beforePower rfl rfl hc
  · subst htr h; exact .juxt rfl rfl rfl
  · subst htr h; exact .juxt rfl rfl rfl
  · subst htr h; exact .tightPower rfl rfl
  · subst htr h; exact .tightPower rfl rfl
  · subst h; exact .spaced _

theorem render_pow_caret (a b : Expr Dec) (q : Bool) :
    2 * bp .cdot < (render fmtDec (.bin .caret a b q)).2 := by
  rw [render_bin]
  cases q with
  | true => exact two_bp_lt_inf _
  | false =>
    have : ¬ ((implied fmtDec .caret a b (render fmtDec b).1).isSome = true ∧ Op.caret = Op.mul) :=
      fun h => absurd h.2 (by decide)
    simp only [Bool.false_eq_true, if_false, if_neg this]
    decide

theorem infix_tight_toList (a o b : String) : (a ++ o ++ b).toList = a.toList ++ (o.toList ++ b.toList) := by
  simp

theorem infix_toList (a o b : String) :
    (a ++ " " ++ o ++ " " ++ b).toList = a.toList ++ ' ' :: (o.toList ++ ' ' :: b.toList) := by
  simp

/-- **The text `Display` prints for a well-formed tree is lexed and parsed back to the same tree** (up to
`paren` flags and the spelling of literals), at the display power `display_power` gives it. -/
theorem render_displays (h : Wf e) : Shows (render fmtDec e).1.toList e (render fmtDec e).2 := by
  induction h with
  | @num d hd => exact ⟨_, _, norm_num_canon d, sinv_num hd, .num _⟩
  | @var s hs => exact ⟨_, _, rfl, sinv_var hs, .var _⟩
  | const c => exact ⟨_, _, rfl, sinv_const c, .const _⟩
  | @func f i hi ih => simpa [render] using ih.func f
  | @pre v hv ih =>
    rw [render_pre]
    have key : ∃ P, 2 * SV.Gen.unaryMinPow ≤ P + 1 ∧ Shows (if isBin v then
        wrap (render fmtDec v).1 (render fmtDec v).2 (2 * SV.Gen.unaryMinPow) false
        else (render fmtDec v).1).toList v P := by
      cases hb : isBin v with
      | true =>
        obtain ⟨P, h1, -, h2⟩ := ih.wrap (2 * SV.Gen.unaryMinPow) false (by decide) (fun h => by cases h)
        exact ⟨P, Nat.le_succ_of_le h1, h2⟩
      | false => exact ⟨_, render_pow_not_bin hb, ih⟩
    obtain ⟨P, hP, hD⟩ := key
    have := hD.neg hP
    rw [show 2 * SV.Gen.unaryMinPow - 1 = 5 by decide] at this
    simpa [Op.sym] using this
  | @post v hv ih =>
    obtain ⟨P, hP, -, hD⟩ := ih.wrap inf false (Nat.le_refl _) (fun h => by cases h)
    simpa [render, Op.sym] using hD.post hP
  | @bin o l r p ho1 ho2 hl hr ihl ihr =>
    rw [render_bin]
    have hI := implied_cases fmtDec o l r
    generalize implied fmtDec o l r (render fmtDec r).1 = x at hI ⊢
    cases hI with
    | spaced =>
      obtain ⟨Pl, h1l, -, tl, l', hnl, hsl, hrl⟩ :=
        ihl.wrap (2 * bp o) false (Nat.le_of_lt (two_bp_lt_inf o)) (fun h => by cases h)
      obtain ⟨Pr, -, h1r, tr, r', hnr, hsr, hrr⟩ :=
        ihr.wrap (2 * bp o) true (Nat.le_of_lt (two_bp_lt_inf o)) (fun _ => two_bp_lt_inf o)
      exact Shows.bin p ho1 ho2 hnl hnr hrl hrr h1l (h1r rfl)
        (by rw [infix_toList]; exact sinv_infix_sp hsl hsr o)
    | juxt hol hor hne =>
      obtain ⟨a, ea, hat, hna, hnl, hsa, hra⟩ := shows_operand hl hol
      obtain ⟨b, eb, -, hnb, hnr, hsb, hrb⟩ := shows_operand hr hor
      exact Shows.juxt p hsa hra hat hsb hrb (two_bp_lt_top _)
        (fun _ hb => by cases hb; rw [hna, hnb]; exact hne) hnl hnr
    | @beforePower n a b q hln hrp hc =>
      subst hln hrp
      cases hl with | num hn =>
      obtain ⟨tr, r', hnr, hsr, hrr⟩ := ihr
      exact Shows.juxt p (sinv_num hn) (.num _) rfl hsr hrr (render_pow_caret a b q)
        (fun b' hb' => by rw [hsr.head_not_num hc b' hb']; rfl) (norm_num_canon n) hnr
    | tightPower hol hor =>
      obtain ⟨a, ea, -, -, hnl, hsa, hra⟩ := shows_operand hl hol
      obtain ⟨b, eb, -, -, hnr, hsb, hrb⟩ := shows_operand hr hor
      exact Shows.bin p ho1 ho2 (tl := [a]) (tr := [b]) hnl hnr hra hrb (Nat.le_of_lt (two_bp_lt_top _)) (two_bp_lt_top _)
        (by rw [infix_tight_toList]; exact sinv_infix hsa hsb .caret)


end SV.C19
