import SV.Model.C13
import SV.Lemmas.Mat
import SV.Lemmas.Fold
import SV.Props.C11
import Mathlib.Algebra.Order.Field.Basic
import Mathlib.Tactic.Ring
/-!
Lemmas for C13 (power method).

The first part holds for *every* scalar type with the operations the model uses (no algebraic law
is needed, so it covers the `Float` instance the driver runs), each section asking for the
operations its lemmas use: on conforming shapes every product, `max` and the scalar extraction are
defined; the loop is taken apart into one equation per way a pass can end, from which `loop_ok_inv`
(an `Ok` comes from a `LastPass`, reached through any invariant of the continuing passes) and
`loop_total` follow; `power_method` is that loop, started from a state which depends on the matrix
only.  The second part is over a field, ordered where the order is used: `Arr2D::max`/`min` (one
`reduce`, two closures) pick the extremal entry, what the helper `normaliser` returns, the value of
the Rayleigh quotient.
-/
namespace SV.C13
open SV SV.C11 Finset

section shapes
variable {S : Type}

/-- `Arr2D::max` and `Arr2D::min` are the same `reduce`, with the closures `pickMax`, `pickMin` -/
def reduce (f : S → S → S) (m : Mat S) : Option S :=
  if m.h = 0 ∨ m.w = 0 then none
  else match m.a.toList with
    | [] => none
    | x :: xs => some (xs.foldl f x)

theorem reduce_some (f : S → S → S) (m : Mat S) (hwf : m.WF) (hh : 0 < m.h) (hw : 0 < m.w) :
    ∃ c, reduce f m = some c := by
  unfold reduce
  rw [if_neg (by omega)]
  cases hl : m.a.toList with
  | nil =>
    have h0 : m.a.size = 0 := by simpa using congrArg List.length hl
    rw [hwf] at h0
    exact absurd h0 (Nat.mul_pos hh hw).ne'
  | cons x xs => exact ⟨_, rfl⟩

theorem reduce_shape (f : S → S → S) (m : Mat S) (c : S) (h : reduce f m = some c) :
    0 < m.h ∧ 0 < m.w := by
  unfold reduce at h
  by_cases hb : m.h = 0 ∨ m.w = 0
  · rw [if_pos hb] at h
    cases h
  · omega

variable [Inhabited S]

theorem asScalar_some (m : Mat S) (hwf : m.WF) (hh : m.h = 1) (hw : m.w = 1) :
    asScalar m = some (m.get 0 0) := by
  have hs : m.a.size = 1 := by rw [hwf, hh, hw]
  unfold asScalar Mat.get
  rw [Array.getElem?_eq_getElem (by omega)]
  simp [Array.getD_eq_getD_getElem?, Array.getElem?_eq_getElem (show 0 < m.a.size by omega)]

theorem transpose_shape (n : Nat) (x : Mat S) (hx : x.HasShape n 1) :
    x.transpose.h = 1 ∧ x.transpose.w = n ∧ x.transpose.WF :=
  ⟨hx.2.1, hx.1, Mat.transpose_WF _⟩

variable [Div S]

theorem get_divS (m : Mat S) (s : S) {i j : Nat} (hi : i < m.h) (hj : j < m.w) :
    (divS m s).get i j = m.get i j / s := Mat.get_tab _ hi hj

theorem divS_colVec (n : Nat) (x : Mat S) (c : S) (hx : x.HasShape n 1) :
    (divS x c).HasShape n 1 :=
  ⟨hx.1, hx.2.1, Mat.tab_WF _ _ _⟩

end shapes

theorem ones_colVec {S : Type} [OfNat S 1] (n : Nat) : (ones n : Mat S).HasShape n 1 :=
  ⟨rfl, rfl, Mat.tab_WF _ _ _⟩

section product
variable {S : Type} [Inhabited S] [Add S] [Mul S] [OfNat S 0]

theorem mulOp_colVec (n : Nat) (A x : Mat S) (hA : A.HasShape n n) (hx : x.HasShape n 1) :
    (mulOp A x).HasShape n 1 := by
  obtain ⟨_, h1, w1, f1⟩ := mulOp_conform A x (hA.2.1.trans hx.1.symm)
  exact ⟨h1.trans hA.1, w1.trans hx.2.1, f1⟩

theorem rayleigh_shapes (n : Nat) (A x : Mat S) (hA : A.HasShape n n) (hx : x.HasShape n 1) :
    (∃ ax, dot A x = .ok ax ∧ ax.HasShape n 1) ∧
    (∃ num, dot x.transpose (mulOp A x) = .ok num ∧ num.h = 1 ∧ num.w = 1 ∧ num.WF) ∧
    (∃ den, dot x.transpose x = .ok den ∧ den.h = 1 ∧ den.w = 1 ∧ den.WF) := by
  obtain ⟨t1, t2, _⟩ := transpose_shape n x hx
  have hax := mulOp_colVec n A x hA hx
  obtain ⟨e1, _⟩ := mulOp_conform A x (hA.2.1.trans hx.1.symm)
  obtain ⟨e2, h2, w2, f2⟩ := mulOp_conform x.transpose (mulOp A x) (t2.trans hax.1.symm)
  obtain ⟨e3, h3, w3, f3⟩ := mulOp_conform x.transpose x (t2.trans hx.1.symm)
  exact ⟨⟨_, e1, hax⟩, ⟨_, e2, h2.trans t1, w2.trans hax.2.1, f2⟩,
    ⟨_, e3, h3.trans t1, w3.trans hx.2.1, f3⟩⟩

variable [Div S]

theorem rayleigh_some (n : Nat) (A x : Mat S) (hA : A.HasShape n n) (hx : x.HasShape n 1) :
    rayleigh A x = some ((mulOp x.transpose (mulOp A x)).get 0 0 / (mulOp x.transpose x).get 0 0) := by
  obtain ⟨_, ⟨num, e2, h2, w2, f2⟩, ⟨den, e3, h3, w3, f3⟩⟩ := rayleigh_shapes n A x hA hx
  unfold rayleigh
  simp only [mulOp_of_ok e2, mulOp_of_ok e3, asScalar_some num f2 h2 w2,
    asScalar_some den f3 h3 w3]

end product

section extrema
variable {S : Type} [LT S] [DecidableRel (α := S) (· < ·)]

theorem maxOf_some (m : Mat S) (hwf : m.WF) (hh : 0 < m.h) (hw : 0 < m.w) :
    ∃ c, maxOf m = some c := reduce_some pickMax m hwf hh hw

theorem minOf_some (m : Mat S) (hwf : m.WF) (hh : 0 < m.h) (hw : 0 < m.w) :
    ∃ c, minOf m = some c := reduce_some pickMin m hwf hh hw

variable [OfNat S 0]

/-- the helper `normaliser` never hits an `unwrap` panic on a non-empty array -/
theorem normaliser_some (m : Mat S) (hwf : m.WF) (hh : 0 < m.h) (hw : 0 < m.w) :
    ∃ c, normaliser m = some c := by
  obtain ⟨l, hl⟩ := maxOf_some m hwf hh hw
  unfold normaliser
  rw [hl]
  by_cases hpos : l > 0
  · exact ⟨l, if_pos hpos⟩
  · obtain ⟨t, ht⟩ := minOf_some m hwf hh hw
    exact ⟨t, (if_neg hpos).trans ht⟩

theorem colVec_some (n : Nat) (hn : 0 < n) (x : Mat S) (hx : x.HasShape n 1) :
    ∃ c, normaliser x = some c :=
  normaliser_some x hx.2.2 (by rw [hx.1]; exact hn) (by rw [hx.2.1]; exact Nat.one_pos)

/-- an array on which `normaliser` did not panic is not empty, so `max()` of any quotient of it does
not panic either — with no hypothesis on the shapes -/
theorem maxOf_divS_some [Inhabited S] [Div S] (y : Mat S) (c s : S) (h : normaliser y = some c) :
    ∃ m, maxOf (divS y s) = some m := by
  unfold normaliser at h
  cases hm : maxOf y with
  | none => rw [hm] at h; cases h
  | some l =>
    obtain ⟨hh, hw⟩ := reduce_shape pickMax y l hm
    exact maxOf_some _ (Mat.tab_WF _ _ _) hh hw

end extrema


/-! #### the loop -/
section loop
variable {S : Type} [Inhabited S] [Add S] [Sub S] [Mul S] [Div S] [Neg S] [OfNat S 0]
  [LT S] [DecidableRel (α := S) (· < ·)]

theorem pass_spec (A ev : Mat S) (lam : S) (p : Pass S) (h : pass A ev lam = some p) :
    normaliser (mulOp A ev) = some p.c ∧ p.nv = divS (mulOp A ev) p.c ∧
      rayleigh A p.nv = some p.next ∧ p.ea = sabs ((p.next - lam) / p.next) := by
  unfold pass at h
  simp only at h
  split at h
  · cases h
  · rename_i c hc
    split at h
    · cases h
    · rename_i next hn
      cases h
      exact ⟨hc, rfl, hn, rfl⟩

/-- so the final renormalisation after a pass never hits its `unwrap` -/
theorem pass_maxOf_some (A ev : Mat S) (lam : S) (p : Pass S) (hp : pass A ev lam = some p) :
    ∃ c, maxOf p.nv = some c := by
  obtain ⟨hc, hnv, _, _⟩ := pass_spec A ev lam p hp
  rw [hnv]
  exact maxOf_divS_some _ _ _ hc

theorem pass_some (n : Nat) (hn : 0 < n) (A ev : Mat S) (lam : S) (hA : A.HasShape n n)
    (hev : ev.HasShape n 1) : ∃ p, pass A ev lam = some p ∧ p.nv.HasShape n 1 := by
  have hm := mulOp_colVec n A ev hA hev
  obtain ⟨c, hc⟩ := colVec_some n hn _ hm
  have hnv : (divS (mulOp A ev) c).HasShape n 1 := divS_colVec n _ c hm
  unfold pass
  simp only [hc, rayleigh_some n A _ hA hnv]
  exact ⟨_, rfl, hnv⟩

variable [BEq S]

/-- the stopping test `pass > 0 && ea < es` (with the model's guard against a zero estimate) -/
def Stops (es : S) (done : Nat) (p : Pass S) : Prop := 0 < done ∧ ¬(p.next == 0) ∧ p.ea < es

section step
variable {A : Mat S} {es : S} {fuel done : Nat} {ev : Mat S} {lam : S} {p : Pass S}

theorem loop_panic (hp : pass A ev lam = none) : loop A es (fuel + 1) done ev lam = .panic := by
  rw [loop, hp]

theorem loop_zero_normaliser (hp : pass A ev lam = some p) (hc : (p.c == 0) = true) :
    loop A es (fuel + 1) done ev lam = .err .noConvergence := by
  rw [loop, hp]
  exact if_pos hc

theorem loop_stop (hp : pass A ev lam = some p) (hc : ¬(p.c == 0) = true)
    (hs : Stops es done p) :
    loop A es (fuel + 1) done ev lam =
      match maxOf p.nv with
      | none => .panic
      | some largest => .ok (p.next, divS p.nv largest, done + 1) := by
  rw [loop, hp]
  exact (if_neg hc).trans (if_pos hs)

theorem loop_continue (hp : pass A ev lam = some p) (hc : ¬(p.c == 0) = true)
    (hs : ¬Stops es done p) :
    loop A es (fuel + 1) done ev lam = loop A es fuel (done + 1) p.nv p.next := by
  rw [loop, hp]
  exact (if_neg hc).trans (if_neg hs)

end step

/-- `r` is what the loop returns from the pass `p`, made after `done` passes in the state
`(ev, lam)`: the normaliser is not zero, the stopping test is passed, and the vector is that pass's,
renormalised by its `max()` -/
structure LastPass (A : Mat S) (es : S) (r : S × Mat S × Nat) (done : Nat) (ev : Mat S) (lam : S)
    (p : Pass S) (largest : S) : Prop where
  pass_eq : pass A ev lam = some p
  c_ne : ¬(p.c == 0) = true
  stops : Stops es done p
  max_eq : maxOf p.nv = some largest
  result : r = (p.next, divS p.nv largest, done + 1)

/-- **The pass an `Ok` comes from.**  Whatever invariant `I` of the loop state the passes preserve:
a returned triple comes from a pass made in a state satisfying `I`. -/
theorem loop_ok_inv (A : Mat S) (es : S) (I : Nat → Mat S → S → Prop)
    (hI : ∀ done ev lam p, I done ev lam → pass A ev lam = some p → I (done + 1) p.nv p.next) :
    ∀ fuel done (ev : Mat S) (lam : S) r, I done ev lam → loop A es fuel done ev lam = .ok r →
      ∃ done' ev' lam' p largest, I done' ev' lam' ∧ LastPass A es r done' ev' lam' p largest ∧
        done ≤ done' ∧ done' < done + fuel := by
  intro fuel
  induction fuel with
  | zero => intro done ev lam r _ h; cases h
  | succ fuel ih =>
    intro done ev lam r hi h
    cases hp : pass A ev lam with
    | none => rw [loop_panic hp] at h; cases h
    | some p =>
      by_cases hc : (p.c == 0) = true
      · rw [loop_zero_normaliser hp hc] at h; cases h
      by_cases hs : Stops es done p
      · rw [loop_stop hp hc hs] at h
        cases hm : maxOf p.nv with
        | none => rw [hm] at h; cases h
        | some largest =>
          rw [hm] at h
          cases h
          exact ⟨done, ev, lam, p, largest, hi, ⟨hp, hc, hs, hm, rfl⟩, Nat.le_refl _, by omega⟩
      · rw [loop_continue hp hc hs] at h
        obtain ⟨done', ev', lam', p', l, hi', hlast, h1, h2⟩ :=
          ih (done + 1) p.nv p.next r (hI done ev lam p hi hp) h
        exact ⟨done', ev', lam', p', l, hi', hlast, by omega, by omega⟩

theorem loop_total (n : Nat) (hn : 0 < n) (A : Mat S) (es : S) (hA : A.HasShape n n) :
    ∀ fuel done (ev : Mat S) (lam : S), ev.HasShape n 1 →
      (∃ r, loop A es fuel done ev lam = .ok r) ∨
        loop A es fuel done ev lam = .err .noConvergence := by
  intro fuel
  induction fuel with
  | zero => intro done ev lam _; exact Or.inr rfl
  | succ fuel ih =>
    intro done ev lam hev
    obtain ⟨p, hp, hnv⟩ := pass_some n hn A ev lam hA hev
    by_cases hc : (p.c == 0) = true
    · exact Or.inr (loop_zero_normaliser hp hc)
    by_cases hs : Stops es done p
    · obtain ⟨c, hm⟩ := pass_maxOf_some A ev lam p hp
      rw [loop_stop hp hc hs, hm]
      exact Or.inl ⟨_, rfl⟩
    · rw [loop_continue hp hc hs]
      exact ih (done + 1) p.nv p.next hnv

/-- the pass the loop returned from, on conforming shapes: `x` is the previous normalised iterate
with Rayleigh quotient `lamPrev` (never the estimate from the start vector: `done ≥ 1`), `ps` the
last pass, `largest` the final normaliser -/
theorem loop_ok (n : Nat) (hn : 0 < n) (A : Mat S) (es : S) (hA : A.HasShape n n)
    (fuel : Nat) (ev : Mat S) (lam0 : S) (r : S × Mat S × Nat) (hev : ev.HasShape n 1)
    (h : loop A es fuel 0 ev lam0 = .ok r) :
    ∃ (done : Nat) (x : Mat S) (lamPrev : S) (ps : Pass S) (largest : S),
      LastPass A es r done x lamPrev ps largest ∧ x.HasShape n 1 ∧ rayleigh A x = some lamPrev ∧
        ps.nv.HasShape n 1 ∧ done < fuel := by
  obtain ⟨done, x, lamPrev, ps, l, ⟨hx, hr⟩, hlast, _, hlt⟩ :=
    loop_ok_inv A es (fun done ev lam => ev.HasShape n 1 ∧ (0 < done → rayleigh A ev = some lam))
      (fun done ev lam p hi hp => by
        obtain ⟨p', hp', hnv⟩ := pass_some n hn A ev lam hA hi.1
        rw [hp] at hp'
        cases hp'
        exact ⟨hnv, fun _ => (pass_spec A ev lam p hp).2.2.1⟩)
      fuel 0 ev lam0 r ⟨hev, fun h0 => absurd h0 (Nat.lt_irrefl 0)⟩ h
  obtain ⟨ps', hps', hnv⟩ := pass_some n hn A x lamPrev hA hx
  rw [hlast.pass_eq] at hps'
  cases hps'
  exact ⟨done, x, lamPrev, ps, l, hlast, hx, hr hlast.stops.1, hnv, by omega⟩

/-- A returned pass count lies strictly after the passes already done, within the fuel, and is at
least 2 (the stopping test contains `0 < done`) — with no hypothesis on the shapes. -/
theorem loop_passes_bounds (A : Mat S) (es : S) (fuel done : Nat) (ev : Mat S) (lam l : S)
    (v : Mat S) (n : Nat) (h : loop A es fuel done ev lam = .ok (l, v, n)) :
    done < n ∧ n ≤ done + fuel ∧ 1 < n := by
  obtain ⟨done', _, _, _, _, _, hlast, h1, h2⟩ :=
    loop_ok_inv A es (fun _ _ _ => True) (fun _ _ _ _ _ _ => trivial) fuel done ev lam _ trivial h
  have := hlast.stops.1
  cases hlast.result
  omega

variable [OfNat S 1]

/-- either the call ends before the loop, with an outcome other than `Ok` that depends on the
matrix only, or it is the loop started after no pass from a state that depends on the matrix only -/
theorem powerCap_cases (A : Mat S) :
    (∃ o : Outcome PErr (S × Mat S × Nat), (∀ r, o ≠ .ok r) ∧ ∀ cap es, powerCap cap A es = o) ∨
      ∃ ev lam, ∀ cap es, powerCap cap A es = loop A es cap 0 ev lam := by
  unfold powerCap
  by_cases hb : A.h ≠ A.w ∨ A.h = 0 ∨ A.w = 0
  · exact Or.inl ⟨.err .nonSquare, fun _ e => (by cases e), fun _ _ => if_pos hb⟩
  simp only [if_neg hb]
  cases normaliser (mulOp A (ones A.h)) with
  | none => exact Or.inl ⟨.panic, fun _ e => (by cases e), fun _ _ => rfl⟩
  | some lam0 =>
    by_cases hz : (lam0 == 0) = true
    · exact Or.inl ⟨.err .noConvergence, fun _ e => (by cases e), fun _ _ => if_pos hz⟩
    · exact Or.inr ⟨_, _, fun _ _ => if_neg hz⟩

theorem powerCap_first_pass_never_stops (cap : Nat) (A : Mat S) (es lam : S) (v : Mat S) (p : Nat)
    (h : powerCap cap A es = .ok (lam, v, p)) : 2 ≤ p ∧ p ≤ cap := by
  rcases powerCap_cases A with ⟨o, ho, hc⟩ | ⟨ev, lam0, hc⟩
  · exact absurd ((hc cap es).symm.trans h) (ho _)
  · have := loop_passes_bounds A es cap 0 ev lam0 lam v p ((hc cap es).symm.trans h)
    omega

theorem powerCap_square (n : Nat) (hn : 0 < n) (A : Mat S) (hA : A.HasShape n n) :
    ∃ lam0, normaliser (mulOp A (ones n)) = some lam0 ∧
      (divS (mulOp A (ones n)) lam0).HasShape n 1 ∧
      ∀ cap es, powerCap cap A es =
        if lam0 == 0 then .err .noConvergence
        else loop A es cap 0 (divS (mulOp A (ones n)) lam0) lam0 := by
  have hm := mulOp_colVec n A _ hA (ones_colVec n)
  obtain ⟨lam0, hl⟩ := colVec_some n hn _ hm
  refine ⟨lam0, hl, divS_colVec n _ lam0 hm, fun cap es => ?_⟩
  unfold powerCap
  rw [if_neg (by rw [hA.1, hA.2.1]; omega), hA.1]
  simp only [hl]

end loop

open Matrix in
theorem rq_smul {F : Type} [Field F] {n : ℕ} (M : Matrix (Fin n) (Fin n) F) (X : Fin n → F)
    (s : F) (hs : s ≠ 0) :
    ((s • X) ⬝ᵥ M *ᵥ (s • X)) / ((s • X) ⬝ᵥ (s • X)) = (X ⬝ᵥ M *ᵥ X) / (X ⬝ᵥ X) := by
  rw [Matrix.mulVec_smul, smul_dotProduct, dotProduct_smul, smul_dotProduct, dotProduct_smul,
    smul_eq_mul, smul_eq_mul, smul_eq_mul, smul_eq_mul, ← mul_assoc, ← mul_assoc,
    mul_div_mul_left _ _ (mul_ne_zero hs hs)]

theorem colVec_get {K : Type} [Inhabited K] (n : Nat) (x : Mat K) (hx : x.HasShape n 1) (i : Nat)
    (hi : i < n) :
    ∃ h : i < x.a.size, x.get i 0 = x.a[i] := by
  have hs : x.a.size = n := by rw [hx.2.2, hx.1, hx.2.1, Nat.mul_one]
  refine ⟨by omega, ?_⟩
  unfold Mat.get
  rw [hx.2.1, Nat.mul_one, Nat.add_zero, Array.getD_eq_getD_getElem?,
    Array.getElem?_eq_getElem (by omega)]
  rfl

theorem reduce_col {K : Type} [Inhabited K] (f : K → K → K) (r : K → K → Prop) (hrefl : ∀ a, r a a)
    (htrans : ∀ a b c, r a b → r b c → r a c) (hf : Picks r f)
    (n : Nat) (x : Mat K) (hx : x.HasShape n 1) (c : K) (h : reduce f x = some c) :
    (∃ i, i < n ∧ x.get i 0 = c) ∧ ∀ i, i < n → r (x.get i 0) c := by
  have hs : x.a.size = n := by rw [hx.2.2, hx.1, hx.2.1, Nat.mul_one]
  unfold reduce at h
  split at h
  · cases h
  · split at h
    · cases h
    · rename_i y ys hl
      cases h
      obtain ⟨hm, hb⟩ := foldl_picks hf hrefl htrans ys y
      rw [← hl] at hm hb
      constructor
      · obtain ⟨k, hk, e⟩ := List.getElem_of_mem hm
        have hk' : k < n := by simpa [hs] using hk
        obtain ⟨_, hg⟩ := colVec_get n x hx k hk'
        exact ⟨k, hk', by rw [hg, ← e]; simp⟩
      · intro i hi
        obtain ⟨hlt, hg⟩ := colVec_get n x hx i hi
        rw [hg]
        exact hb _ (by simp)

/-- an entry of a conforming product (also through the 1×1 shortcuts) -/
theorem mulOp_get {K : Type} [Field K] [Inhabited K] (a b : Mat K) (hc : a.w = b.h) {i j : Nat} (hi : i < a.h) (hj : j < b.w) :
    (mulOp a b).get i j = ∑ k ∈ range a.w, a.get i k * b.get k j :=
  SV.Props.C11.dot_entry a b _ hc (mulOp_conform a b hc).1 i j hi hj

section order
variable {K : Type} [LinearOrder K]

theorem pickMax_eq (a b : K) : pickMax a b = max a b := by
  unfold pickMax
  split_ifs with h
  · rw [max_eq_left (le_of_lt h)]
  · rw [max_eq_right (not_lt.mp h)]

theorem pickMin_eq (a b : K) : pickMin a b = min a b := by
  unfold pickMin
  split_ifs with h
  · rw [min_eq_left (le_of_lt h)]
  · rw [min_eq_right (not_lt.mp h)]

variable [Inhabited K]

theorem maxOf_col (n : Nat) (x : Mat K) (hx : x.HasShape n 1) (c : K) (h : maxOf x = some c) :
    (∃ i, i < n ∧ x.get i 0 = c) ∧ ∀ i, i < n → x.get i 0 ≤ c :=
  reduce_col pickMax (· ≤ ·) le_refl (fun _ _ _ => le_trans)
    (fun a b => by rw [pickMax_eq]; exact ⟨max_choice a b, le_max_left a b, le_max_right a b⟩)
    n x hx c h

theorem minOf_col (n : Nat) (x : Mat K) (hx : x.HasShape n 1) (c : K) (h : minOf x = some c) :
    (∃ i, i < n ∧ x.get i 0 = c) ∧ ∀ i, i < n → c ≤ x.get i 0 :=
  reduce_col pickMin (· ≥ ·) le_refl (fun _ _ _ h1 h2 => le_trans h2 h1)
    (fun a b => by rw [pickMin_eq]; exact ⟨min_choice a b, min_le_left a b, min_le_right a b⟩)
    n x hx c h

end order

section field
variable {K : Type} [Field K] [Inhabited K]

/-- a column array read as a vector: the bridge to Mathlib's `Matrix`, with `Mat.toMatrix` -/
def vec {S : Type} [Inhabited S] (n : ℕ) (x : Mat S) : Fin n → S := fun i => x.get i 0

open Matrix in
theorem vec_mulOp (n : ℕ) (A x : Mat K) (hA : A.HasShape n n) (hx : x.HasShape n 1) :
    vec n (mulOp A x) = A.toMatrix n n *ᵥ vec n x := by
  funext i
  unfold vec
  rw [mulOp_get A x (hA.2.1.trans hx.1.symm) (by rw [hA.1]; exact i.isLt)
    (by rw [hx.2.1]; exact Nat.one_pos), hA.2.1, Finset.sum_range]
  rfl

theorem vec_divS (n : ℕ) (y : Mat K) (c : K) (hh : y.h = n) (hw : y.w = 1) :
    vec n (divS y c) = c⁻¹ • vec n y :=
  funext fun i => (get_divS y c (by rw [hh]; exact i.isLt) (by rw [hw]; exact Nat.one_pos)).trans
    (div_eq_inv_mul _ _)

theorem vec_ones (n : ℕ) : vec n (ones n : Mat K) = fun _ => 1 :=
  funext fun i => Mat.get_tab _ i.isLt Nat.one_pos

open Matrix in
/-- `xᵀ * y` as the code forms it (a `1 × n` by `n × 1` product, read at `[0]`) is the dot product -/
theorem inner_get (n : ℕ) (x y : Mat K) (hx : x.HasShape n 1) (hy : y.HasShape n 1) :
    (mulOp x.transpose y).get 0 0 = vec n x ⬝ᵥ vec n y := by
  obtain ⟨t1, t2, _⟩ := transpose_shape n x hx
  rw [mulOp_get _ _ (t2.trans hy.1.symm) (by rw [t1]; exact Nat.one_pos)
    (by rw [hy.2.1]; exact Nat.one_pos), t2, Finset.sum_range]
  exact Finset.sum_congr rfl fun k _ => by
    rw [Mat.get_transpose x (by rw [hx.2.1]; exact Nat.one_pos) (by rw [hx.1]; exact k.isLt)]
    rfl

open Matrix in
theorem rayleigh_vec (n : ℕ) (A x : Mat K) (hA : A.HasShape n n) (hx : x.HasShape n 1) :
    rayleigh A x = some ((vec n x ⬝ᵥ A.toMatrix n n *ᵥ vec n x) / (vec n x ⬝ᵥ vec n x)) := by
  rw [rayleigh_some n A x hA hx, inner_get n x _ hx (mulOp_colVec n A x hA hx),
    inner_get n x x hx hx, vec_mulOp n A x hA hx]

variable [LinearOrder K]

/-- the helper `normaliser` on a column vector returns an entry: the largest one when that is
positive, otherwise the smallest one, and then no entry is positive -/
theorem normaliser_col (n : Nat) (x : Mat K) (hx : x.HasShape n 1) (c : K)
    (h : normaliser x = some c) :
    (∃ i, i < n ∧ x.get i 0 = c) ∧
      ((0 < c ∧ ∀ i, i < n → x.get i 0 ≤ c) ∨
        (c ≤ 0 ∧ ∀ i, i < n → c ≤ x.get i 0 ∧ x.get i 0 ≤ 0)) := by
  unfold normaliser at h
  split at h
  · cases h
  · rename_i largest hl
    obtain ⟨hatt, hub⟩ := maxOf_col n x hx largest hl
    split_ifs at h with hpos
    · cases h
      exact ⟨hatt, Or.inl ⟨hpos, hub⟩⟩
    · obtain ⟨⟨i1, hi1, e1⟩, hlb⟩ := minOf_col n x hx c h
      have hle : largest ≤ 0 := not_lt.mp hpos
      exact ⟨⟨i1, hi1, e1⟩, Or.inr ⟨by rw [← e1]; exact (hub i1 hi1).trans hle,
        fun i hi => ⟨hlb i hi, (hub i hi).trans hle⟩⟩⟩

theorem normaliser_eq_zero (n : Nat) (x : Mat K) (hx : x.HasShape n 1)
    (h : normaliser x = some 0) (i : Nat) (hi : i < n) : x.get i 0 = 0 := by
  rcases (normaliser_col n x hx 0 h).2 with ⟨hpos, _⟩ | ⟨_, hb⟩
  · exact absurd hpos (lt_irrefl 0)
  · exact le_antisymm (hb i hi).2 (hb i hi).1

variable [IsStrictOrderedRing K]

theorem normaliser_div_le_one (n : Nat) (x : Mat K) (hx : x.HasShape n 1) (c : K)
    (h : normaliser x = some c) (hc : c ≠ 0) (i : Nat) (hi : i < n) : x.get i 0 / c ≤ 1 := by
  rcases (normaliser_col n x hx c h).2 with ⟨hpos, hub⟩ | ⟨hle, hb⟩
  · exact (div_le_one hpos).mpr (hub i hi)
  · exact (div_le_one_of_neg (lt_of_le_of_ne hle hc)).mpr (hb i hi).1

/-- dividing a column by its `normaliser` (not zero) leaves an entry equal to 1 and none above it,
so `max()` of the result is exactly 1 — also when no entry was positive and the minimum was taken -/
theorem normalised_col (n : Nat) (y : Mat K) (hy : y.HasShape n 1) (c : K)
    (h : normaliser y = some c) (hc : c ≠ 0) :
    (∃ i, i < n ∧ (divS y c).get i 0 = 1) ∧ (∀ i, i < n → (divS y c).get i 0 ≤ 1) ∧
      maxOf (divS y c) = some 1 := by
  have hg : ∀ i, i < n → (divS y c).get i 0 = y.get i 0 / c := fun i hi =>
    get_divS y c (by rw [hy.1]; exact hi) (by rw [hy.2.1]; exact Nat.one_pos)
  obtain ⟨j0, hj0, e0⟩ := (normaliser_col n y hy c h).1
  have h1 : (divS y c).get j0 0 = 1 := by rw [hg j0 hj0, e0, div_self hc]
  have hle : ∀ i, i < n → (divS y c).get i 0 ≤ 1 := fun i hi => by
    rw [hg i hi]
    exact normaliser_div_le_one n y hy c h hc i hi
  have hC := divS_colVec n y c hy
  obtain ⟨m, hm⟩ := maxOf_divS_some y c c h
  obtain ⟨⟨i0, hi0, e⟩, hub⟩ := maxOf_col n _ hC m hm
  have hm1 : m = 1 := le_antisymm (by rw [← e]; exact hle i0 hi0) (by rw [← h1]; exact hub j0 hj0)
  exact ⟨⟨j0, hj0, h1⟩, hle, by rw [hm, hm1]⟩

omit [LinearOrder K] [IsStrictOrderedRing K] in
theorem divS_one (w : Mat K) (hw : w.WF) : divS w 1 = w :=
  Mat.ext_get (Mat.tab_WF _ _ _) hw rfl rfl fun _ _ hi hj => (get_divS w 1 hi hj).trans (div_one _)

end field
end SV.C13
