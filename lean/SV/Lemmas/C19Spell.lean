import SV.Lemmas.C19Num
import SV.Lemmas.C19Wf
/-!
Lemmas for C19, display part (character level): `SInv s ts`, "the lexer reads the text `s` as the tokens
`ts`, in every context that does not run into its last token", for the spellings of the single tokens, and
its composition: two texts may be put next to each other unless both tokens at the seam are numbers or
both are letter runs (`Clash`).
-/
namespace SV.C19
open SV SV.Text

/-- `input.replace(' ', "")` -/
def despace (s : List Char) : List Char := s.filter (· ≠ ' ')

@[simp] theorem despace_append (a b : List Char) : despace (a ++ b) = despace a ++ despace b := by
  simp [despace]
@[simp] theorem despace_nil : despace [] = [] := rfl
theorem despace_cons_ne {c : Char} (h : c ≠ ' ') (s : List Char) : despace (c :: s) = c :: despace s := by
  simp [despace, h]
@[simp] theorem despace_space (s : List Char) : despace (' ' :: s) = despace s := by
  simp [despace]
theorem despace_eq_self {s : List Char} (h : ∀ x ∈ s, x ≠ ' ') : despace s = s :=
  List.filter_eq_self.mpr fun x hx => by simpa using h x hx

theorem getLast?_append_ne_nil {α : Type} (a : List α) {b : List α} (h : b ≠ []) :
    (a ++ b).getLast? = b.getLast? := by
  rw [List.getLast?_append]
  cases hb : b.getLast? with
  | none => simp_all
  | some x => simp

def isNumTok : Tok Dec → Bool
  | .num _ => true
  | _ => false

/-- tokens whose spelling is a run of ASCII letters -/
def isLetterTok : Tok Dec → Bool
  | .var _ => true
  | .func _ => true
  | .const .e => true
  | _ => false

/-- the spellings would be merged by the lexer's maximal munch -/
def Clash (a b : Tok Dec) : Prop :=
  (isNumTok a = true ∧ isNumTok b = true) ∨ (isLetterTok a = true ∧ isLetterTok b = true)

def isSym : Tok Dec → Bool
  | .op _ => true
  | .lp => true
  | .rp => true
  | _ => false

theorem isSym_not_num_letter {t : Tok Dec} (ht : isSym t = true) : isNumTok t = false ∧ isLetterTok t = false := by
  cases t <;> first | exact ⟨rfl, rfl⟩ | cases ht

theorem noClash_sym_left {t : Tok Dec} (ht : isSym t = true) (y : Tok Dec) : ¬ Clash t y := by
  rintro (⟨h, -⟩ | ⟨h, -⟩)
  · rw [(isSym_not_num_letter ht).1] at h; cases h
  · rw [(isSym_not_num_letter ht).2] at h; cases h

theorem noClash_sym_right (x : Tok Dec) {t : Tok Dec} (ht : isSym t = true) : ¬ Clash x t := by
  rintro (⟨-, h⟩ | ⟨-, h⟩)
  · rw [(isSym_not_num_letter ht).1] at h; cases h
  · rw [(isSym_not_num_letter ht).2] at h; cases h

def HeadNot (p : Char → Bool) (rest : List Char) : Prop := ∀ d ds, rest = d :: ds → p d = false

theorem takeWhile_append_stop {p : Char → Bool} {a rest : List Char} (ha : ∀ c ∈ a, p c = true)
    (hr : HeadNot p rest) : (a ++ rest).takeWhile p = a ∧ (a ++ rest).dropWhile p = rest := by
  induction a with
  | nil =>
    cases rest with
    | nil => simp
    | cons d ds =>
      have := hr d ds rfl
      simp [this]
  | cons c a ih =>
    have hc := ha c (by simp)
    have := ih fun c hc => ha c (List.mem_cons_of_mem _ hc)
    simp [hc, this.1, this.2]

def isNumChar (d : Char) : Bool := isAsciiDigit d || d = '.'

/-- the spelling of `t` is not extended by what follows -/
def NoMerge (t : Tok Dec) (rest : List Char) : Prop :=
  (isNumTok t = true → HeadNot isNumChar rest) ∧ (isLetterTok t = true → HeadNot isAsciiLetter rest)

/-- `s` (without spaces) is lexed as the tokens `ts` in every context that does not extend the last one -/
def Spelled (s : List Char) (ts : List (Tok Dec)) : Prop :=
  ∀ rest more, Lexed rest more → (∀ x ∈ ts.getLast?, NoMerge x rest) → Lexed (s ++ rest) (ts ++ more)

def CharFits (c : Char) (t : Tok Dec) : Prop :=
  (isNumChar c = true ↔ isNumTok t = true) ∧ (isAsciiLetter c = true → isLetterTok t = true)

/-- the text starts with a non-space character that belongs to the first token -/
def FirstFits (s : List Char) (ts : List (Tok Dec)) : Prop :=
  ∃ c s' t ts', s = c :: s' ∧ c ≠ ' ' ∧ ts = t :: ts' ∧ CharFits c t

/-- text (with spaces) and the tokens it is lexed to -/
def SInv (s : List Char) (ts : List (Tok Dec)) : Prop := Spelled (despace s) ts ∧ FirstFits s ts

section
variable {s s1 s2 : List Char} {ts t1 t2 : List (Tok Dec)}

theorem SInv.lex (h : SInv s ts) : lex s = .ok ts := by
  rw [lex_ok_iff]
  have := h.1 [] [] .nil fun _ _ => ⟨fun _ _ _ he => (by cases he), fun _ _ _ he => (by cases he)⟩
  rwa [List.append_nil, List.append_nil] at this

theorem FirstFits.ne_nil (h : FirstFits s ts) : ts ≠ [] := by
  obtain ⟨c, s', t, ts', -, -, h, -⟩ := h
  rw [h]; simp

theorem sinv_append (h1 : SInv s1 t1) (h2 : SInv s2 t2)
    (hj : ∀ x ∈ t1.getLast?, ∀ y ∈ t2.head?, ¬ Clash x y) : SInv (s1 ++ s2) (t1 ++ t2) := by
  obtain ⟨c, s', t, ts', hs2, hc, hi2, hfit⟩ := h2.2
  refine ⟨?_, ?_⟩
  · intro rest more hL hN
    rw [despace_append, List.append_assoc, List.append_assoc]
    apply h1.1
    · apply h2.1 _ _ hL
      intro x hx
      exact hN x (by rw [getLast?_append_ne_nil _ h2.2.ne_nil]; exact hx)
    · intro x hx
      have hcl := hj x hx t (by rw [hi2]; rfl)
      have hds : despace s2 ++ rest = c :: (despace s' ++ rest) := by
        rw [hs2, despace_cons_ne hc]; rfl
      rw [hds]
      refine ⟨fun hn d ds he => ?_, fun hl d ds he => ?_⟩
      · cases he
        cases hcn : isNumChar c with
        | false => rfl
        | true => exact absurd (Or.inl ⟨hn, hfit.1.mp hcn⟩) hcl
      · cases he
        cases hcn : isAsciiLetter c with
        | false => rfl
        | true => exact absurd (Or.inr ⟨hl, hfit.2 hcn⟩) hcl
  · obtain ⟨c1, s1', u, us, hs1, hc1, hi1, hfit1⟩ := h1.2
    exact ⟨c1, s1' ++ s2, u, us ++ t2, by rw [hs1]; rfl, hc1, by rw [hi1]; rfl, hfit1⟩

theorem sinv_append_symL (h1 : SInv s1 t1) (h2 : SInv s2 t2)
    (hs : ∀ x ∈ t1.getLast?, isSym x = true) : SInv (s1 ++ s2) (t1 ++ t2) :=
  sinv_append h1 h2 fun x hx y _ => noClash_sym_left (hs x hx) y

theorem sinv_append_symR (h1 : SInv s1 t1) (h2 : SInv s2 t2)
    (hs : ∀ y ∈ t2.head?, isSym y = true) : SInv (s1 ++ s2) (t1 ++ t2) :=
  sinv_append h1 h2 fun x _ y hy => noClash_sym_right x (hs y hy)

/-- a space at the seam changes nothing (the lexer removes spaces first) -/
theorem sinv_append_sp (h1 : SInv s1 t1) (h2 : SInv s2 t2)
    (hj : ∀ x ∈ t1.getLast?, ∀ y ∈ t2.head?, ¬ Clash x y) : SInv (s1 ++ ' ' :: s2) (t1 ++ t2) := by
  have h := sinv_append h1 h2 hj
  refine ⟨?_, ?_⟩
  · have : despace (s1 ++ ' ' :: s2) = despace (s1 ++ s2) := by simp
    rw [this]; exact h.1
  · obtain ⟨c1, s1', u, us, hs1, hc1, hi1, hfit1⟩ := h1.2
    exact ⟨c1, s1' ++ ' ' :: s2, u, us ++ t2, by rw [hs1]; rfl, hc1, by rw [hi1]; rfl, hfit1⟩

theorem sinv_sym {ch : Char} {t : Tok Dec} (hstep : ∀ rest, lexStep ch rest = .ok ([t], rest))
    (hsp : ch ≠ ' ') (hnum : isNumChar ch = false) (hlet : isAsciiLetter ch = false)
    (htn : isNumTok t = false) : SInv [ch] [t] := by
  refine ⟨?_, ⟨ch, [], t, [], rfl, hsp, rfl, ?_, ?_⟩⟩
  · intro rest more hL _
    rw [despace_cons_ne hsp]
    exact Lexed.step (hstep rest) hL
  · rw [hnum, htn]
  · rw [hlet]; intro h; cases h

theorem sinv_lp : SInv ['('] [.lp] := sinv_sym (fun _ => rfl) (by decide) rfl rfl rfl
theorem sinv_rp : SInv [')'] [.rp] := sinv_sym (fun _ => rfl) (by decide) rfl rfl rfl

theorem sinv_op (o : Op) : SInv o.sym.toList [.op o] := by
  cases o
  · exact sinv_sym (ch := '+') (fun _ => rfl) (by decide) rfl rfl rfl
  · exact sinv_sym (ch := '-') (fun _ => rfl) (by decide) rfl rfl rfl
  · exact sinv_sym (ch := '/') (fun _ => rfl) (by decide) rfl rfl rfl
  · exact sinv_sym (ch := '*') (fun _ => rfl) (by decide) rfl rfl rfl
  · exact sinv_sym (ch := '·') (fun _ => rfl) (by decide) rfl rfl rfl
  · exact sinv_sym (ch := '%') (fun _ => rfl) (by decide) rfl rfl rfl
  · exact sinv_sym (ch := '^') (fun _ => rfl) (by decide) rfl rfl rfl
  · exact sinv_sym (ch := '!') (fun _ => rfl) (by decide) rfl rfl rfl

theorem letter_not_numChar {c : Char} (hc : isAsciiLetter c = true) : isNumChar c = false ∧ c ≠ ' ' := by
  have := (isAsciiLetter_iff c).mp hc
  refine ⟨?_, by rintro rfl; revert hc; decide⟩
  unfold isNumChar
  cases hd : isAsciiDigit c with
  | true => have := (isAsciiDigit_iff c).mp hd; omega
  | false =>
    rw [Bool.false_or, decide_eq_false_iff_not]
    rintro rfl; revert hc; decide

theorem lexStep_letters {c : Char} {cs rest : List Char} (hrun : ∀ d ∈ c :: cs, isAsciiLetter d = true)
    (hrest : HeadNot isAsciiLetter rest) :
    lexStep c (cs ++ rest) = .ok (runToks (c :: cs), rest) := by
  have hc := hrun c (by simp)
  have hnd : ¬ (isAsciiDigit c = true ∨ c = '.') := by
    have := (letter_not_numChar hc).1
    simpa [isNumChar] using this
  have := takeWhile_append_stop hrun hrest
  unfold lexStep
  rw [if_neg hnd, if_pos hc, ← List.cons_append, this.1, this.2]

theorem sinv_letters {c : Char} {cs : List Char} {t : Tok Dec} (hrun : ∀ d ∈ c :: cs, isAsciiLetter d = true)
    (ht : runToks (c :: cs) = [t]) (hl : isLetterTok t = true) : SInv (c :: cs) [t] := by
  have hsp : ∀ d ∈ c :: cs, d ≠ ' ' := fun d hd => (letter_not_numChar (hrun d hd)).2
  have hc := hrun c (by simp)
  refine ⟨?_, ⟨c, cs, t, [], rfl, hsp c (by simp), rfl, ?_, fun _ => hl⟩⟩
  · intro rest more hL hN
    have := lexStep_letters hrun ((hN t rfl).2 hl)
    rw [ht] at this
    rw [despace_eq_self hsp]
    exact Lexed.step this hL
  · rw [(letter_not_numChar hc).1]
    cases t <;> first | exact Iff.rfl | cases hl

theorem sinv_var {s : String} (hs : VarName s) : SInv s.toList [.var s] := by
  obtain ⟨c, rfl, hc, h1, h2⟩ := hs
  rw [String.toList_singleton]
  refine sinv_letters (by simpa using hc) ?_ rfl
  show [letterTok c] = _
  rw [letterTok_eq, if_neg (fun h => h.elim h1 h2)]

theorem sinv_const (k : Const) : SInv k.sym.toList [.const k] := by
  cases k
  · exact sinv_sym (ch := 'π') (fun _ => rfl) (by decide) rfl rfl rfl
  · exact sinv_letters (c := 'e') (cs := []) (by decide) (by decide) rfl
  · exact sinv_sym (ch := 'τ') (fun _ => rfl) (by decide) rfl rfl rfl
  · exact sinv_sym (ch := 'ϕ') (fun _ => rfl) (by decide) rfl rfl rfl

theorem sinv_funcName (f : Func) : SInv f.name.toList [.func f] := by
  cases f
  · exact sinv_letters (c := 's') (cs := ['i', 'n']) (by decide) (by decide) rfl
  · exact sinv_letters (c := 'c') (cs := ['o', 's']) (by decide) (by decide) rfl
  · exact sinv_letters (c := 't') (cs := ['a', 'n']) (by decide) (by decide) rfl
  · exact sinv_letters (c := 'c') (cs := ['o', 't']) (by decide) (by decide) rfl
  · exact sinv_letters (c := 'l') (cs := ['o', 'g']) (by decide) (by decide) rfl
  · exact sinv_letters (c := 'l') (cs := ['n']) (by decide) (by decide) rfl

theorem sinv_num {d : Dec} (hd : d.neg = false) : SInv (fmtDec d).toList [.num (canon d)] := by
  obtain ⟨u, hu, hipne, hrender, hval⟩ := fmtDec_spec d hd
  obtain ⟨c, ip', hip⟩ := List.exists_cons_of_ne_nil hipne
  have hall : ∀ x ∈ u.render, isNumChar x = true := by
    intro x hx
    rcases UDec.mem_render hu hx with h | h
    · simp [isNumChar, h]
    · simp [isNumChar, h]
  have hcd : isAsciiDigit c = true := hu.ip_digits c (by rw [hip]; simp)
  have hsp : ∀ x ∈ u.render, x ≠ ' ' := by
    intro x hx; rintro rfl; have := hall _ hx; revert this; decide
  have hcons : u.render = c :: (ip' ++ (if u.dot then '.' :: u.fp else [])) := by
    unfold UDec.render; rw [hip]; rfl
  have hcanon : canon d = ⟨false, u.mant, u.fp.length⟩ := by
    unfold canon
    rw [← hval, hd]
  rw [hrender]
  refine ⟨?_, ⟨c, _, _, [], hcons, hsp c (by rw [hcons]; simp), rfl, ?_, ?_⟩⟩
  · intro rest more hL hN
    have htw := takeWhile_append_stop hall ((hN (.num (canon d)) rfl).1 rfl)
    have hstep : lexStep c ((ip' ++ (if u.dot then '.' :: u.fp else [])) ++ rest) =
        .ok ([.num (canon d)], rest) := by
      unfold lexStep
      rw [if_pos (Or.inl hcd), ← List.cons_append, ← hcons]
      have htw1 : (u.render ++ rest).takeWhile (fun d => isAsciiDigit d || decide (d = '.')) = u.render := htw.1
      have htw2 : (u.render ++ rest).dropWhile (fun d => isAsciiDigit d || decide (d = '.')) = rest := htw.2
      rw [htw1, htw2, parseUDec_render hu, hcanon]
    rw [despace_eq_self hsp, hcons]
    exact Lexed.step hstep hL
  · simp [isNumChar, hcd, isNumTok]
  · intro hl
    have := (letter_not_numChar hl).1
    simp [isNumChar, hcd] at this

theorem sinv_par (h : SInv s ts) :
    SInv ('(' :: s ++ [')']) (.lp :: ts ++ [.rp]) :=
  sinv_append_symR (sinv_append_symL sinv_lp h (fun _ hx => by cases hx; rfl)) sinv_rp
    (fun _ hy => by cases hy; rfl)

end

end SV.C19
