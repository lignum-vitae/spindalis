import SV.Model.Text
import Mathlib.Data.Rat.Defs
import Mathlib.Algebra.Order.Field.Rat
import Mathlib.Tactic.Ring
/-!
Lemmas about the text toolkit `SV.Text` (the `str` methods used by the parsers): what each operation
does on a text put together from two, the exact rational value of a decimal spelling, and the two
directions of every number reader — it reads the rendering of a well-formed spelling (`UDec`) back,
and it accepts nothing else.  `CharClass.Sane` is what the proofs assume of the Unicode predicates.
-/
namespace SV.Text

def Dec.val (d : Dec) : ℚ := (if d.neg then -1 else 1) * (d.mant : ℚ) / (10 : ℚ) ^ d.scale

/-- exact value of a coefficient expression (the `f64` operations read as exact operations) -/
def Num.val : Num → ℚ
  | .dec d => d.val
  | .div a b => a.val / b.val
  | .add a b => a.val + b.val

@[simp] theorem Num.val_zero : Num.zero.val = 0 := by simp [Num.zero, Num.val, Dec.val]
@[simp] theorem Num.val_one : Num.one.val = 1 := by simp [Num.one, Num.val, Dec.val]
@[simp] theorem Num.val_negOne : Num.negOne.val = -1 := by simp [Num.negOne, Num.val, Dec.val]
@[simp] theorem Num.val_add (a b : Num) : (Num.add a b).val = a.val + b.val := rfl
@[simp] theorem Num.val_dec (d : Dec) : (Num.dec d).val = d.val := rfl

/-- What the parser proofs assume of the Unicode predicates; all true of Rust's
`char::is_alphabetic` / `is_whitespace`. -/
structure CharClass.Sane (cc : CharClass) : Prop where
  alpha_not_digit : ∀ c, cc.isAlpha c = true → isAsciiDigit c = false
  alpha_not_sym : ∀ c, cc.isAlpha c = true → c ≠ '.' ∧ c ≠ '+' ∧ c ≠ '-' ∧ c ≠ '^'
  alpha_not_ws : ∀ c, cc.isAlpha c = true → cc.isWs c = false
  digit_not_ws : ∀ c, isAsciiDigit c = true → cc.isWs c = false
  sym_not_ws : cc.isWs '.' = false ∧ cc.isWs '+' = false ∧ cc.isWs '-' = false ∧ cc.isWs '^' = false

theorem CharClass.Sane.not_alpha {cc : CharClass} (hcc : cc.Sane) {c : Char}
    (h : isAsciiDigit c = true ∨ c = '.' ∨ c = '+' ∨ c = '-' ∨ c = '^') : cc.isAlpha c = false := by
  cases ha : cc.isAlpha c with
  | false => rfl
  | true =>
    obtain ⟨h1, h2, h3, h4⟩ := hcc.alpha_not_sym c ha
    rcases h with h | h | h | h | h
    · rw [hcc.alpha_not_digit c ha] at h; cases h
    all_goals contradiction

theorem isAsciiDigit_iff (c : Char) : isAsciiDigit c = true ↔ 48 ≤ c.toNat ∧ c.toNat ≤ 57 := by
  simp only [isAsciiDigit, Bool.and_eq_true, decide_eq_true_eq, Char.le_def]
  rfl

theorem isAsciiLetter_iff (c : Char) :
    isAsciiLetter c = true ↔ (97 ≤ c.toNat ∧ c.toNat ≤ 122) ∨ (65 ≤ c.toNat ∧ c.toNat ≤ 90) := by
  simp only [isAsciiLetter, Bool.or_eq_true, Bool.and_eq_true, decide_eq_true_eq, Char.le_def]
  rfl

theorem letter_not_digit {c : Char} (h : isAsciiLetter c = true) : isAsciiDigit c = false := by
  cases hd : isAsciiDigit c with
  | false => rfl
  | true =>
    have h1 := (isAsciiLetter_iff c).1 h
    have h2 := (isAsciiDigit_iff c).1 hd
    omega

theorem letter_ne_dot {c : Char} (h : isAsciiLetter c = true) : c ≠ '.' := by
  rintro rfl; revert h; decide

theorem letter_ne_slash {c : Char} (h : isAsciiLetter c = true) : c ≠ '/' := by
  rintro rfl; revert h; decide

theorem letter_ne_dash {c : Char} (h : isAsciiLetter c = true) : c ≠ '-' := by
  rintro rfl; revert h; decide

theorem letter_ne_plus {c : Char} (h : isAsciiLetter c = true) : c ≠ '+' := by
  rintro rfl; revert h; decide

theorem letter_ne_caret {c : Char} (h : isAsciiLetter c = true) : c ≠ '^' := by
  rintro rfl; revert h; decide

theorem stdClass_isWs (c : Char) (h : stdClass.isWs c = true) :
    c.toNat ≤ 32 ∨ c.toNat > 127 := by
  simp only [stdClass, asciiWs, tableWs, Bool.or_eq_true, decide_eq_true_eq, List.contains_eq_mem,
    List.mem_cons, List.not_mem_nil, or_false] at h
  rcases h with ((((((rfl | rfl) | rfl) | rfl) | rfl) | rfl) | rfl) | rfl | rfl | rfl | rfl <;> decide

private theorem tableAlpha_spec : ∀ c ∈ tableAlpha, isAsciiDigit c = false ∧
    (c ≠ '.' ∧ c ≠ '+' ∧ c ≠ '-' ∧ c ≠ '^') ∧ stdClass.isWs c = false := by
  decide

theorem stdClass_sane : stdClass.Sane := by
  have alpha : ∀ c, stdClass.isAlpha c = true → isAsciiLetter c = true ∨ c ∈ tableAlpha := by
    intro c h
    simpa only [stdClass, Bool.or_eq_true, List.contains_eq_mem, decide_eq_true_eq] using h
  have notWs : ∀ c : Char, 32 < c.toNat → c.toNat ≤ 127 → stdClass.isWs c = false := by
    intro c h1 h2
    cases h : stdClass.isWs c with
    | false => rfl
    | true => have := stdClass_isWs c h; omega
  have letterWs : ∀ c, isAsciiLetter c = true → stdClass.isWs c = false := by
    intro c h
    have := (isAsciiLetter_iff c).1 h
    exact notWs c (by omega) (by omega)
  exact {
    alpha_not_digit := fun c h => (alpha c h).elim letter_not_digit fun h => (tableAlpha_spec c h).1
    alpha_not_sym := fun c h => (alpha c h).elim
      (fun h => ⟨letter_ne_dot h, letter_ne_plus h, letter_ne_dash h, letter_ne_caret h⟩)
      fun h => (tableAlpha_spec c h).2.1
    alpha_not_ws := fun c h => (alpha c h).elim (letterWs c) fun h => (tableAlpha_spec c h).2.2
    digit_not_ws := fun c h => by
      have := (isAsciiDigit_iff c).1 h
      exact notWs c (by omega) (by omega)
    sym_not_ws := by decide }

theorem splitOn_ne_nil (sep : Char) (s : List Char) : splitOn sep s ≠ [] := by
  induction s with
  | nil => simp [splitOn]
  | cons c cs ih =>
    unfold splitOn
    split
    · simp
    · split <;> simp

theorem splitOn_of_not_mem {sep : Char} {q : List Char} (h : sep ∉ q) : splitOn sep q = [q] := by
  induction q with
  | nil => rfl
  | cons c cs ih =>
    obtain ⟨hc, hcs⟩ := List.ne_and_not_mem_of_not_mem_cons h
    simp [splitOn, hc.symm, ih hcs]

theorem splitOn_append {sep : Char} {q : List Char} (r : List Char) (h : sep ∉ q) :
    splitOn sep (q ++ sep :: r) = q :: splitOn sep r := by
  induction q with
  | nil => simp [splitOn]
  | cons c cs ih =>
    obtain ⟨hc, hcs⟩ := List.ne_and_not_mem_of_not_mem_cons h
    simp [splitOn, hc.symm, ih hcs]

theorem splitOn_append_sep (sep : Char) (a r : List Char) :
    splitOn sep (a ++ sep :: r) = splitOn sep a ++ splitOn sep r := by
  induction a with
  | nil => simp [splitOn]
  | cons c a ih =>
    obtain ⟨p, ps, hp⟩ := List.exists_cons_of_ne_nil (splitOn_ne_nil sep a)
    by_cases hc : c = sep
    · simp [splitOn, hc, ih]
    · simp [splitOn, hc, ih, hp]

theorem splitOn_prefix {sep : Char} {m b f : List Char} {post : List (List Char)} (hm : sep ∉ m)
    (hb : splitOn sep b = f :: post) : splitOn sep (m ++ b) = (m ++ f) :: post := by
  induction m with
  | nil => exact hb
  | cons c m ih =>
    obtain ⟨hc, hm'⟩ := List.ne_and_not_mem_of_not_mem_cons hm
    simp [splitOn, hc.symm, ih hm']

/-- a text without the separator put anywhere into a text lengthens one piece and leaves the
others as they are -/
theorem splitOn_insert (sep : Char) (a b : List Char) :
    ∃ pre l f post, ∀ m, sep ∉ m → splitOn sep (a ++ (m ++ b)) = pre ++ (l ++ (m ++ f)) :: post := by
  obtain ⟨f, post, hb⟩ := List.exists_cons_of_ne_nil (splitOn_ne_nil sep b)
  induction a with
  | nil => exact ⟨[], [], f, post, fun m hm => splitOn_prefix (m := m) hm hb⟩
  | cons c a ih =>
    obtain ⟨pre, l, f, post, h⟩ := ih
    by_cases hc : c = sep
    · exact ⟨[] :: pre, l, f, post, fun m hm => by simp [splitOn, hc, h m hm]⟩
    · cases pre with
      | nil => exact ⟨[], c :: l, f, post, fun m hm => by simp [splitOn, hc, h m hm]⟩
      | cons p pre => exact ⟨(c :: p) :: pre, l, f, post, fun m hm => by simp [splitOn, hc, h m hm]⟩

theorem splitOn_join {sep : Char} (q : List Char) (qs : List (List Char)) (hq : sep ∉ q)
    (h : ∀ r ∈ qs, sep ∉ r) :
    splitOn sep (q ++ qs.flatMap fun r => sep :: r) = q :: qs := by
  induction qs generalizing q with
  | nil => simpa using splitOn_of_not_mem hq
  | cons r rs ih =>
    have hr : sep ∉ r := h r (by simp)
    have hrs : ∀ r' ∈ rs, sep ∉ r' := fun r' hr' => h r' (by simp [hr'])
    rw [List.flatMap_cons, List.cons_append, splitOn_append _ hq, ih r hr hrs]

def joinSep (sep : Char) : List (List Char) → List Char
  | [] => []
  | q :: qs => q ++ qs.flatMap fun r => sep :: r

theorem joinSep_splitOn (sep : Char) (s : List Char) : joinSep sep (splitOn sep s) = s := by
  induction s with
  | nil => rfl
  | cons c cs ih =>
    unfold splitOn
    rcases hsp : splitOn sep cs with _ | ⟨p, ps⟩
    · exact absurd hsp (splitOn_ne_nil sep cs)
    · rw [hsp] at ih
      by_cases hc : c = sep
      · rw [if_pos hc]
        simp only [joinSep, List.nil_append, List.flatMap_cons, List.cons_append] at ih ⊢
        rw [ih, hc]
      · rw [if_neg hc]
        simp only [joinSep, List.cons_append] at ih ⊢
        rw [ih]

theorem not_mem_of_mem_splitOn {sep : Char} {s q : List Char} (h : q ∈ splitOn sep s) : sep ∉ q := by
  induction s generalizing q with
  | nil => simp [splitOn] at h; subst h; simp
  | cons c cs ih =>
    unfold splitOn at h
    rcases hsp : splitOn sep cs with _ | ⟨p, ps⟩
    · exact absurd hsp (splitOn_ne_nil sep cs)
    · rw [hsp] at h ih
      by_cases hc : c = sep
      · rw [if_pos hc] at h
        rcases List.mem_cons.1 h with rfl | h
        · simp
        · exact ih h
      · rw [if_neg hc] at h
        simp only [List.mem_cons] at h
        rcases h with rfl | h
        · have := ih (q := p) (by simp)
          simp only [List.mem_cons, not_or]
          exact ⟨fun e => hc e.symm, this⟩
        · exact ih (by simp [h])

theorem splitOn_length (sep : Char) (s : List Char) :
    (splitOn sep s).length = s.count sep + 1 := by
  induction s with
  | nil => rfl
  | cons c cs ih =>
    obtain ⟨p, ps, hp⟩ := List.exists_cons_of_ne_nil (splitOn_ne_nil sep cs)
    rw [hp, List.length_cons] at ih
    by_cases hc : c = sep <;> simp [splitOn, hc, hp, ih]

theorem infix_of_mem_splitOn {sep : Char} {s q : List Char} (h : q ∈ splitOn sep s) : q <:+: s := by
  rw [← joinSep_splitOn sep s]
  cases hl : splitOn sep s with
  | nil => rw [hl] at h; cases h
  | cons r rs =>
    rw [hl] at h
    rcases List.mem_cons.1 h with rfl | h
    · exact ⟨[], rs.flatMap fun r => sep :: r, by simp [joinSep]⟩
    · obtain ⟨a, b, rfl⟩ := List.append_of_mem h
      exact ⟨r ++ (a.flatMap fun r => sep :: r) ++ [sep], b.flatMap fun r => sep :: r, by simp [joinSep]⟩

theorem dashToPlusDash_append (a b : List Char) :
    dashToPlusDash (a ++ b) = dashToPlusDash a ++ dashToPlusDash b := by
  simp [dashToPlusDash]

theorem dashToPlusDash_of_not_mem {q : List Char} (h : '-' ∉ q) : dashToPlusDash q = q := by
  induction q with
  | nil => rfl
  | cons c cs ih =>
    obtain ⟨hc, hcs⟩ := List.ne_and_not_mem_of_not_mem_cons h
    have := ih hcs
    simp only [dashToPlusDash, List.flatMap_cons, if_neg hc.symm] at this ⊢
    rw [this]; rfl

theorem dashToPlusDash_cons_dash (w : List Char) :
    dashToPlusDash ('-' :: w) = '+' :: '-' :: dashToPlusDash w := by
  simp [dashToPlusDash]

theorem dashToPlusDash_cons_of_ne {c : Char} (hc : c ≠ '-') (w : List Char) :
    dashToPlusDash (c :: w) = c :: dashToPlusDash w := by
  simp [dashToPlusDash, hc]

theorem dashToPlusDash_head? (w : List Char) : (dashToPlusDash w).head? ≠ some '-' := by
  cases w with
  | nil => simp [dashToPlusDash]
  | cons c cs =>
    by_cases hc : c = '-'
    · subst hc; rw [dashToPlusDash_cons_dash]; simp
    · rw [dashToPlusDash_cons_of_ne hc]; simpa using hc

/-- the inserted `+` do not change which character is the first to satisfy `p`, if `+` does not -/
theorem find?_dashToPlusDash {p : Char → Bool} (hp : p '+' = false) (w : List Char) :
    (dashToPlusDash w).find? p = w.find? p := by
  induction w with
  | nil => rfl
  | cons c w ih =>
    by_cases hc : c = '-'
    · rw [hc, dashToPlusDash_cons_dash, List.find?_cons, hp, List.find?_cons, List.find?_cons, ih]
    · rw [dashToPlusDash_cons_of_ne hc, List.find?_cons, List.find?_cons, ih]

/-- left inverse of `dashToPlusDash`: remove the `+` in front of every `-` -/
def undash : List Char → List Char
  | [] => []
  | c :: r => if c = '+' ∧ r.head? = some '-' then undash r else c :: undash r

theorem undash_dashToPlusDash (w : List Char) : undash (dashToPlusDash w) = w := by
  induction w with
  | nil => rfl
  | cons c cs ih =>
    by_cases hc : c = '-'
    · subst hc
      rw [dashToPlusDash_cons_dash]
      simp [undash, ih]
    · rw [dashToPlusDash_cons_of_ne hc, undash, if_neg, ih]
      rintro ⟨_, h⟩
      exact dashToPlusDash_head? cs h

theorem dashToPlusDash_injective {a b : List Char} (h : dashToPlusDash a = dashToPlusDash b) : a = b := by
  rw [← undash_dashToPlusDash a, h, undash_dashToPlusDash]

theorem stripWs_eq_self {cc : CharClass} {s : List Char} (h : ∀ c ∈ s, cc.isWs c = false) :
    stripWs cc s = s := by
  unfold stripWs
  rw [List.filter_eq_self]
  intro c hc
  simp [h c hc]

theorem stripWs_idem (cc : CharClass) (s : List Char) : stripWs cc (stripWs cc s) = stripWs cc s := by
  simp [stripWs]

theorem stripWs_append (cc : CharClass) (a b : List Char) :
    stripWs cc (a ++ b) = stripWs cc a ++ stripWs cc b :=
  List.filter_append ..

theorem stripWs_flatMap (cc : CharClass) {α : Type} (l : List α) (f : α → List Char) :
    stripWs cc (l.flatMap f) = l.flatMap fun a => stripWs cc (f a) :=
  List.filter_flatMap ..

theorem stripWs_zero {cc : CharClass} (hcc : cc.Sane) : stripWs cc ['0'] = ['0'] :=
  stripWs_eq_self fun c hc => hcc.digit_not_ws c (by rw [List.mem_singleton.1 hc]; decide)

theorem append_ite {α : Type} (c : Prop) [Decidable c] (a x y : List α) :
    (if c then a ++ x else a ++ y) = a ++ if c then x else y := by
  split <;> rfl

theorem append_ite_nil {α : Type} (c : Prop) [Decidable c] (a x : List α) :
    (if c then a ++ x else a) = a ++ if c then x else [] := by
  split
  · rfl
  · rw [List.append_nil]

theorem append_ite_nil' {α : Type} (c : Prop) [Decidable c] (a y : List α) :
    (if c then a else a ++ y) = a ++ if c then [] else y := by
  split
  · rw [List.append_nil]
  · rfl

theorem splitAtChar_append {c : Char} {pre : List Char} (post : List Char) (h : c ∉ pre) :
    splitAtChar c (pre ++ c :: post) = some (pre, post) := by
  induction pre with
  | nil => simp [splitAtChar]
  | cons d ds ih =>
    obtain ⟨hd, hds⟩ := List.ne_and_not_mem_of_not_mem_cons h
    simp [splitAtChar, hd.symm, ih hds]

theorem splitAtChar_of_not_mem {c : Char} {s : List Char} (h : c ∉ s) : splitAtChar c s = none := by
  induction s with
  | nil => rfl
  | cons d ds ih =>
    obtain ⟨hd, hds⟩ := List.ne_and_not_mem_of_not_mem_cons h
    simp [splitAtChar, hd.symm, ih hds]

theorem splitAtChar_some {c : Char} {s pre post : List Char} (h : splitAtChar c s = some (pre, post)) :
    s = pre ++ c :: post ∧ c ∉ pre := by
  by_cases hc : c ∈ s
  · obtain ⟨a, b, rfl, ha⟩ := List.eq_append_cons_of_mem hc
    rw [splitAtChar_append b ha] at h
    cases h
    exact ⟨rfl, ha⟩
  · rw [splitAtChar_of_not_mem hc] at h
    cases h

theorem digit_ne_dot {c : Char} (h : isAsciiDigit c = true) : c ≠ '.' := by
  rintro rfl; revert h; decide

theorem digit_ne_dash {c : Char} (h : isAsciiDigit c = true) : c ≠ '-' := by
  rintro rfl; revert h; decide

theorem digit_ne_plus {c : Char} (h : isAsciiDigit c = true) : c ≠ '+' := by
  rintro rfl; revert h; decide

theorem digit_ne_caret {c : Char} (h : isAsciiDigit c = true) : c ≠ '^' := by
  rintro rfl; revert h; decide

theorem digit_ne_slash {c : Char} (h : isAsciiDigit c = true) : c ≠ '/' := by
  rintro rfl; revert h; decide

theorem digitsVal_foldl (x : Nat) (b : List Char) :
    List.foldl (fun acc c => acc * 10 + digitVal c) x b = x * 10 ^ b.length + digitsVal b := by
  unfold digitsVal
  induction b generalizing x with
  | nil => simp
  | cons c cs ih =>
    rw [List.foldl_cons, ih, List.foldl_cons, ih (0 * 10 + digitVal c), List.length_cons]
    ring

theorem digitsVal_append (a b : List Char) :
    digitsVal (a ++ b) = digitsVal a * 10 ^ b.length + digitsVal b := by
  rw [digitsVal, List.foldl_append, digitsVal_foldl]
  rfl

theorem isAsciiDigit_of_isDigit {c : Char} (h : c.isDigit = true) : isAsciiDigit c = true := by
  rw [isAsciiDigit_iff]
  simp only [Char.isDigit, ge_iff_le, Bool.and_eq_true, decide_eq_true_eq, UInt32.le_iff_toNat_le] at h
  exact h

theorem digitsVal_eq_ofDigitChars (l : List Char) : digitsVal l = Nat.ofDigitChars 10 l 0 := by
  unfold digitsVal Nat.ofDigitChars digitVal
  congr 1
  funext acc c
  rw [Nat.mul_comm]

theorem toString_toList_nat (n : Nat) : (toString n).toList = Nat.toDigits 10 n := by
  simp

theorem digitsVal_toDigits (m : Nat) : digitsVal (Nat.toDigits 10 m) = m := by
  rw [digitsVal_eq_ofDigitChars, Nat.ofDigitChars_ten_toDigits]

theorem toDigits_digits (m : Nat) : ∀ c ∈ Nat.toDigits 10 m, isAsciiDigit c = true :=
  fun _ hc => isAsciiDigit_of_isDigit (Nat.isDigit_of_mem_toDigits (by decide) (by decide) hc)

theorem digitsVal_zeros (k : Nat) : digitsVal (List.replicate k '0') = 0 := by
  induction k with
  | zero => rfl
  | succ k ih =>
    rw [List.replicate_succ', digitsVal_append, ih]
    rfl

theorem digitsVal_leading_zeros (k : Nat) (ds : List Char) :
    digitsVal (List.replicate k '0' ++ ds) = digitsVal ds := by
  rw [digitsVal_append, digitsVal_zeros, Nat.zero_mul, Nat.zero_add]

/-- unsigned plain decimal spelling: integer digits, optionally a `.` and fraction digits -/
structure UDec where
  ip : List Char
  fp : List Char
  dot : Bool

/-- the spelling is `digits`, `digits.`, `.digits` or `digits.digits` with at least one digit -/
structure UDec.WF (u : UDec) : Prop where
  ip_digits : ∀ c ∈ u.ip, isAsciiDigit c = true
  fp_digits : ∀ c ∈ u.fp, isAsciiDigit c = true
  some_digit : u.ip ≠ [] ∨ u.fp ≠ []
  no_dot : u.dot = false → u.fp = []

def UDec.render (u : UDec) : List Char := u.ip ++ (if u.dot then '.' :: u.fp else [])

def UDec.mant (u : UDec) : Nat := digitsVal (u.ip ++ u.fp)

def UDec.value (u : UDec) : ℚ := (u.mant : ℚ) / (10 : ℚ) ^ u.fp.length

theorem UDec.value_eq (u : UDec) :
    u.value = (digitsVal u.ip : ℚ) + (digitsVal u.fp : ℚ) / (10 : ℚ) ^ u.fp.length := by
  unfold UDec.value UDec.mant
  rw [digitsVal_append]
  have : ((10 : ℚ) ^ u.fp.length) ≠ 0 := pow_ne_zero _ (by norm_num)
  push_cast
  rw [add_div, mul_div_assoc, div_self this, mul_one]

theorem UDec.render_ne_nil {u : UDec} (hu : u.WF) : u.render ≠ [] := by
  unfold UDec.render
  rcases hu.some_digit with h | h
  · simp [h]
  · cases hd : u.dot with
    | true => simp
    | false => exact absurd (hu.no_dot hd) h

theorem UDec.mem_render {u : UDec} (hu : u.WF) {c : Char} (hc : c ∈ u.render) :
    isAsciiDigit c = true ∨ c = '.' := by
  rcases List.mem_append.1 hc with h | h
  · exact Or.inl (hu.ip_digits c h)
  · split at h
    · exact (List.mem_cons.1 h).elim Or.inr fun h => Or.inl (hu.fp_digits c h)
    · cases h

theorem all_digits {s : List Char} (h : ∀ c ∈ s, isAsciiDigit c = true) : s.all isAsciiDigit = true :=
  List.all_eq_true.2 h

theorem parseUDec_render {u : UDec} (hu : u.WF) : parseUDec u.render = some (u.mant, u.fp.length) := by
  have hip : '.' ∉ u.ip := fun h => digit_ne_dot (hu.ip_digits _ h) rfl
  have hfp : '.' ∉ u.fp := fun h => digit_ne_dot (hu.fp_digits _ h) rfl
  unfold parseUDec UDec.render UDec.mant
  cases hd : u.dot with
  | false =>
    have hfp0 := hu.no_dot hd
    have hne : u.ip ≠ [] := by
      rcases hu.some_digit with h | h
      · exact h
      · exact absurd hfp0 h
    simp only [Bool.false_eq_true, if_false, List.append_nil, splitOn_of_not_mem hip, hfp0]
    rw [if_pos ⟨hne, all_digits hu.ip_digits⟩]
    rfl
  | true =>
    simp only [if_true, splitOn_append _ hip, splitOn_of_not_mem hfp]
    rw [if_pos ⟨hu.some_digit, all_digits hu.ip_digits, all_digits hu.fp_digits⟩]

theorem parseUDec_some {s : List Char} {m sc : Nat} (h : parseUDec s = some (m, sc)) :
    ∃ u : UDec, u.WF ∧ s = u.render ∧ m = u.mant ∧ sc = u.fp.length := by
  have hj := joinSep_splitOn '.' s
  unfold parseUDec at h
  split at h
  · rename_i ip heq
    rw [heq] at hj
    split at h
    · rename_i hc
      cases h
      exact ⟨⟨ip, [], false⟩, ⟨List.all_eq_true.1 hc.2, nofun, Or.inl hc.1, fun _ => rfl⟩,
        by simpa [joinSep, UDec.render] using hj.symm, by simp [UDec.mant], rfl⟩
    · cases h
  · rename_i ip fp heq
    rw [heq] at hj
    split at h
    · rename_i hc
      cases h
      exact ⟨⟨ip, fp, true⟩, ⟨List.all_eq_true.1 hc.2.1, List.all_eq_true.1 hc.2.2, hc.1, nofun⟩,
        by simpa [joinSep, UDec.render] using hj.symm, rfl, rfl⟩
    · cases h
  · cases h

/-- The two decimal readers of the model are one function: a text that `parseUDec` accepts consists
of digits and `.` and is not empty, so the character filter of `parseDec` rejects nothing more. -/
theorem parseDec_eq_parseSignedDec (s : List Char) : parseDec s = parseSignedDec s := by
  unfold parseDec parseSignedDec
  split
  rename_i neg body _
  cases h : parseUDec body with
  | none => simp
  | some ms =>
    obtain ⟨u, hu, rfl, -⟩ := parseUDec_some (m := ms.1) (sc := ms.2) h
    rw [if_neg]
    simp only [UDec.render_ne_nil hu, false_or, Bool.not_eq_true', Bool.not_eq_false,
      List.all_eq_true, Bool.or_eq_true, decide_eq_true_eq]
    exact fun c hc => UDec.mem_render hu hc

theorem parseSignedDec_render {u : UDec} (hu : u.WF) (neg : Bool) :
    parseSignedDec ((if neg then ['-'] else []) ++ u.render) = some ⟨neg, u.mant, u.fp.length⟩ := by
  cases neg with
  | true => simp only [if_true, List.cons_append, List.nil_append, parseSignedDec, parseUDec_render hu]
  | false =>
    have hd : '-' ∉ u.render := fun h =>
      (UDec.mem_render hu h).elim (fun h => digit_ne_dash h rfl) (by decide)
    show parseSignedDec u.render = _
    unfold parseSignedDec
    split
    rename_i neg' body heq
    split at heq
    · rename_i rest' heq2
      exact absurd (heq2 ▸ List.mem_cons_self) hd
    · cases heq
      simp only [parseUDec_render hu]

theorem parseSignedDec_some {s : List Char} {d : Dec} (h : parseSignedDec s = some d) :
    ∃ u : UDec, u.WF ∧ s = (if d.neg then ['-'] else []) ++ u.render ∧ d.mant = u.mant ∧
      d.scale = u.fp.length := by
  unfold parseSignedDec at h
  split at h
  rename_i neg body heq
  split at h
  · rename_i m sc hu
    obtain ⟨u, hwf, rfl, rfl, rfl⟩ := parseUDec_some hu
    cases h
    split at heq <;> cases heq <;> exact ⟨u, hwf, rfl, rfl, rfl⟩
  · cases h

theorem parseDec_render {u : UDec} (hu : u.WF) (neg : Bool) :
    parseDec ((if neg then ['-'] else []) ++ u.render) = some ⟨neg, u.mant, u.fp.length⟩ :=
  (parseDec_eq_parseSignedDec _).trans (parseSignedDec_render hu neg)

theorem parseDec_some {s : List Char} {d : Dec} (h : parseDec s = some d) :
    ∃ u : UDec, u.WF ∧ s = (if d.neg then ['-'] else []) ++ u.render ∧ d.mant = u.mant ∧
      d.scale = u.fp.length :=
  parseSignedDec_some ((parseDec_eq_parseSignedDec s).symm.trans h)

theorem parseDec_of_foreign {s : List Char} {c : Char} (hc : c ∈ s) (h1 : isAsciiDigit c = false)
    (h2 : c ≠ '.') (h3 : c ≠ '-') : parseDec s = none := by
  cases h : parseDec s with
  | none => rfl
  | some d =>
    obtain ⟨u, hu, rfl, _⟩ := parseDec_some h
    rcases List.mem_append.1 hc with hc | hc
    · split at hc
      · exact absurd (List.mem_singleton.1 hc) h3
      · cases hc
    · rcases UDec.mem_render hu hc with h | h
      · rw [h1] at h; cases h
      · exact absurd h h2

theorem Dec.val_mk (neg : Bool) (u : UDec) :
    Dec.val ⟨neg, u.mant, u.fp.length⟩ = (if neg then -1 else 1) * u.value := by
  simp only [Dec.val, UDec.value, mul_div_assoc]

theorem parseUsizeCapped_eq_some {cap : Nat} {s : List Char} {k : Nat} :
    parseUsizeCapped cap s = some k ↔
      s ≠ [] ∧ (∀ c ∈ s, isAsciiDigit c = true) ∧ digitsVal s ≤ cap ∧ k = digitsVal s := by
  unfold parseUsizeCapped
  constructor
  · intro h
    split at h
    · rename_i hc
      simp only at h
      split at h
      · rename_i hle
        simp only [Option.some.injEq] at h
        exact ⟨hc.1, List.all_eq_true.1 hc.2, hle, h.symm⟩
      · simp at h
    · simp at h
  · rintro ⟨h1, h2, h3, rfl⟩
    rw [if_pos ⟨h1, all_digits h2⟩]
    simp [h3]

theorem parseUsizeCapped_of_foreign (cap : Nat) {s : List Char} {c : Char} (hc : c ∈ s)
    (h : isAsciiDigit c = false) : parseUsizeCapped cap s = none := by
  cases hp : parseUsizeCapped cap s with
  | none => rfl
  | some k => rw [(parseUsizeCapped_eq_some.1 hp).2.1 c hc] at h; cases h

end SV.Text
