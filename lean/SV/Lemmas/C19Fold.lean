import SV.Model.C19
/-!
`fold` is a recursion over `foldStep`, one step of `fold_operations` on a binary node whose operands are already
folded.  `foldStep_rules` is the case analysis of a step, and the value, shape, symbol, size and fixed-point laws of
`fold` go through it or through `foldStep_shape`, the same without the tests.
-/
namespace SV.C19
variable {N : Type}

theorem fold_num (nt : NumTests N) (x : N) : fold nt (.num x) = .num x := rfl
theorem fold_var (nt : NumTests N) (s : String) : fold nt (.var s) = .var s := rfl
theorem fold_const (nt : NumTests N) (c : Const) : fold nt (.const c) = .const c := rfl
theorem fold_func (nt : NumTests N) (f : Func) (i : Expr N) : fold nt (.func f i) = .func f i := rfl
theorem fold_pre (nt : NumTests N) (o : Op) (v : Expr N) : fold nt (.pre o v) = .pre o v := rfl
theorem fold_post (nt : NumTests N) (o : Op) (v : Expr N) : fold nt (.post o v) = .post o v := rfl

/-- one step of `fold_operations` on a binary node whose operands are already folded -/
def foldStep (nt : NumTests N) (o : Op) (l r : Expr N) (p : Bool) : Expr N :=
  if o = .mul ∧ isNumZero nt l then .num nt.zero
  else if o = .mul ∧ isNumZero nt r then .num nt.zero
  else if o = .caret ∧ isNumZero nt r then .num nt.one
  else if o = .caret ∧ isNumZero nt l ∧ isNumPos nt r then .num nt.zero
  else if o = .add ∧ isNumZero nt l then r
  else if o = .add ∧ isNumZero nt r then l
  else if o = .sub ∧ isNumZero nt r then l
  else if o = .sub ∧ isNumZero nt l then .pre .sub r
  else if o = .div ∧ isNumOne nt r then l
  else .bin o l r p

theorem fold_bin (nt : NumTests N) (o : Op) (l r : Expr N) (p : Bool) :
    fold nt (.bin o l r p) = foldStep nt o (fold nt l) (fold nt r) p := rfl

/-- the nine rules of a fold step in source order, each with the operator and the tests that make it fire,
and the case that none fires -/
theorem foldStep_rules {P : Expr N → Prop} (nt : NumTests N) (o : Op) (l r : Expr N) (p : Bool)
    (mulL : o = .mul → isNumZero nt l = true → P (.num nt.zero))
    (mulR : o = .mul → isNumZero nt r = true → P (.num nt.zero))
    (powR : o = .caret → isNumZero nt r = true → P (.num nt.one))
    (powL : o = .caret → isNumZero nt l = true → isNumPos nt r = true → P (.num nt.zero))
    (addL : o = .add → isNumZero nt l = true → P r)
    (addR : o = .add → isNumZero nt r = true → P l)
    (subR : o = .sub → isNumZero nt r = true → P l)
    (subL : o = .sub → isNumZero nt l = true → P (.pre .sub r))
    (divR : o = .div → isNumOne nt r = true → P l)
    (keep : foldStep nt o l r p = .bin o l r p → P (.bin o l r p)) : P (foldStep nt o l r p) := by
  unfold foldStep at keep ⊢
  -- one `if` at a time: `split_ifs` on the whole chain is very slow
  exact iteInduction (fun h => mulL h.1 h.2) fun h1 => iteInduction (fun h => mulR h.1 h.2) fun h2 =>
    iteInduction (fun h => powR h.1 h.2) fun h3 => iteInduction (fun h => powL h.1 h.2.1 h.2.2) fun h4 =>
    iteInduction (fun h => addL h.1 h.2) fun h5 => iteInduction (fun h => addR h.1 h.2) fun h6 =>
    iteInduction (fun h => subR h.1 h.2) fun h7 => iteInduction (fun h => subL h.1 h.2) fun h8 =>
    iteInduction (fun h => divR h.1 h.2) fun h9 =>
    keep (by rw [if_neg h1, if_neg h2, if_neg h3, if_neg h4, if_neg h5, if_neg h6, if_neg h7, if_neg h8, if_neg h9])

/-- the same without the tests: a literal, one of the operands, the negated right operand, or the node -/
theorem foldStep_shape {P : Expr N → Prop} (nt : NumTests N) (o : Op) (l r : Expr N) (p : Bool)
    (zero : P (.num nt.zero)) (one : P (.num nt.one)) (left : P l) (right : P r)
    (neg : o = .sub → P (.pre .sub r))
    (keep : foldStep nt o l r p = .bin o l r p → P (.bin o l r p)) : P (foldStep nt o l r p) :=
  foldStep_rules nt o l r p (fun _ _ => zero) (fun _ _ => zero) (fun _ _ => one) (fun _ _ _ => zero)
    (fun _ _ => right) (fun _ _ => left) (fun _ _ => left) (fun ho _ => neg ho) (fun _ _ => left) keep

end SV.C19
