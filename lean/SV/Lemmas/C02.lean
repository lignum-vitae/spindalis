import SV.Model.C02
import SV.Lemmas.Sparse
import Mathlib.Data.List.Forall2
/-!
The building blocks of the multivariate parser, each characterised once: `addVar` keeps the names
already present and adds a new one at most once; sorting by name and `eraseDups` (only transitivity and
totality of `≤` on `String` are used); `parseParts` is `parsePart` on every part, and `parse` succeeds
exactly when no part is empty or a lone `-` and every part parses.  These are ingredients: the
canonical form of an accepted polynomial (`SV.Props.C02.parse_canonical`) is read off the converse
theorem `SV.C16Inter.parse_inv`, which uses them.  Parse results have decidable equality, so that
concrete test vectors are checked by `decide`.
-/
namespace SV.C02
open SV SV.Text

def names (vars : List (String × Num)) : List String := vars.map (·.1)

theorem any_name_iff (vars : List (String × Num)) (name : String) :
    vars.any (fun v => v.1 = name) = true ↔ name ∈ names vars := by
  simp only [names, List.any_eq_true, decide_eq_true_eq, List.mem_map]

theorem addVar_mem (vars : List (String × Num)) (name : String) (p : Num) (h : name ∈ names vars) :
    addVar vars name p = addVar.upd name p vars := by
  rw [addVar, if_pos ((any_name_iff vars name).2 h)]

theorem addVar_fresh (vars : List (String × Num)) (name : String) (p : Num) (h : name ∉ names vars) :
    addVar vars name p = vars ++ [(name, p)] := by
  rw [addVar, if_neg (fun e => h ((any_name_iff vars name).1 e))]

/-- `addVar` appends a fresh name, and adds the exponent to the entry of a name already present -/
theorem addVar_cases (vars : List (String × Num)) (name : String) (p : Num) :
    (name ∉ names vars ∧ addVar vars name p = vars ++ [(name, p)]) ∨
      ∃ l₁ e l₂, vars = l₁ ++ (name, e) :: l₂ ∧
        addVar vars name p = l₁ ++ (name, Num.add e p) :: l₂ := by
  by_cases h : name ∈ names vars
  · right
    rw [addVar_mem _ _ _ h]
    induction vars with
    | nil => cases h
    | cons v vs ih =>
      obtain ⟨m, e⟩ := v
      unfold addVar.upd
      by_cases hm : m = name
      · subst hm
        exact ⟨[], e, vs, rfl, by rw [if_pos rfl]; rfl⟩
      · obtain ⟨l₁, e', l₂, hv, hu⟩ := ih ((List.mem_cons.1 h).resolve_left (Ne.symm hm))
        exact ⟨(m, e) :: l₁, e', l₂, by rw [hv]; rfl, by rw [if_neg hm, hu]; rfl⟩
  · exact Or.inl ⟨h, addVar_fresh _ _ _ h⟩

theorem names_addVar (vars : List (String × Num)) (name : String) (p : Num) :
    names (addVar vars name p) = if name ∈ names vars then names vars else names vars ++ [name] := by
  rcases addVar_cases vars name p with ⟨h, h'⟩ | ⟨l₁, e, l₂, rfl, h'⟩
  · rw [if_neg h, h', names, List.map_append]
    rfl
  · have hm : name ∈ names (l₁ ++ (name, e) :: l₂) := List.mem_map.2 ⟨(name, e), by simp, rfl⟩
    rw [h', if_pos hm]
    simp only [names, List.map_append, List.map_cons]

theorem mem_names_addVar {vars : List (String × Num)} {name : String} {p : Num} {n : String} :
    n ∈ names (addVar vars name p) ↔ n ∈ names vars ∨ n = name := by
  rw [names_addVar]
  by_cases hm : name ∈ names vars
  · rw [if_pos hm]
    exact ⟨Or.inl, fun h => h.elim id (· ▸ hm)⟩
  · rw [if_neg hm, List.mem_append, List.mem_singleton]

theorem nodup_names_addVar (vars : List (String × Num)) (name : String) (p : Num)
    (h : (names vars).Nodup) : (names (addVar vars name p)).Nodup := by
  rw [names_addVar]
  by_cases hm : name ∈ names vars
  · rw [if_pos hm]; exact h
  · rw [if_neg hm]
    exact List.nodup_append.2 ⟨h, by simp, fun a ha b hb e =>
      hm (by rwa [← List.mem_singleton.1 hb, ← e])⟩

/-- the comparison `vars.sort_by(|a, b| a.0.cmp(&b.0))` -/
def leName (a b : String × Num) : Bool := decide (a.1 ≤ b.1)

theorem leName_trans (a b c : String × Num) (h1 : leName a b = true) (h2 : leName b c = true) :
    leName a c = true := by
  simp only [leName, decide_eq_true_eq] at *
  exact String.le_trans h1 h2

theorem leName_total (a b : String × Num) : (leName a b || leName b a) = true := by
  simp only [leName, Bool.or_eq_true, decide_eq_true_eq]
  exact String.le_total a.1 b.1

theorem names_sorted_mergeSort (vars : List (String × Num)) :
    (names (vars.mergeSort leName)).Pairwise (· ≤ ·) := by
  have h := List.pairwise_mergeSort leName_trans leName_total vars
  unfold names
  rw [List.pairwise_map]
  exact h.imp (fun {a b} hab => by simpa [leName] using hab)

theorem names_perm_mergeSort (vars : List (String × Num)) :
    (names (vars.mergeSort leName)).Perm (names vars) :=
  (List.mergeSort_perm vars leName).map _

/-- sorted by `≤` without duplicates is strictly increasing (`a < b` is `¬ b ≤ a`, and `b ≤ a` with
`a ≤ b` and `a ≠ b` is excluded by antisymmetry) -/
theorem pairwise_lt_of_le_of_nodup {l : List String} (h1 : l.Pairwise (· ≤ ·)) (h2 : l.Nodup) :
    l.Pairwise (· < ·) := by
  induction l with
  | nil => exact List.Pairwise.nil
  | cons a l ih =>
    rw [List.pairwise_cons] at h1 ⊢
    have h2' := List.pairwise_cons.1 h2
    refine ⟨fun b hb => ?_, ih h1.2 h2'.2⟩
    have hab : a ≤ b := h1.1 b hb
    have hne : a ≠ b := h2'.1 b hb
    exact String.not_le.1 (fun hba => hne (String.le_antisymm hab hba))

theorem variables_sorted (l : List String) :
    (l.mergeSort (fun a b => decide (a ≤ b))).Pairwise (· ≤ ·) := by
  have h := List.pairwise_mergeSort (le := fun (a b : String) => decide (a ≤ b))
    (fun a b c h1 h2 => by
      simp only [decide_eq_true_eq] at *
      exact String.le_trans h1 h2)
    (fun a b => by
      simp only [Bool.or_eq_true, decide_eq_true_eq]
      exact String.le_total a b) l
  exact h.imp (fun {a b} hab => by simpa using hab)

theorem parseParts_eq_ok_iff {cc : CharClass} {ps : List (List Char)} {ts : List ITerm} :
    parseParts cc ps = .ok ts ↔ List.Forall₂ (fun p t => parsePart cc p = .ok t) ps ts := by
  induction ps generalizing ts with
  | nil => simp only [parseParts, Except.ok.injEq, List.forall₂_nil_left_iff, eq_comm]
  | cons p ps ih =>
    rw [parseParts, List.forall₂_cons_left_iff]
    cases parsePart cc p with
    | error e => simp only [reduceCtorEq, false_and, exists_false]
    | ok t =>
      cases hps : parseParts cc ps with
      | error e =>
        simp only [reduceCtorEq, Except.ok.injEq, false_iff]
        rintro ⟨b, l, rfl, hl, -⟩
        rw [ih.2 hl] at hps
        cases hps
      | ok ts' =>
        simp only [Except.ok.injEq]
        constructor
        · rintro rfl
          exact ⟨t, ts', rfl, ih.1 hps, rfl⟩
        · rintro ⟨b, l, rfl, hl, rfl⟩
          rw [ih.2 hl] at hps
          cases hps
          rfl

def variablesOf (ts : List ITerm) : List String :=
  ((ts.flatMap fun t => t.vars.map (·.1)).eraseDups).mergeSort (fun a b => decide (a ≤ b))

theorem mem_variablesOf (ts : List ITerm) (n : String) :
    n ∈ variablesOf ts ↔ ∃ t ∈ ts, n ∈ names t.vars := by
  rw [variablesOf, List.mem_mergeSort, List.mem_eraseDups, List.mem_flatMap]
  rfl

theorem nodup_variablesOf (ts : List ITerm) : (variablesOf ts).Nodup :=
  (List.mergeSort_perm _ _).symm.nodup (Poly.nodup_eraseDups _)

/-- the parser reads its text only through `stripWs` -/
theorem parse_congr_stripWs {cc : CharClass} {s s' : List Char} (h : stripWs cc s = stripWs cc s') :
    parse cc s = parse cc s' := by
  rw [parse, parse, normalize, normalize, h]

theorem parse_eq_ok_iff {cc : CharClass} {s : List Char} {p : IParsed} :
    parse cc s = .ok p ↔
      (∀ part ∈ parts (normalize cc s), part ≠ [] ∧ part ≠ ['-']) ∧
      parseParts cc (parts (normalize cc s)) = .ok p.terms ∧ p.variables = variablesOf p.terms := by
  obtain ⟨terms, vs⟩ := p
  have hany : (parts (normalize cc s)).any (fun p => decide (p = [] ∨ p = ['-'])) = true ↔
      ¬ ∀ part ∈ parts (normalize cc s), part ≠ [] ∧ part ≠ ['-'] := by
    simp only [List.any_eq_true, decide_eq_true_eq, not_forall, not_and_or, not_not, exists_prop]
  unfold parse
  simp only
  split
  · rename_i h
    simp [hany.1 h]
  · rename_i h
    rw [hany, not_not] at h
    cases parseParts cc (parts (normalize cc s)) with
    | error e => simp
    | ok ts =>
      simp only [Except.ok.injEq, IParsed.mk.injEq]
      constructor
      · rintro ⟨rfl, rfl⟩
        exact ⟨h, rfl, rfl⟩
      · rintro ⟨-, rfl, rfl⟩
        exact ⟨rfl, rfl⟩

deriving instance DecidableEq for ITerm
deriving instance DecidableEq for IParsed

/-- whether a computation succeeds, and with a result satisfying a decidable property, is decided by
running it -/
instance {ε α : Type} (r : Except ε α) : Decidable (∃ a, r = .ok a) :=
  match r with
  | .ok a => isTrue ⟨a, rfl⟩
  | .error _ => isFalse (by rintro ⟨_, h⟩; cases h)

instance {ε α : Type} (r : Except ε α) (P : α → Prop) [DecidablePred P] :
    Decidable (∃ a, r = .ok a ∧ P a) :=
  match r with
  | .ok a => decidable_of_iff (P a) ⟨fun h => ⟨a, rfl, h⟩, fun ⟨_, h, hq⟩ => by cases h; exact hq⟩
  | .error _ => isFalse (by rintro ⟨_, h, _⟩; cases h)

end SV.C02
