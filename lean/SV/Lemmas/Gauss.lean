import SV.Model.C08
import SV.Lemmas.Subst
import SV.Lemmas.Elim
import Mathlib.Tactic.Ring
import Mathlib.Tactic.FieldSimp
import Mathlib.Tactic.Linarith
import Mathlib.Tactic.LinearCombination
import Mathlib.Algebra.BigOperators.Intervals
import Mathlib.Algebra.BigOperators.Ring.Finset
import Mathlib.Algebra.Order.Field.Basic
import Mathlib.LinearAlgebra.Matrix.ToLinearEquiv
/-!
Lemmas about the elimination model `SV.C08`.

* any scalar type: every step keeps the shapes, so back substitution is inside its precondition and
  the model never produces `panic` (`gaussSolve_square`); `feLoop_sim` runs two eliminations side by
  side (the right-hand-side and row-scaling laws are instances of it);
* ordered field: an elimination step subtracts multiples of row `k` from the other rows, a pivoting
  step permutes rows; both keep the solutions of the *conceptual*
  system — the stored matrix with zeros below the diagonal in the finished columns, which the code
  never stores — (`Inv`), so a returned vector is the one solution of the original system
  (`gaussSolve_ok_solution`);
* a matrix with trivial kernel never shows a zero pivot column (`regular_col`), hence is
  accepted for every tolerance below its smallest scaled pivot (`gaussSolve_regular`).
-/
namespace SV.Gauss
open SV SV.C08 Finset

section vectors
variable {S : Type} [Inhabited S]

/-- the three containers have the sizes the loops index -/
def Shape (n : Nat) (st : St S) : Prop :=
  st.m.h = n ∧ st.m.w = n ∧ st.r.size = n ∧ st.s.size = n

theorem vswap_size (v : Array S) (p q : Nat) : (vswap v p q).size = v.size := by
  simp [vswap]

theorem vget_vswap (v : Array S) (p q : Nat) {i : Nat} (hi : i < v.size) :
    vget (vswap v p q) i = vget v (Equiv.swap p q i) := by
  rw [vswap, vget_vtab _ hi, Equiv.swap_apply_def]
  split_ifs <;> rfl

end vectors

section elimStep
variable {S : Type} [Inhabited S] [Sub S] [Mul S] [Div S]

theorem elimStep_shape {n : Nat} {st : St S} (k : Nat) (h : Shape n st) :
    Shape n (elimStep st n k) :=
  ⟨rfl, rfl, vtab_size _ _, h.2.2.2⟩

end elimStep

section loop
variable {S : Type} [Inhabited S] [Div S] [Neg S] [OfNat S 0] [LT S] [DecidableRel (α := S) (· < ·)]

theorem pivotSearch_bounds (M : Mat S) (s : Array S) {n k : Nat} (hk : k < n) :
    k ≤ (pivotSearch M s n k).1 ∧ (pivotSearch M s n k).1 < n :=
  argmaxFrom_range (fun i => sabs (M.get i k / vget s i)) hk

theorem partialPivot_get {n k : ℕ} {st : St S} (hs : Shape n st) {i : ℕ} (hi : i < n) :
    (∀ j, j < n → (partialPivot st n k).m.get i j
        = st.m.get (Equiv.swap (pivotSearch st.m st.s n k).1 k i) j) ∧
    vget (partialPivot st n k).r i = vget st.r (Equiv.swap (pivotSearch st.m st.s n k).1 k i) ∧
    vget (partialPivot st n k).s i = vget st.s (Equiv.swap (pivotSearch st.m st.s n k).1 k i) := by
  obtain ⟨s1, s2, s3, s4⟩ := hs
  unfold partialPivot
  dsimp only
  split
  · rename_i hpk
    rw [hpk, Equiv.swap_self]
    exact ⟨fun _ _ => rfl, rfl, rfl⟩
  · exact ⟨fun j hj => Mat.get_swapRows _ _ _ (by omega) (by omega), vget_vswap _ _ _ (by omega),
      vget_vswap _ _ _ (by omega)⟩

theorem partialPivot_shape {n : Nat} {st : St S} (k : Nat) (h : Shape n st) :
    Shape n (partialPivot st n k) := by
  unfold partialPivot
  dsimp only
  split
  · exact h
  · obtain ⟨h1, h2, h3, h4⟩ := h
    exact ⟨h1, h2, by rw [vswap_size, h3], by rw [vswap_size, h4]⟩

variable [Sub S] [Mul S]

theorem forwardElim_eq_some {tol : S} {n : Nat} {st st' : St S} :
    forwardElim tol n st = some st' ↔
      feLoop tol n (n - 1) 0 st = some st' ∧ pivotSmall st' tol (n - 1) = false := by
  unfold forwardElim
  cases feLoop tol n (n - 1) 0 st with
  | none => simp
  | some a =>
    dsimp only
    constructor
    · intro h
      split at h
      · cases h
      · rename_i hns
        cases h
        exact ⟨rfl, Bool.eq_false_iff.mpr hns⟩
    · rintro ⟨h1, h2⟩
      cases h1
      rw [h2]
      rfl

theorem feLoop_ind (tol : S) (n m : Nat) (P : Nat → St S → Prop)
    (hstep : ∀ k st, k < m → P k st → pivotSmall (partialPivot st n k) tol k = false →
      P (k + 1) (elimStep (partialPivot st n k) n k)) :
    ∀ (t k : Nat) (st st' : St S), k + t ≤ m → P k st →
      feLoop tol n t k st = some st' → P (k + t) st' := by
  intro t
  induction t with
  | zero =>
    intro k st st' _ hP h
    cases h
    exact hP
  | succ t ih =>
    intro k st st' hk hP h
    simp only [feLoop] at h
    split at h
    · cases h
    · rename_i hsmall
      have := ih (k + 1) _ st' (by omega)
        (hstep k st (by omega) hP (by simpa using hsmall)) h
      rwa [Nat.add_right_comm, Nat.add_assoc] at this

/-- two runs side by side: if a relation between the states is kept by the pivoting and by the
elimination of every step, and related states get the same verdict from the tolerance test, then
the two loops are flagged together or return related states -/
theorem feLoop_sim (tol : S) (n : Nat) (R : St S → St S → Prop)
    (hpp : ∀ k st st', k < n → R st st' → R (partialPivot st n k) (partialPivot st' n k))
    (hes : ∀ k st st', k < n → R st st' → R (elimStep st n k) (elimStep st' n k))
    (hps : ∀ k st st', k < n → R st st' → pivotSmall st' tol k = pivotSmall st tol k) :
    ∀ (t k : Nat) (st st' : St S), k + t ≤ n → R st st' →
      Option.Rel R (feLoop tol n t k st) (feLoop tol n t k st') := by
  intro t
  induction t with
  | zero => intro k st st' _ h; exact .some h
  | succ t ih =>
    intro k st st' hk h
    have h1 := hpp k st st' (by omega) h
    simp only [feLoop]
    rw [hps k _ _ (by omega) h1]
    split
    · exact .none
    · exact ih (k + 1) _ _ (by omega) (hes k _ _ (by omega) h1)

theorem forwardElim_sim (tol : S) {n : Nat} (hn : 0 < n) (R : St S → St S → Prop)
    (hpp : ∀ k st st', k < n → R st st' → R (partialPivot st n k) (partialPivot st' n k))
    (hes : ∀ k st st', k < n → R st st' → R (elimStep st n k) (elimStep st' n k))
    (hps : ∀ k st st', k < n → R st st' → pivotSmall st' tol k = pivotSmall st tol k)
    {st st' : St S} (h : R st st') :
    Option.Rel R (forwardElim tol n st) (forwardElim tol n st') := by
  have hl := feLoop_sim tol n R hpp hes hps (n - 1) 0 st st' (by omega) h
  unfold forwardElim
  generalize feLoop tol n (n - 1) 0 st = o at hl
  generalize feLoop tol n (n - 1) 0 st' = o' at hl
  cases hl with
  | none => exact .none
  | some hab =>
    dsimp only
    rw [hps (n - 1) _ _ (by omega) hab]
    split
    · exact .none
    · exact .some hab

/-- `forward_elimination` started on the same matrix and scales with two right-hand sides is flagged
for both or for neither: the pivot search, the row exchanges and the tolerance tests read the matrix
and the scale vector only, and these stay the same in the two runs. -/
theorem forwardElim_rhs (tol : S) {n : Nat} (hn : 0 < n) (A : Mat S) (b c s : Array S) :
    Option.Rel (fun st st' : St S => st.m = st'.m ∧ st.s = st'.s)
      (forwardElim tol n { m := A, r := b, s := s }) (forwardElim tol n { m := A, r := c, s := s }) := by
  refine forwardElim_sim tol hn _ ?_ ?_ ?_ ⟨rfl, rfl⟩
  · rintro k st st' _ ⟨hm, hs⟩
    unfold partialPivot
    rw [hm, hs]
    dsimp only
    split
    · exact ⟨hm, hs⟩
    · exact ⟨rfl, rfl⟩
  · rintro k st st' _ ⟨hm, hs⟩
    exact ⟨by simp only [elimStep, hm], hs⟩
  · rintro k st st' _ ⟨hm, hs⟩
    simp only [pivotSmall, hm, hs]

theorem forwardElim_shape (tol : S) {n : Nat} {st st' : St S} (h : Shape n st)
    (hfe : forwardElim tol n st = some st') : Shape n st' :=
  feLoop_ind tol n (n - 1) (fun _ s => Shape n s)
    (fun k s _ hs _ => elimStep_shape k (partialPivot_shape k hs))
    (n - 1) 0 st st' (by omega) h (forwardElim_eq_some.mp hfe).1

variable [Add S] [BEq S]

theorem gaussSolve_nonSquare (A : Mat S) (b : Array S) (tol : S) (h : A.h ≠ A.w) :
    gaussSolve A b tol = .err .nonSquare := by
  unfold gaussSolve
  rw [if_pos h]

theorem gaussSolve_numArgs (A : Mat S) (b : Array S) (tol : S) (h1 : A.h = A.w)
    (h2 : A.h ≠ b.size) : gaussSolve A b tol = .err (.numArgs A.h b.size) := by
  unfold gaussSolve
  rw [if_neg (not_not.mpr h1), if_pos h2]

theorem gaussSolve_empty (A : Mat S) (b : Array S) (tol : S) (h1 : A.h = A.w)
    (h2 : A.h = b.size) (h3 : A.h = 0) : gaussSolve A b tol = .err (.numArgs 0 0) := by
  unfold gaussSolve
  rw [if_neg (not_not.mpr h1), if_neg (not_not.mpr h2), if_pos h3]

/-- The square, matching, non-empty system (`n` rows): after the test of the scale vector the
outcome is that of `forward_elimination`, and back substitution is inside its precondition because
every step keeps the shapes. -/
theorem gaussSolve_square (A : Mat S) (b : Array S) (tol : S) {n : Nat} (hn : A.h = n)
    (h1 : A.h = A.w) (h2 : A.h = b.size) (h3 : A.h ≠ 0) :
    gaussSolve A b tol =
      if (List.range n).any (fun i => vget (vtab n (rowScale A n)) i == 0) then .err .singular
      else
        match forwardElim tol n { m := A, r := b, s := vtab n (rowScale A n) } with
        | none => .err .singular
        | some st => .ok (Subst.backCore st.m n st.r (vtab n fun _ => 0)) := by
  subst hn
  unfold gaussSolve
  rw [if_neg (not_not.mpr h1), if_neg (not_not.mpr h2), if_neg h3]
  dsimp only
  split
  · rfl
  · cases hfe : forwardElim tol A.h { m := A, r := b, s := vtab A.h (rowScale A A.h) } with
    | none => rfl
    | some st =>
      obtain ⟨s1, s2, s3, _⟩ :=
        forwardElim_shape tol (n := A.h) ⟨rfl, h1.symm, h2.symm, vtab_size _ _⟩ hfe
      dsimp only
      rw [Subst.backSubst_eq_ok st.m A.h st.r _ (Nat.pos_of_ne_zero h3) s1.ge s2.ge s3.ge
        (vtab_size _ _).ge]

theorem gaussSolve_cases (A : Mat S) (b : Array S) (tol : S)
    (h1 : A.h = A.w) (h2 : A.h = b.size) (h3 : A.h ≠ 0) :
    gaussSolve A b tol = .err .singular ∨ ∃ x, gaussSolve A b tol = .ok x := by
  rw [gaussSolve_square A b tol rfl h1 h2 h3]
  split
  · exact Or.inl rfl
  · cases forwardElim tol A.h { m := A, r := b, s := vtab A.h (rowScale A A.h) } with
    | none => exact Or.inl rfl
    | some st => exact Or.inr ⟨_, rfl⟩

/-- Outside the square, matching, non-empty case the outcome is an error that every system of the
same three sizes shares. -/
theorem gaussSolve_shape (A : Mat S) (b : Array S) (tol : S) :
    (A.h = A.w ∧ A.h = b.size ∧ A.h ≠ 0) ∨
    ∃ e, gaussSolve A b tol = .err e ∧ ∀ (A' : Mat S) (b' : Array S) (tol' : S),
      A'.h = A.h → A'.w = A.w → b'.size = b.size → gaussSolve A' b' tol' = .err e := by
  by_cases h1 : A.h = A.w
  swap
  · exact .inr ⟨_, gaussSolve_nonSquare A b tol h1, fun A' b' tol' e1 e2 _ =>
      gaussSolve_nonSquare A' b' tol' (e1 ▸ e2 ▸ h1)⟩
  by_cases h2 : A.h = b.size
  swap
  · exact .inr ⟨_, gaussSolve_numArgs A b tol h1 h2, fun A' b' tol' e1 e2 e3 => by
      rw [← e1, ← e3]
      exact gaussSolve_numArgs A' b' tol' (e1.trans (h1.trans e2.symm))
        fun h => h2 (e1.symm.trans (h.trans e3))⟩
  by_cases h3 : A.h = 0
  · exact .inr ⟨_, gaussSolve_empty A b tol h1 h2 h3, fun A' b' tol' e1 e2 e3 =>
      gaussSolve_empty A' b' tol' (e1.trans (h1.trans e2.symm)) (e1.trans (h2.trans e3.symm))
        (e1.trans h3)⟩
  · exact .inl ⟨h1, h2, h3⟩

theorem gaussSolve_ok {A : Mat S} {b : Array S} {tol : S} {x : Array S}
    (h : gaussSolve A b tol = .ok x) :
    A.h = A.w ∧ A.h = b.size ∧ A.h ≠ 0 ∧
      ∃ st, forwardElim tol A.h { m := A, r := b, s := vtab A.h (rowScale A A.h) } = some st ∧
        x = Subst.backCore st.m A.h st.r (vtab A.h fun _ => 0) := by
  rcases gaussSolve_shape A b tol with ⟨h1, h2, h3⟩ | ⟨e, he, _⟩
  swap
  · rw [he] at h; cases h
  refine ⟨h1, h2, h3, ?_⟩
  rw [gaussSolve_square A b tol rfl h1 h2 h3] at h
  split at h
  · cases h
  · cases hfe : forwardElim tol A.h { m := A, r := b, s := vtab A.h (rowScale A A.h) } with
    | none => rw [hfe] at h; cases h
    | some st =>
      rw [hfe] at h
      cases h
      exact ⟨st, rfl, rfl⟩

end loop

section fn
variable {K : Type} [Field K]

/-- one elimination step at column `k`: only entries right of column `k` in rows below `k` change;
column `k` below the diagonal keeps its garbage -/
def elimA (k : ℕ) (A : ℕ → ℕ → K) : ℕ → ℕ → K :=
  fun i j => if k < i ∧ k < j then A i j - A i k / A k k * A k j else A i j
def elimB (k : ℕ) (A : ℕ → ℕ → K) (b : ℕ → K) : ℕ → K :=
  fun i => if k < i then b i - A i k / A k k * b k else b i

/-- the matrix the algorithm *means* after `k` finished columns: zeros below the diagonal there -/
def conc (k : ℕ) (A : ℕ → ℕ → K) : ℕ → ℕ → K :=
  fun i j => if j < k ∧ j < i then 0 else A i j

def Solves (n : ℕ) (A : ℕ → ℕ → K) (b : ℕ → K) (x : ℕ → K) : Prop :=
  ∀ i, i < n → ∑ j ∈ range n, A i j * x j = b i

theorem Solves_congr {n : ℕ} {A A' : ℕ → ℕ → K} {b b' : ℕ → K} (x : ℕ → K)
    (hA : ∀ i j, i < n → j < n → A' i j = A i j) (hb : ∀ i, i < n → b' i = b i) :
    Solves n A' b' x ↔ Solves n A b x := by
  refine forall₂_congr fun i hi => ?_
  rw [hb i hi, Finset.sum_congr rfl fun j hj => by rw [hA i j hi (Finset.mem_range.mp hj)]]

theorem Solves_congr_vec {n : ℕ} (A : ℕ → ℕ → K) (b : ℕ → K) {x y : ℕ → K}
    (h : ∀ j, j < n → y j = x j) : Solves n A b y ↔ Solves n A b x := by
  refine forall₂_congr fun i _ => ?_
  rw [Finset.sum_congr rfl fun j hj => by rw [h j (Finset.mem_range.mp hj)]]

/-- Subtracting `m i` times row `k` from every row `i` (row `k` itself is kept: `m k = 0`) — of
matrix and right-hand side alike — does not change the solutions: row `k` is still there to add the
multiples back. -/
theorem Solves_row_op {n k : ℕ} (hk : k < n) (m : ℕ → K) (hm : m k = 0) {A A' : ℕ → ℕ → K}
    {b b' : ℕ → K} (x : ℕ → K) (hA : ∀ i j, i < n → j < n → A' i j = A i j - m i * A k j)
    (hb : ∀ i, i < n → b' i = b i - m i * b k) : Solves n A b x ↔ Solves n A' b' x := by
  have hrow : ∀ i, i < n → ∑ j ∈ range n, A' i j * x j
      = ∑ j ∈ range n, A i j * x j - m i * ∑ j ∈ range n, A k j * x j := by
    intro i hi
    rw [mul_sum, ← sum_sub_distrib]
    apply sum_congr rfl
    intro j hj
    rw [hA i j hi (mem_range.mp hj)]
    ring
  constructor
  · intro h i hi
    rw [hrow i hi, h i hi, h k hk, hb i hi]
  · intro h i hi
    have hk' := h k hk
    rw [hrow k hk, hb k hk, hm, zero_mul, sub_zero, zero_mul, sub_zero] at hk'
    have hi' := h i hi
    rw [hrow i hi, hk', hb i hi] at hi'
    exact sub_left_inj.mp hi'

theorem Solves_perm {n : ℕ} (σ : ℕ → ℕ) (hσ : ∀ i, i < n → σ i < n) (hinv : ∀ i, σ (σ i) = i)
    {A A' : ℕ → ℕ → K} {b b' : ℕ → K} (x : ℕ → K)
    (hA : ∀ i j, i < n → j < n → A' i j = A (σ i) j) (hb : ∀ i, i < n → b' i = b (σ i)) :
    Solves n A' b' x ↔ Solves n A b x := by
  have hrow : ∀ i, i < n → (∑ j ∈ range n, A' i j * x j = b' i ↔
      ∑ j ∈ range n, A (σ i) j * x j = b (σ i)) := by
    intro i hi
    rw [hb i hi, Finset.sum_congr rfl fun j hj => by rw [hA i j hi (Finset.mem_range.mp hj)]]
  constructor
  · intro h i hi
    have := (hrow (σ i) (hσ i hi)).mp (h _ (hσ i hi))
    rwa [hinv] at this
  · intro h i hi
    exact (hrow i hi).mpr (h _ (hσ i hi))

/-- the new conceptual matrix is the old one with `A i k / A k k` times row `k` subtracted from
every row `i > k`: in column `k` that produces the zero the algorithm never stores -/
theorem conc_elimA (k : ℕ) (A : ℕ → ℕ → K) (hp : A k k ≠ 0) (i j : ℕ) :
    conc (k + 1) (elimA k A) i j
      = conc k A i j - (if k < i then A i k / A k k else 0) * conc k A k j := by
  unfold conc elimA
  by_cases hi : k < i
  · rw [if_pos hi]
    rcases lt_trichotomy j k with hj | rfl | hj
    · rw [if_pos (show j < k + 1 ∧ j < i by omega), if_pos (show j < k ∧ j < i by omega),
        if_pos (show j < k ∧ j < k by omega), mul_zero, sub_zero]
    · rw [if_pos (show j < j + 1 ∧ j < i by omega), if_neg (show ¬(j < j ∧ j < i) by omega),
        if_neg (show ¬(j < j ∧ j < j) by omega), div_mul_cancel₀ _ hp, sub_self]
    · rw [if_neg (show ¬(j < k + 1 ∧ j < i) by omega), if_pos (show k < i ∧ k < j from ⟨hi, hj⟩),
        if_neg (show ¬(j < k ∧ j < i) by omega), if_neg (show ¬(j < k ∧ j < k) by omega)]
  · rw [if_neg hi, zero_mul, sub_zero, if_neg (show ¬(k < i ∧ k < j) from fun h => hi h.1)]
    exact if_congr (by omega) rfl rfl

theorem elim_preserves (n k : ℕ) (hk : k < n) (A : ℕ → ℕ → K) (b x : ℕ → K) (hp : A k k ≠ 0) :
    Solves n (conc k A) b x ↔ Solves n (conc (k+1) (elimA k A)) (elimB k A b) x := by
  refine Solves_row_op hk (fun i => if k < i then A i k / A k k else 0)
    (if_neg (lt_irrefl k)) x (fun i j _ _ => conc_elimA k A hp i j) fun i _ => ?_
  unfold elimB
  split
  · rfl
  · rw [zero_mul, sub_zero]

theorem conc_swap {k p : ℕ} (hkp : k ≤ p) (M : ℕ → ℕ → K) (i j : ℕ) :
    conc k (fun i j => M (Equiv.swap p k i) j) i j = conc k M (Equiv.swap p k i) j := by
  unfold conc
  refine if_congr ?_ rfl rfl
  rw [Equiv.swap_apply_def]
  split_ifs <;> omega

theorem upper_sum {n : ℕ} (M : ℕ → ℕ → K) (x : ℕ → K) {i : ℕ} (hi : i < n) :
    ∑ j ∈ range n, conc (n - 1) M i j * x j
      = M i i * x i + ∑ j ∈ Ico (i + 1) n, M i j * x j := by
  rw [sum_range_upper hi _ fun j hj => by rw [conc, if_pos (by omega), zero_mul], conc,
    if_neg (by omega)]
  exact congrArg _ (Finset.sum_congr rfl fun j hj => by
    rw [conc, if_neg (by have := (Finset.mem_Ico.mp hj).1; omega)])

end fn

section field
variable {K : Type} [Field K] [Inhabited K]

def fnM (st : St K) : ℕ → ℕ → K := fun i j => st.m.get i j
def fnR (st : St K) : ℕ → K := fun i => vget st.r i

theorem elimStep_m (st : St K) {n k i j : ℕ} (hi : i < n) (hj : j < n) :
    (elimStep st n k).m.get i j = elimA k (fnM st) i j :=
  Mat.get_tab _ hi hj

theorem elimStep_r (st : St K) {n k i : ℕ} (hi : i < n) :
    vget (elimStep st n k).r i = elimB k (fnM st) (fnR st) i :=
  vget_vtab _ hi

/-- after `k` steps: shapes, the conceptual system is equivalent to the original one, the finished
pivots are non-zero -/
structure Inv (n : ℕ) (A : ℕ → ℕ → K) (b : ℕ → K) (k : ℕ) (st : St K) : Prop where
  shape : Shape n st
  sol : ∀ x, Solves n (conc k (fnM st)) (fnR st) x ↔ Solves n A b x
  diag : ∀ i, i < k → st.m.get i i ≠ 0

/-- On the zero right-hand side the stored right-hand side is zero too (the zero vector solves both
systems), so the invariant identifies the two kernels. -/
theorem Inv.ker {n k : ℕ} {A : ℕ → ℕ → K} {st : St K} (h : Inv n A (fun _ => 0) k st) (v : ℕ → K) :
    Solves n (conc k (fnM st)) (fun _ => 0) v ↔ Solves n A (fun _ => 0) v := by
  have h0 : Solves n (conc k (fnM st)) (fnR st) fun _ => 0 :=
    (h.sol _).mpr fun i _ => Finset.sum_eq_zero fun _ _ => mul_zero _
  have hr : ∀ i, i < n → fnR st i = 0 := fun i hi =>
    (h0 i hi).symm.trans (Finset.sum_eq_zero fun _ _ => mul_zero _)
  exact (Solves_congr v (fun _ _ _ _ => rfl) hr).symm.trans (h.sol v)

theorem elimStep_inv {n : ℕ} {A : ℕ → ℕ → K} {b : ℕ → K} {k : ℕ} {st : St K} (hk : k < n)
    (hp : st.m.get k k ≠ 0) (h : Inv n A b k st) : Inv n A b (k + 1) (elimStep st n k) := by
  have hM : ∀ i j, i < n → j < n →
      conc (k + 1) (fnM (elimStep st n k)) i j = conc (k + 1) (elimA k (fnM st)) i j := by
    intro i j hi hj
    unfold conc fnM
    rw [elimStep_m st hi hj]
    rfl
  refine ⟨elimStep_shape k h.shape, fun x => ?_, fun i hi => ?_⟩
  · rw [← h.sol x, elim_preserves n k hk (fnM st) (fnR st) x hp]
    exact Solves_congr x hM fun i hi => elimStep_r st hi
  · rw [elimStep_m st (by omega) (by omega), elimA, if_neg (by omega)]
    rcases Nat.eq_or_lt_of_le (Nat.le_of_lt_succ hi) with rfl | hlt
    · exact hp
    · exact h.diag i hlt

theorem inv_init {n : ℕ} {st : St K} (hs : Shape n st) : Inv n (fnM st) (fnR st) 0 st :=
  ⟨hs, fun _ => Iff.rfl, fun _ hi => absurd hi (Nat.not_lt_zero _)⟩

/-- all scale entries are non-zero (what `gaussian_elimination` checks before eliminating) -/
def ScaleNZ (n : ℕ) (st : St K) : Prop := ∀ i, i < n → vget st.s i ≠ 0

omit [Inhabited K] in
theorem det_eq_zero_iff_kernel (a : ℕ → ℕ → K) (n : ℕ) :
    (Matrix.of fun i j : Fin n => a i j).det = 0 ↔
      ∃ v : ℕ → K, (∃ i, i < n ∧ v i ≠ 0) ∧ Solves n a (fun _ => 0) v := by
  rw [← Matrix.exists_mulVec_eq_zero_iff]
  constructor
  · rintro ⟨v, hv0, hv⟩
    refine ⟨fun i => if h : i < n then v ⟨i, h⟩ else 0, ?_, fun i hi => ?_⟩
    · by_contra hc
      exact hv0 (funext fun i => by_contra fun hi => hc ⟨i.val, i.isLt, by simpa using hi⟩)
    · rw [Finset.sum_range]
      simpa [Matrix.mulVec, dotProduct] using congrFun hv ⟨i, hi⟩
  · rintro ⟨v, ⟨i, hi, hne⟩, hv⟩
    refine ⟨fun j => v j.val, fun h => hne (congrFun h ⟨i, hi⟩), funext fun r => ?_⟩
    have := hv r.val r.isLt
    rwa [Finset.sum_range] at this

theorem kernel_trivial_of_det_ne_zero (A : Mat K) (n : ℕ) (hdet : (A.toMatrix n n).det ≠ 0)
    (v : ℕ → K) (hv : Solves n (fun i j => A.get i j) (fun _ => 0) v) : ∀ i, i < n → v i = 0 :=
  fun i hi => by_contra fun hne => hdet ((det_eq_zero_iff_kernel _ n).mpr ⟨v, ⟨i, hi, hne⟩, hv⟩)

/-- If column `k` of the state after `k` steps is zero from the diagonal down, the conceptual matrix
is singular (`det_stage_zero_column`); its kernel is that of the original matrix. -/
theorem regular_col {n k : ℕ} {A : ℕ → ℕ → K} {st : St K} (hI : Inv n A (fun _ => 0) k st)
    (hk : k < n) (hreg : ∀ v, Solves n A (fun _ => 0) v → ∀ i, i < n → v i = 0) :
    ¬ ∀ i, k ≤ i → i < n → st.m.get i k = 0 := by
  intro hcol
  obtain ⟨v, ⟨i, hi, hne⟩, hv⟩ := (det_eq_zero_iff_kernel (conc k (fnM st)) n).mp
    (det_stage_zero_column hk _ (fun r c hr _ hc => if_pos ⟨hc, by omega⟩)
      fun r hr hrn => (if_neg (by omega)).trans (hcol r hr hrn))
  exact hne (hreg v ((hI.ker v).mp hv) i hi)

theorem le_foldl_max {α : Type} [LinearOrder α] (f : ℕ → α) (l : List ℕ) (init : α) :
    init ≤ l.foldl (fun sc j => if sc < f j then f j else sc) init ∧
    ∀ j ∈ l, f j ≤ l.foldl (fun sc j => if sc < f j then f j else sc) init := by
  induction l generalizing init with
  | nil => exact ⟨le_refl _, fun j hj => absurd hj List.not_mem_nil⟩
  | cons a l ih =>
    rw [List.foldl_cons]
    obtain ⟨h1, h2⟩ := ih (if init < f a then f a else init)
    have hstep : init ≤ (if init < f a then f a else init) ∧
        f a ≤ (if init < f a then f a else init) := by
      split
      · exact ⟨le_of_lt ‹_›, le_refl _⟩
      · exact ⟨le_refl _, not_lt.mp ‹_›⟩
    refine ⟨hstep.1.trans h1, fun j hj => ?_⟩
    rcases List.mem_cons.mp hj with rfl | hj
    · exact hstep.2.trans h1
    · exact h2 j hj

variable [LinearOrder K]

theorem pivotSmall_eq_false {st : St K} {tol : K} {k : ℕ} :
    pivotSmall st tol k = false ↔ tol ≤ sabs (st.m.get k k / vget st.s k) := by
  rw [pivotSmall, decide_eq_false_iff_not, not_lt]

theorem partialPivot_inv {n : ℕ} {A : ℕ → ℕ → K} {b : ℕ → K} {k : ℕ} {st : St K} (hk : k < n)
    (h : Inv n A b k st) : Inv n A b k (partialPivot st n k) := by
  obtain ⟨hkp, hpn⟩ := pivotSearch_bounds st.m st.s hk
  have hget := fun {i} (hi : i < n) => partialPivot_get (k := k) h.shape hi
  generalize (pivotSearch st.m st.s n k).1 = p at hkp hpn hget
  have hM : ∀ i j, i < n → j < n →
      conc k (fnM (partialPivot st n k)) i j = conc k (fnM st) (Equiv.swap p k i) j := by
    intro i j hi hj
    rw [← conc_swap hkp]
    unfold conc fnM
    rw [(hget hi).1 j hj]
  refine ⟨partialPivot_shape k h.shape, fun x => ?_, ?_⟩
  · rw [← h.sol x]
    exact Solves_perm (Equiv.swap p k) (fun i hi => (swap_facts hkp hpn i).2.2.1 hi)
      (Equiv.swap_apply_self p k) x hM
      fun i hi => (hget hi).2.1
  · intro i hi
    rw [(hget (by omega)).1 i (by omega), Equiv.swap_apply_of_ne_of_ne (by omega) (by omega)]
    exact h.diag i hi

theorem partialPivot_scaleNZ {n k : ℕ} {st : St K} (hs : Shape n st) (hk : k < n)
    (h : ScaleNZ n st) : ScaleNZ n (partialPivot st n k) := by
  intro i hi
  rw [(partialPivot_get hs hi).2.2]
  obtain ⟨hkp, hpn⟩ := pivotSearch_bounds st.m st.s hk
  exact h _ ((swap_facts hkp hpn i).2.2.1 hi)

theorem pivotSearch_max (M : Mat K) (s : Array K) (n k : ℕ) :
    (pivotSearch M s n k).2
        = sabs (M.get (pivotSearch M s n k).1 k / vget s (pivotSearch M s n k).1) ∧
      ∀ i, k ≤ i → i < n → sabs (M.get i k / vget s i) ≤ (pivotSearch M s n k).2 := by
  obtain ⟨h1, h2⟩ :=
    argmaxFrom_max id (fun _ _ => Iff.rfl) (fun i => sabs (M.get i k / vget s i)) n k
  exact ⟨h1, fun i hi1 hi2 => (h2 i hi1 hi2).trans (le_of_eq h1.symm)⟩

theorem rowScale_ge (A : Mat K) (n i : ℕ) : ∀ j, j < n → sabs (A.get i j) ≤ rowScale A n i := by
  have hmax := le_foldl_max (fun j => sabs (A.get i j)) (List.range' 1 (n - 1)) (sabs (A.get i 0))
  intro j hj
  rcases Nat.eq_zero_or_pos j with rfl | hpos
  · exact hmax.1
  · exact hmax.2 j (List.mem_range'_1.mpr (by omega))

theorem any_scale_zero (n : ℕ) (s : ℕ → K) :
    (List.range n).any (fun i => vget (vtab n s) i == 0) = true ↔ ∃ i, i < n ∧ s i = 0 := by
  simp only [List.any_eq_true, List.mem_range, beq_iff_eq]
  exact exists_congr fun i => and_congr_right fun hi => by rw [vget_vtab _ hi]

theorem gaussSolve_of_forwardElim (A : Mat K) (b : Array K) (tol : K) (st : St K)
    (h1 : A.h = A.w) (h2 : A.h = b.size) (h3 : A.h ≠ 0)
    (hsc : ∀ i, i < A.h → rowScale A A.h i ≠ 0)
    (hfe : forwardElim tol A.h { m := A, r := b, s := vtab A.h (rowScale A A.h) } = some st) :
    ∃ x, gaussSolve A b tol = .ok x := by
  rw [gaussSolve_square A b tol rfl h1 h2 h3,
    if_neg (fun h => by obtain ⟨i, hi, h0⟩ := (any_scale_zero _ _).mp h; exact hsc i hi h0), hfe]
  exact ⟨_, rfl⟩

variable [IsStrictOrderedRing K]

theorem pivot_ne_zero {st : St K} {tol : K} {k : ℕ} (htol : 0 < tol)
    (h : pivotSmall st tol k = false) : st.m.get k k ≠ 0 := by
  intro h0
  have := pivotSmall_eq_false.mp h
  rw [h0, zero_div, sabs_eq_abs, abs_zero] at this
  exact absurd htol (not_lt.mpr this)

theorem forwardElim_inv {n : ℕ} {tol : K} (htol : 0 < tol) (hn : 0 < n) {st st' : St K}
    (hs : Shape n st) (hfe : forwardElim tol n st = some st') :
    Shape n st' ∧
      (∀ x, Solves n (conc (n - 1) (fnM st')) (fnR st') x ↔ Solves n (fnM st) (fnR st) x) ∧
      ∀ i, i < n → st'.m.get i i ≠ 0 := by
  obtain ⟨hloop, hlast⟩ := forwardElim_eq_some.mp hfe
  have hInv : Inv n (fnM st) (fnR st) (0 + (n - 1)) st' :=
    feLoop_ind tol n (n - 1) (fun k s => Inv n (fnM st) (fnR st) k s)
      (fun k s hk hI hsm =>
        elimStep_inv (by omega) (pivot_ne_zero htol hsm) (partialPivot_inv (by omega) hI))
      (n - 1) 0 st st' (by omega) (inv_init hs) hloop
  rw [Nat.zero_add] at hInv
  refine ⟨hInv.shape, hInv.sol, fun i hi => ?_⟩
  rcases Nat.eq_or_lt_of_le (Nat.le_sub_one_of_lt hi) with rfl | hlt
  · exact pivot_ne_zero htol hlast
  · exact hInv.diag i hlt

/-- With a positive tolerance a vector solves the system exactly when it agrees with the returned
one: the final triangular system has non-zero pivots and the solutions of the original system. -/
theorem gaussSolve_ok_solution {A : Mat K} {b : Array K} {tol : K} {x : Array K} (htol : 0 < tol)
    (h : gaussSolve A b tol = .ok x) :
    x.size = A.h ∧ ∀ y : ℕ → K,
      Solves A.h (fun i j => A.get i j) (fun i => vget b i) y ↔ ∀ i, i < A.h → y i = vget x i := by
  obtain ⟨h1, h2, h3, st, hfe, rfl⟩ := gaussSolve_ok h
  have hn : 0 < A.h := Nat.pos_of_ne_zero h3
  obtain ⟨_, hsol, hdiag⟩ := forwardElim_inv htol hn ⟨rfl, h1.symm, h2.symm, vtab_size _ _⟩ hfe
  obtain ⟨hsize, hrows, _⟩ := Subst.backCore_rows st.m A.h st.r (vtab A.h fun _ => 0) hn
    (by simp) hdiag
  have hupper : ∀ y : ℕ → K, Solves A.h (conc (A.h - 1) (fnM st)) (fnR st) y ↔
      ∀ i, i < A.h → fnM st i i * y i + ∑ j ∈ Ico (i + 1) A.h, fnM st i j * y j = fnR st i :=
    fun y => forall₂_congr fun i hi => by rw [upper_sum (fnM st) y hi]
  refine ⟨by simpa using hsize, fun y => ?_⟩
  rw [← show _ ↔ Solves A.h (fun i j => A.get i j) (fun i => vget b i) y from hsol y]
  constructor
  · intro hy
    exact Subst.upper_unique (fnM st) A.h (fnR st) y _ hdiag ((hupper y).mp hy) hrows
  · intro hy
    exact (Solves_congr_vec _ _ hy).mpr ((hupper _).mpr hrows)

theorem pivot_zero_col {n k : ℕ} {st : St K} (hs : Shape n st) (hk : k < n) (hsc : ScaleNZ n st)
    (h0 : (partialPivot st n k).m.get k k = 0) : ∀ i, k ≤ i → i < n → st.m.get i k = 0 := by
  rw [(partialPivot_get hs hk).1 k hk, Equiv.swap_apply_right] at h0
  obtain ⟨hbig, hmax⟩ := pivotSearch_max st.m st.s n k
  rw [h0, zero_div, sabs_eq_abs, abs_zero] at hbig
  intro i hi1 hi2
  have := hmax i hi1 hi2
  rw [hbig, sabs_eq_abs, abs_nonpos_iff, div_eq_zero_iff] at this
  exact this.resolve_right (hsc i hi2)

theorem rowScale_ne_zero (A : Mat K) (n : ℕ) (hdet : (A.toMatrix n n).det ≠ 0) {i : ℕ}
    (hi : i < n) : rowScale A n i ≠ 0 := by
  intro h0
  apply hdet
  apply Matrix.det_eq_zero_of_row_eq_zero ⟨i, hi⟩
  intro j
  have := rowScale_ge A n i j.val j.isLt
  rw [h0, sabs_eq_abs, abs_nonpos_iff] at this
  exact this

omit [Inhabited K] in
theorem scaled_pivot_pos {a s : K} (ha : a ≠ 0) (hs : s ≠ 0) : 0 < sabs (a / s) := by
  rw [sabs_eq_abs]
  exact abs_pos.mpr (div_ne_zero ha hs)

/-- The threshold is the smallest scaled pivot the loop meets; the state returned does not depend on
the tolerance, which is why it is named before `tol`. -/
theorem feLoop_regular {n : ℕ} {A : ℕ → ℕ → K}
    (hreg : ∀ v, Solves n A (fun _ => 0) v → ∀ i, i < n → v i = 0) :
    ∀ (t k : ℕ) (st : St K), k + t < n → Inv n A (fun _ => 0) k st → ScaleNZ n st →
      ∃ (τ : K) (st' : St K), 0 < τ ∧ Inv n A (fun _ => 0) (k + t) st' ∧ ScaleNZ n st' ∧
        ∀ tol, tol ≤ τ → feLoop tol n t k st = some st' := by
  intro t
  induction t with
  | zero => intro k st _ hI hS; exact ⟨1, st, one_pos, hI, hS, fun _ _ => rfl⟩
  | succ t ih =>
    intro k st hk hI hS
    have hk' : k < n := by omega
    have hS1 := partialPivot_scaleNZ hI.shape hk' hS
    have hp : (partialPivot st n k).m.get k k ≠ 0 :=
      fun h0 => regular_col hI hk' hreg (pivot_zero_col hI.shape hk' hS h0)
    obtain ⟨τ, st', hτ, hI', hS', hrun⟩ := ih (k + 1) (elimStep (partialPivot st n k) n k)
      (by omega) (elimStep_inv hk' hp (partialPivot_inv hk' hI)) (fun i hi => hS1 i hi)
    refine ⟨min (sabs ((partialPivot st n k).m.get k k / vget (partialPivot st n k).s k)) τ, st',
      lt_min (scaled_pivot_pos hp (hS1 k hk')) hτ, by rwa [Nat.add_right_comm, Nat.add_assoc] at hI',
      hS', fun tol htol => ?_⟩
    · show (if pivotSmall (partialPivot st n k) tol k then none else _) = some st'
      rw [pivotSmall_eq_false.mpr (htol.trans (min_le_left _ _))]
      exact hrun tol (htol.trans (min_le_right _ _))

theorem forwardElim_regular {n : ℕ} (hn : 0 < n) {A : ℕ → ℕ → K}
    (hreg : ∀ v, Solves n A (fun _ => 0) v → ∀ i, i < n → v i = 0) {st : St K}
    (hI : Inv n A (fun _ => 0) 0 st) (hsc : ScaleNZ n st) :
    ∃ τ, 0 < τ ∧ ∀ tol, tol ≤ τ → ∃ st', forwardElim tol n st = some st' := by
  obtain ⟨τ, st', hτ, hI', hS', hrun⟩ := feLoop_regular hreg (n - 1) 0 st (by omega) hI hsc
  rw [Nat.zero_add] at hI'
  have hp : st'.m.get (n - 1) (n - 1) ≠ 0 := fun h0 =>
    regular_col hI' (by omega) hreg fun i h1 h2 => by rwa [show i = n - 1 by omega]
  exact ⟨min (sabs (st'.m.get (n - 1) (n - 1) / vget st'.s (n - 1))) τ,
    lt_min (scaled_pivot_pos hp (hS' _ (by omega))) hτ,
    fun tol htol => ⟨st', forwardElim_eq_some.mpr ⟨hrun tol (htol.trans (min_le_right _ _)),
      pivotSmall_eq_false.mpr (htol.trans (min_le_left _ _))⟩⟩⟩

/-- Acceptance does not read the right-hand side (`forwardElim_rhs`), so the elimination is followed
on the zero right-hand side, where the invariant speaks of the kernel of `A` (`Inv.ker`). -/
theorem gaussSolve_regular (A : Mat K) (b : Array K) (h1 : A.h = A.w) (h2 : A.h = b.size)
    (h3 : A.h ≠ 0)
    (hreg : ∀ v, Solves A.h (fun i j => A.get i j) (fun _ => 0) v → ∀ i, i < A.h → v i = 0)
    (hsc : ∀ i, i < A.h → rowScale A A.h i ≠ 0) :
    ∃ τ, 0 < τ ∧ ∀ tol, tol ≤ τ → ∃ x, gaussSolve A b tol = .ok x := by
  have hpos : 0 < A.h := Nat.pos_of_ne_zero h3
  obtain ⟨τ, hτ, hrun⟩ := forwardElim_regular hpos hreg
    (st := { m := A, r := vtab A.h fun _ => 0, s := vtab A.h (rowScale A A.h) })
    ⟨⟨rfl, h1.symm, vtab_size _ _, vtab_size _ _⟩,
      fun x => Solves_congr x (fun _ _ _ _ => rfl) fun i hi => vget_vtab _ hi,
      fun i hi => absurd hi (Nat.not_lt_zero _)⟩
    (fun i hi => by rw [vget_vtab _ hi]; exact hsc i hi)
  refine ⟨τ, hτ, fun tol htol => ?_⟩
  obtain ⟨st', hfe⟩ := hrun tol htol
  have hrel := forwardElim_rhs tol hpos A (vtab A.h fun _ => 0) b (vtab A.h (rowScale A A.h))
  rw [hfe] at hrel
  generalize hfb : forwardElim tol A.h { m := A, r := b, s := vtab A.h (rowScale A A.h) } = o at hrel
  cases hrel
  exact gaussSolve_of_forwardElim A b tol _ h1 h2 h3 hsc hfb

end field
end SV.Gauss
