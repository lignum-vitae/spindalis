import SV.Lemmas.C02Render
import SV.Lemmas.C17
/-!
Lemmas for the print / parse round trips of C17, part 4: the grammar of what the printers produce for
the multivariate parser model `SV.C02.parse` (`parse_intermediate_polynomial`) — plain decimal
coefficients, single ASCII-letter variables, optional signed plain-decimal exponents (no fractions),
letters may repeat — and the theorem that every text whose white-space-free form is a rendering of that
grammar is accepted and read as its terms say (`parse_renderI`).

Abstract syntax: `ITermSyn = (neg, coef?, vars)`, `VarSyn = (letter, exponent?)`, `renderI`.  The grammar
is a part of the documented language of `SV.Lemmas.C02Grammar` (`ITermSyn.toC02`: same rendering, same
term read), so `parse_renderI` is `SV.C02.parse_render'` on the translated terms.
-/
namespace SV.C17
open SV SV.Text SV.C01
open SV.C02 (ITerm addVar protectDash)

/-- what the multivariate proofs need of the classification beyond `Sane`: ASCII digits are numeric,
ASCII letters are neither numeric nor white space (true of Rust's `char::is_numeric`/`is_whitespace`) -/
structure NumSane (cc : CharClass) : Prop where
  digit_numeric : ∀ c, isAsciiDigit c = true → cc.isNumeric c = true
  letter_not_numeric : ∀ c, isAsciiLetter c = true → cc.isNumeric c = false
  letter_not_ws : ∀ c, isAsciiLetter c = true → cc.isWs c = false

theorem stdClass_numSane : NumSane stdClass :=
  ⟨C02.stdClass_sane.digit_numeric, C02.stdClass_sane.letter_not_numeric,
    C02.stdClass_sane.letter_not_ws⟩

/-- a variable with an optional exponent `^[-]digits[.digits]` -/
structure VarSyn where
  name : Char
  exp : Option (Bool × UDec)

/-- one signed term `[coefficient]{variable[^exponent]}` -/
structure ITermSyn where
  neg : Bool
  coef : Option UDec
  vars : List VarSyn

def signText (neg : Bool) : List Char := if neg then ['-'] else []

def VarSyn.expText (x : VarSyn) : List Char :=
  match x.exp with
  | none => []
  | some (n, u) => '^' :: (signText n ++ u.render)

def VarSyn.render (x : VarSyn) : List Char := x.name :: x.expText

def varsText (vs : List VarSyn) : List Char := vs.flatMap VarSyn.render

def ITermSyn.renderAbs (t : ITermSyn) : List Char := renderCoef t.coef ++ varsText t.vars

/-- the piece of the normalised text that belongs to the term -/
def ITermSyn.renderPart (t : ITermSyn) : List Char := signText t.neg ++ t.renderAbs

/-- the polynomial text without white space: first term with `-` if negative, later terms with their
operator -/
def renderI : List ITermSyn → List Char
  | [] => []
  | t :: ts => t.renderPart ++ ts.flatMap fun t => (if t.neg then '-' else '+') :: t.renderAbs

structure VarSyn.WF (x : VarSyn) : Prop where
  letter : isAsciiLetter x.name = true
  exp_wf : ∀ n u, x.exp = some (n, u) → u.WF

structure ITermSyn.WF (t : ITermSyn) : Prop where
  coef_wf : ∀ u, t.coef = some u → u.WF
  vars_wf : ∀ x ∈ t.vars, x.WF
  nonempty : t.coef ≠ none ∨ t.vars ≠ []

/-- the exponent the parser computes for the variable (an omitted exponent is 1) -/
def VarSyn.num (x : VarSyn) : Num :=
  match x.exp with
  | none => Num.one
  | some (n, u) => .dec ⟨n, u.mant, u.fp.length⟩

/-- the coefficient the parser computes for the term (an omitted coefficient is ±1) -/
def ITermSyn.num (t : ITermSyn) : Num :=
  match t.coef with
  | none => if t.neg then Num.negOne else Num.one
  | some u => .dec ⟨t.neg, u.mant, u.fp.length⟩

/-- the variable list the parser builds: exponents of a repeated letter are added to its first
occurrence, then a stable sort by name -/
def readVars (vs : List VarSyn) : List (String × Num) :=
  (vs.foldl (fun acc x => addVar acc (String.singleton x.name) x.num) []).mergeSort
    (fun a b => a.1 ≤ b.1)

def ITermSyn.read (t : ITermSyn) : ITerm := ⟨t.num, readVars t.vars⟩

/-- characters of a number: ASCII digit or `.` -/
def NumChar (c : Char) : Prop := isAsciiDigit c = true ∨ c = '.'

def IPlain (c : Char) : Prop := isAsciiDigit c = true ∨ c = '.' ∨ c = '^' ∨ c = '-' ∨ isAsciiLetter c = true

theorem mem_expText {x : VarSyn} (hx : x.WF) {c : Char} (h : c ∈ x.expText) :
    isAsciiDigit c = true ∨ c = '.' ∨ c = '^' ∨ c = '-' := by
  unfold VarSyn.expText at h
  rcases he : x.exp with _ | ⟨n, u⟩
  · rw [he] at h; simp at h
  · rw [he] at h
    simp only [List.mem_cons, List.mem_append] at h
    rcases h with h | h | h
    · exact Or.inr (Or.inr (Or.inl h))
    · exact Or.inr (Or.inr (Or.inr (C02.mem_signChars h)))
    · rcases UDec.mem_render (hx.exp_wf n u he) h with h | h
      · exact Or.inl h
      · exact Or.inr (Or.inl h)

theorem mem_varsText {vs : List VarSyn} (h : ∀ x ∈ vs, x.WF) {c : Char} (hc : c ∈ varsText vs) :
    IPlain c := by
  simp only [varsText, List.mem_flatMap, VarSyn.render, List.mem_cons] at hc
  obtain ⟨x, hx, hc⟩ := hc
  rcases hc with rfl | hc
  · exact Or.inr (Or.inr (Or.inr (Or.inr (h x hx).letter)))
  · rcases mem_expText (h x hx) hc with h | h | h | h
    · exact Or.inl h
    · exact Or.inr (Or.inl h)
    · exact Or.inr (Or.inr (Or.inl h))
    · exact Or.inr (Or.inr (Or.inr (Or.inl h)))

theorem mem_renderAbsI {t : ITermSyn} (ht : t.WF) {c : Char} (hc : c ∈ t.renderAbs) : IPlain c := by
  unfold ITermSyn.renderAbs at hc
  rcases List.mem_append.1 hc with h | h
  · rcases mem_renderCoef ht.coef_wf h with h | h
    · exact Or.inl h
    · exact Or.inr (Or.inl h)
  · exact mem_varsText ht.vars_wf h

theorem IPlain.not_ws {cc : CharClass} (hcc : cc.Sane) (hn : NumSane cc) {c : Char} (h : IPlain c) :
    cc.isWs c = false := by
  rcases h with h | rfl | rfl | rfl | h
  · exact hcc.digit_not_ws c h
  · exact hcc.sym_not_ws.1
  · exact hcc.sym_not_ws.2.2.2
  · exact hcc.sym_not_ws.2.2.1
  · exact hn.letter_not_ws c h

/-- the character before the text that follows `a` -/
def lastOr : Option Char → List Char → Option Char
  | prev, [] => prev
  | _, c :: cs => lastOr (some c) cs

theorem lastOr_eq : lastOr = C02.lastOr := by
  funext prev a
  induction a generalizing prev with
  | nil => rfl
  | cons c cs ih => exact ih (some c)

/-- the text is left alone whatever precedes it -/
def Stable (a : List Char) : Prop := ∀ prev, protectDash prev a = a

/-- the text does not make the next character follow a `^` -/
def NoCaretEnd (a : List Char) : Prop := ∀ prev, prev ≠ some '^' → lastOr prev a ≠ some '^'

def IWellFormed (ts : List ITermSyn) : Prop := ∀ t ∈ ts, t.WF

def coefOf : Option UDec → C02.Coef
  | none => .none
  | some u => .dec (C02.UDec.ofText u)

def VarSyn.factor (x : VarSyn) : C02.Factor := ⟨x.name, x.exp.map fun e => .dec e.1 (C02.UDec.ofText e.2)⟩

def ITermSyn.toC02 (t : ITermSyn) : C02.TermSyn := ⟨t.neg, coefOf t.coef, t.vars.map VarSyn.factor⟩

theorem coefOf_render (o : Option UDec) : (coefOf o).render = renderCoef o := by
  cases o <;> rfl

theorem coefOf_num (t : ITermSyn) : (coefOf t.coef).num t.neg = t.num := by
  unfold ITermSyn.num
  cases t.coef <;> rfl

theorem VarSyn.factor_render (x : VarSyn) : x.factor.render = x.render := by
  obtain ⟨name, _ | ⟨n, u⟩⟩ := x <;> rfl

theorem VarSyn.factor_num (x : VarSyn) : x.factor.num = x.num := by
  obtain ⟨name, _ | ⟨n, u⟩⟩ := x <;> rfl

theorem renderFactors_map (vs : List VarSyn) : C02.renderFactors (vs.map VarSyn.factor) = varsText vs := by
  unfold C02.renderFactors varsText
  rw [List.flatMap_map]
  exact List.flatMap_congr fun x _ => x.factor_render

theorem ITermSyn.toC02_body (t : ITermSyn) : t.toC02.body = t.renderAbs := by
  unfold C02.TermSyn.body ITermSyn.renderAbs
  rw [← coefOf_render, ← renderFactors_map]
  rfl

theorem render_toC02 (ts : List ITermSyn) : C02.render false (ts.map ITermSyn.toC02) = renderI ts := by
  cases ts with
  | nil => rfl
  | cons t ts =>
    rw [List.map_cons, C02.render, renderI, List.flatMap_map, ITermSyn.renderPart, ← t.toC02_body]
    congr 1
    exact List.flatMap_congr fun u _ => by rw [← u.toC02_body]; rfl

theorem VarSyn.WF.factor_exp {x : VarSyn} (hx : x.WF) : ∀ e, x.factor.exp = some e → e.WF := by
  intro e he
  obtain ⟨⟨n, u⟩, hxe, rfl⟩ := Option.map_eq_some_iff.1 he
  exact C02.UDec.ofText_wf (hx.exp_wf n u hxe)

theorem ITermSyn.WF.toC02 {t : ITermSyn} (ht : t.WF) : t.toC02.WF' where
  coef_wf := by
    show (coefOf t.coef).WF
    cases hc : t.coef with
    | none => trivial
    | some u => exact C02.UDec.ofText_wf (ht.coef_wf u hc)
  letters f hf := by
    obtain ⟨x, hx, rfl⟩ := List.mem_map.1 hf
    exact (ht.vars_wf x hx).letter
  exps_wf f hf e he := by
    obtain ⟨x, hx, rfl⟩ := List.mem_map.1 hf
    exact (ht.vars_wf x hx).factor_exp e he
  nonempty := by
    refine ht.nonempty.imp (fun h e => h ?_) (fun h e => h (List.map_eq_nil_iff.1 e))
    cases hc : t.coef with
    | none => rfl
    | some u => rw [show t.toC02.coef = coefOf t.coef from rfl, hc] at e; cases e

theorem VarSyn.stable {x : VarSyn} (hx : x.WF) : Stable x.render ∧ NoCaretEnd x.render := by
  have hs := C02.stable_factors (fs := [x.factor])
    (fun f hf => by rw [List.mem_singleton.1 hf]; exact hx.letter)
    (fun f hf => by rw [List.mem_singleton.1 hf]; exact hx.factor_exp)
  rw [C02.renderFactors_cons, C02.renderFactors, List.flatMap_nil, List.append_nil, x.factor_render] at hs
  obtain ⟨hne, hend⟩ : C02.EndsOK x.render := x.factor_render ▸ C02.endsOK_factor hx.letter hx.factor_exp
  refine ⟨hs, fun prev _ e => ?_⟩
  rw [lastOr_eq, C02.lastOr_eq_getLast? hne] at e
  exact (hend '^' e).not_op.2.2.1 rfl

theorem mergeFactors_map (vs : List VarSyn) (acc : List (String × Num)) :
    C02.mergeFactors (vs.map VarSyn.factor) acc =
      vs.foldl (fun acc x => addVar acc (String.singleton x.name) x.num) acc := by
  unfold C02.mergeFactors
  rw [List.foldl_map]
  congr
  funext acc x
  rw [x.factor_num]
  rfl

theorem ITermSyn.toC02_read (t : ITermSyn) : t.toC02.read = t.read := by
  unfold C02.TermSyn.read ITermSyn.read readVars
  rw [← coefOf_num, ← mergeFactors_map]
  rfl

/-- the variable list of a parsed polynomial, as the parser computes it from the terms -/
def namesOf (ts : List ITerm) : List String :=
  (ts.flatMap fun t => t.vars.map (·.1)).eraseDups.mergeSort (fun a b => a ≤ b)

theorem stripWs_renderI {cc : CharClass} (hcc : cc.Sane) (hn : NumSane cc) {ts : List ITermSyn}
    (hts : IWellFormed ts) : stripWs cc (renderI ts) = renderI ts := by
  apply stripWs_eq_self
  intro c hc
  cases ts with
  | nil => simp [renderI] at hc
  | cons t ts =>
    simp only [renderI, ITermSyn.renderPart, List.mem_append, List.mem_flatMap, List.mem_cons] at hc
    rcases hc with (h | h) | ⟨t', ht', h | h⟩
    · rw [C02.mem_signChars h]; exact hcc.sym_not_ws.2.2.1
    · exact (mem_renderAbsI (hts t (by simp)) h).not_ws hcc hn
    · rw [h]; cases t'.neg
      · exact hcc.sym_not_ws.2.1
      · exact hcc.sym_not_ws.2.2.1
    · exact (mem_renderAbsI (hts t' (by simp [ht'])) h).not_ws hcc hn

/-- **The multivariate parser on (any spacing of) a rendering**: accepted, and the terms are read as
written — coefficient `±1` where omitted, exponent 1 where omitted, repeated letters merged by adding
exponents, variables sorted by name — with the variable list the sorted set of letters. -/
theorem parse_renderI {cc : CharClass} (hn : NumSane cc) {ts : List ITermSyn}
    (hts : IWellFormed ts) {s : List Char} (hs : stripWs cc s = renderI ts) :
    C02.parse cc s = .ok ⟨ts.map ITermSyn.read, namesOf (ts.map ITermSyn.read)⟩ := by
  have h := C02.parse_render' ⟨hn.digit_numeric, hn.letter_not_numeric⟩ false (ts.map ITermSyn.toC02)
    (fun u hu => by
      obtain ⟨t, ht, rfl⟩ := List.mem_map.1 hu
      exact (hts t ht).toC02) s (by rw [render_toC02]; exact hs)
  rwa [List.map_map, List.map_congr_left (f := C02.TermSyn.read ∘ ITermSyn.toC02) (g := ITermSyn.read)
    fun t _ => t.toC02_read] at h

end SV.C17
