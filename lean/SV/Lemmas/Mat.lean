import SV.Model.Basic
import SV.Lemmas.C12Layout
import Mathlib.Algebra.BigOperators.Intervals
import Mathlib.Algebra.BigOperators.Fin
import Mathlib.Data.Matrix.Mul
import Mathlib.Algebra.Order.Field.Basic
namespace SV
open Finset

variable {S : Type}

/-- well-formed: the buffer has exactly `h*w` entries (what `Arr2D` maintains) -/
def Mat.WF (M : Mat S) : Prop := M.a.size = M.h * M.w

@[simp] theorem Mat.tab_h (h w : Nat) (f : Nat → Nat → S) : (Mat.tab h w f).h = h := rfl
@[simp] theorem Mat.tab_w (h w : Nat) (f : Nat → Nat → S) : (Mat.tab h w f).w = w := rfl

theorem Mat.tab_WF (h w : Nat) (f : Nat → Nat → S) : (Mat.tab h w f).WF := by
  simp [Mat.WF, Mat.tab]

theorem Mat.get_tab [Inhabited S] {h w : Nat} (f : Nat → Nat → S) {i j : Nat}
    (hi : i < h) (hj : j < w) : (Mat.tab h w f).get i j = f i j := by
  have hlt : i * w + j < h * w := idx_lt hi hj
  simp only [Mat.get, Mat.tab, Array.getD_eq_getD_getElem?, Array.getElem?_ofFn, hlt, dite_true,
    Option.getD_some, idx_div hj, idx_mod hj]

theorem Mat.tab_congr {h w : Nat} {f g : Nat → Nat → S}
    (hfg : ∀ i j, i < h → j < w → f i j = g i j) : Mat.tab h w f = Mat.tab h w g := by
  unfold Mat.tab
  congr 2
  funext k
  have hw : 0 < w := Nat.pos_of_mul_pos_left (Nat.zero_lt_of_lt k.isLt)
  exact hfg _ _ ((Nat.div_lt_iff_lt_mul hw).mpr k.isLt) (Nat.mod_lt _ hw)

theorem Mat.get_swapRows [Inhabited S] (M : Mat S) (p q : Nat) {i j : Nat} (hi : i < M.h)
    (hj : j < M.w) : (M.swapRows p q).get i j = M.get (Equiv.swap p q i) j := by
  rw [Mat.swapRows, Mat.get_tab _ hi hj, Equiv.swap_apply_def]
  split_ifs <;> rfl

@[simp] theorem Mat.transpose_h [Inhabited S] (M : Mat S) : M.transpose.h = M.w := rfl
@[simp] theorem Mat.transpose_w [Inhabited S] (M : Mat S) : M.transpose.w = M.h := rfl
theorem Mat.transpose_WF [Inhabited S] (M : Mat S) : M.transpose.WF := Mat.tab_WF _ _ _
theorem Mat.get_transpose [Inhabited S] (M : Mat S) {i j : Nat} (hi : i < M.w) (hj : j < M.h) :
    M.transpose.get i j = M.get j i := Mat.get_tab _ hi hj
@[simp] theorem Mat.ident_h [OfNat S 0] [OfNat S 1] (n : Nat) : (Mat.ident n : Mat S).h = n := rfl
@[simp] theorem Mat.ident_w [OfNat S 0] [OfNat S 1] (n : Nat) : (Mat.ident n : Mat S).w = n := rfl
theorem Mat.get_ident [Inhabited S] [OfNat S 0] [OfNat S 1] {n i j : Nat} (hi : i < n) (hj : j < n) :
    (Mat.ident n : Mat S).get i j = if i = j then 1 else 0 := Mat.get_tab _ hi hj

theorem Mat.ext_get [Inhabited S] {M N : Mat S} (hM : M.WF) (hN : N.WF) (hh : M.h = N.h)
    (hw : M.w = N.w) (hget : ∀ i j, i < M.h → j < M.w → M.get i j = N.get i j) : M = N := by
  rcases M with ⟨mh, mw, ma⟩
  rcases N with ⟨nh, nw, na⟩
  simp only [Mat.WF] at hM hN hh hw hget
  subst hh hw
  congr 1
  apply Array.ext (by rw [hM, hN])
  intro k hk1 hk2
  rw [hM] at hk1
  have hwpos : 0 < mw := by
    rcases Nat.eq_zero_or_pos mw with h0 | h0
    · rw [h0] at hk1; omega
    · exact h0
  have hr : k / mw < mh := by rw [Nat.div_lt_iff_lt_mul hwpos]; exact hk1
  have hc : k % mw < mw := Nat.mod_lt _ hwpos
  have := hget (k / mw) (k % mw) hr hc
  simp only [Mat.get, Nat.div_add_mod' k mw, Array.getD_eq_getD_getElem?] at this
  rw [Array.getElem?_eq_getElem (by omega), Array.getElem?_eq_getElem (by omega)] at this
  simpa using this

section argmax
variable [LT S] [DecidableRel (α := S) (· < ·)]

/-- The search loop of the pivoting routines, `(p, big) ← (k, v k)` whenever `big < v k`: the index
returned is the start or one of the candidates, whatever the comparison does. -/
theorem argmax_fold_mem (v : Nat → S) (l : List Nat) (acc : Nat × S) :
    (l.foldl (fun (acc : Nat × S) k => if acc.2 < v k then (k, v k) else acc) acc).1 ∈ acc.1 :: l := by
  induction l generalizing acc with
  | nil => exact List.mem_cons_self
  | cons a l ih =>
    rw [List.foldl_cons]
    split_ifs
    · exact List.mem_cons_of_mem _ (ih (a, v a))
    · rcases List.mem_cons.1 (ih acc) with h | h
      · rw [h]; exact List.mem_cons_self
      · exact List.mem_cons_of_mem _ (List.mem_cons_of_mem _ h)

/-- If the comparison is that of a key into a linear order (`key = id` over an ordered field, the
real value at the rounding scalar), the value returned is `v` at the index returned, and no candidate
has a larger key. -/
theorem argmax_fold {α : Type} [LinearOrder α] (key : S → α) (hkey : ∀ a b : S, a < b ↔ key a < key b)
    (v : Nat → S) (l : List Nat) (acc : Nat × S) (hacc : acc.2 = v acc.1) :
    let res := l.foldl (fun (acc : Nat × S) k => if acc.2 < v k then (k, v k) else acc) acc
    res.2 = v res.1 ∧ ∀ k ∈ acc.1 :: l, key (v k) ≤ key (v res.1) := by
  induction l generalizing acc with
  | nil => exact ⟨hacc, fun k hk => by rw [List.mem_singleton.1 hk]; exact le_rfl⟩
  | cons a l ih =>
    rw [List.foldl_cons]
    by_cases hlt : acc.2 < v a
    · rw [if_pos hlt]
      obtain ⟨h1, h3⟩ := ih (a, v a) rfl
      refine ⟨h1, fun k hk => ?_⟩
      rcases List.mem_cons.1 hk with hk | hk
      · rw [hk, ← hacc]
        exact le_trans (le_of_lt ((hkey _ _).mp hlt)) (h3 a List.mem_cons_self)
      · exact h3 k hk
    · rw [if_neg hlt]
      obtain ⟨h1, h3⟩ := ih acc hacc
      refine ⟨h1, fun k hk => ?_⟩
      rcases List.mem_cons.1 hk with hk | hk
      · rw [hk]; exact h3 _ List.mem_cons_self
      · rcases List.mem_cons.1 hk with hk | hk
        · rw [hk]
          exact le_trans (hacc ▸ not_lt.mp fun h => hlt ((hkey _ _).mpr h)) (h3 _ List.mem_cons_self)
        · exact h3 k (List.mem_cons_of_mem _ hk)

end argmax

theorem sumFrom_congr [Add S] (init : S) (lo hi : Nat) (f g : Nat → S)
    (h : ∀ j, lo ≤ j → j < hi → f j = g j) : sumFrom init lo hi f = sumFrom init lo hi g := by
  unfold sumFrom
  refine List.foldl_ext _ _ _ fun a j hj => ?_
  rw [List.mem_range'_1] at hj
  rw [h j hj.1 (by omega)]

theorem sumFrom_eq [AddCommMonoid S] (init : S) (lo hi : Nat) (f : Nat → S) :
    sumFrom init lo hi f = init + ∑ k ∈ range (hi - lo), f (lo + k) := by
  unfold sumFrom
  generalize hi - lo = n
  induction n generalizing init lo with
  | zero => simp
  | succ n ih =>
    rw [List.range'_succ, List.foldl_cons, ih, Finset.sum_range_succ', add_assoc]
    congr 1
    rw [add_comm]
    congr 1
    · apply Finset.sum_congr rfl; intro k _; congr 1; omega

theorem sumFrom_zero [AddCommMonoid S] (n : Nat) (f : Nat → S) :
    sumFrom 0 0 n f = ∑ k ∈ range n, f k := by
  rw [sumFrom_eq]; simp

/-- `m`, `n` are parameters, not `M.h`, `M.w`: arrays whose sizes agree only propositionally then
denote matrices of one type.  Reads use the stride `M.w` whatever `n` is. -/
def Mat.toMatrix [Inhabited S] (M : Mat S) (m n : Nat) : Matrix (Fin m) (Fin n) S :=
  fun i j => M.get i.val j.val

/-- a well-formed `h × w` array (the square and column-vector predicates of the property files
unfold to this) -/
def Mat.HasShape (M : Mat S) (h w : Nat) : Prop := M.h = h ∧ M.w = w ∧ M.WF

theorem Mat.tab_hasShape (h w : Nat) (f : Nat → Nat → S) : (Mat.tab h w f).HasShape h w :=
  ⟨rfl, rfl, Mat.tab_WF _ _ _⟩

/-- a well-formed array is determined by its shape and the matrix it denotes -/
theorem eq_of_toMatrix [Inhabited S] {M N : Mat S} {h w : Nat} (hM : M.HasShape h w)
    (hN : N.HasShape h w) (e : M.toMatrix h w = N.toMatrix h w) : M = N := by
  obtain ⟨hMh, hMw, hM⟩ := hM
  obtain ⟨hNh, hNw, hN⟩ := hN
  refine Mat.ext_get hM hN (hMh.trans hNh.symm) (hMw.trans hNw.symm) fun i j hi hj => ?_
  exact congrFun (congrFun e ⟨i, hMh ▸ hi⟩) ⟨j, hMw ▸ hj⟩

theorem ident_square [OfNat S 0] [OfNat S 1] (n : Nat) : (Mat.ident n : Mat S).HasShape n n :=
  Mat.tab_hasShape n n _

/-- A well-formed square array whose entries are symmetric **is** its own transposed array
(structurally: same shape, same buffer). -/
theorem Mat.transpose_eq_self_of_symmetric [Inhabited S] (A : Mat S) (hA : A.WF) (hsq : A.h = A.w)
    (hsym : ∀ i j, i < A.h → j < A.h → A.get i j = A.get j i) : A.transpose = A :=
  Mat.ext_get A.transpose_WF hA hsq.symm hsq fun i j hi hj =>
    (Mat.get_transpose A hi hj).trans (hsym j i hj (hsq ▸ hi))

theorem toMatrix_transpose [Inhabited S] (M : Mat S) {m n : Nat} (hm : m ≤ M.w) (hn : n ≤ M.h) :
    M.transpose.toMatrix m n = (M.toMatrix n m).transpose := by
  funext i j
  exact Mat.get_transpose M (Nat.lt_of_lt_of_le i.isLt hm) (Nat.lt_of_lt_of_le j.isLt hn)

theorem toMatrix_ident [Zero S] [One S] [Inhabited S] (n : Nat) :
    (Mat.ident n : Mat S).toMatrix n n = 1 := by
  funext i j
  rw [Mat.toMatrix, Mat.get_ident i.isLt j.isLt, Matrix.one_apply]
  simp only [Fin.ext_iff]

theorem sabs_eq_abs {K : Type} [Field K] [LinearOrder K] [IsStrictOrderedRing K] (x : K) :
    sabs x = |x| := by
  unfold sabs
  split
  · rename_i h; rw [abs_of_neg h]
  · rename_i h; rw [abs_of_nonneg (not_lt.mp h)]

end SV
