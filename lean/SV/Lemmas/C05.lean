import SV.Model.C05
import SV.Lemmas.Poly
import Mathlib.Algebra.Polynomial.Derivative
import Mathlib.Algebra.Polynomial.Eval.Degree
import Mathlib.Algebra.Polynomial.Degree.Lemmas
import Mathlib.Tactic.Ring
import Mathlib.Tactic.LinearCombination
import Mathlib.Tactic.FieldSimp
import Mathlib.Tactic.Linarith
import Mathlib.Algebra.Order.Field.Basic
import Mathlib.Algebra.Order.BigOperators.Group.Finset
import Mathlib.Algebra.Order.BigOperators.Ring.Finset
import Mathlib.Algebra.BigOperators.Intervals
/-!
Lemmas about the quadrature rules behind `SV.Props.C05` (the model is `SV.Model.C05`; Romberg's table
is in `SV.Lemmas.C05Romberg`):

* `trapezoid_eq_sum`, `simpson13_eq`, `simpson38_eq`, `definiteIntegral_one/_even/_odd`
                       in exact arithmetic, on an integrand that never fails, each rule is a sum of
                       panels (`panelT`, `panel13`, `panel38`); what the rules satisfy follows from
                       what one panel does
* `poly_panel*`        the panel identities for a polynomial and any antiderivative; degree ≤ 8: each
                       panel error is a positive combination of values of `f⁗` at rational nodes inside
                       the panel (weights summing to `h⁵/90`, `3h⁵/80`), hence
                       `definiteIntegral_error_bound`, the textbook bound `|b−a|·h⁴·max|f⁗|/80` over any
                       ordered field, no analysis needed
* `Evaluates`, `Denotes`, `simple_evaluates`, `inter_evaluates`
                       both polynomial types evaluate like a Mathlib polynomial
-/
namespace SV.C05
open SV SV.Poly Polynomial Finset

section equations
variable {S : Type} [Add S] [Sub S] [Mul S] [Div S] [OfNat S 0] [NatCast S]
  (f : S → Except PErr S) (a b : S) {n : ℕ}

/-! The branches of `definite_integral` for any scalar type, given what the rules it calls return
(the `0 +` is the `sum = 0.0` the code starts from). -/

theorem definiteIntegral_eq_one : definiteIntegral f a b 1 = liftErr (trapezoid f a b 1) := by
  rw [definiteIntegral, if_pos rfl]

theorem definiteIntegral_eq_even (hn : n % 2 = 0) (h2 : 2 ≤ n) {v : S}
    (hv : simpson13 f ((b - a) / n) a n = .ok v) : definiteIntegral f a b n = .ok (0 + v) := by
  simp only [definiteIntegral, if_neg (show n ≠ 1 by omega), if_neg (not_not.mpr hn),
    if_pos (show n > 1 by omega), hv]

variable {v8 : S} (hv8 : simpson38 f ((b - a) / n) (b - (b - a) / n * lit 3)
  (b - (b - a) / n * lit 2) (b - (b - a) / n * lit 1) b = .ok v8)
include hv8

theorem definiteIntegral_eq_three (h3 : n = 3) : definiteIntegral f a b n = .ok (0 + v8) := by
  simp only [definiteIntegral, if_neg (show n ≠ 1 by omega), if_pos (show n % 2 ≠ 0 by omega), hv8,
    if_neg (show ¬n - 3 > 1 by omega)]

theorem definiteIntegral_eq_odd (hn : n % 2 = 1) (h5 : 5 ≤ n) {v : S}
    (hv : simpson13 f ((b - a) / n) a (n - 3) = .ok v) :
    definiteIntegral f a b n = .ok (0 + v8 + v) := by
  simp only [definiteIntegral, if_neg (show n ≠ 1 by omega), if_pos (show n % 2 ≠ 0 by omega), hv8,
    if_pos (show n - 3 > 1 by omega), hv]

end equations
section exact
variable {K : Type} [Field K] {f : K → Except PErr K} {g : K → K}

/-- one segment of the trapezoid rule, two of the 1/3 rule, three of the 3/8 rule, from `x` -/
def panelT (g : K → K) (h x : K) : K := h / 2 * (g x + g (x + h))

def panel13 (g : K → K) (h x : K) : K := h / 3 * (g x + 4 * g (x + h) + g (x + 2 * h))

def panel38 (g : K → K) (h x : K) : K :=
  3 * h / 8 * (g x + 3 * g (x + h) + 3 * g (x + 2 * h) + g (x + 3 * h))

theorem panelT_lin (F G : K → K) (α β h x : K) :
    panelT (fun x => α * F x + β * G x) h x = α * panelT F h x + β * panelT G h x := by
  simp only [panelT]; ring

theorem panel13_lin (F G : K → K) (α β h x : K) :
    panel13 (fun x => α * F x + β * G x) h x = α * panel13 F h x + β * panel13 G h x := by
  simp only [panel13]; ring

theorem panel38_lin (F G : K → K) (α β h x : K) :
    panel38 (fun x => α * F x + β * G x) h x = α * panel38 F h x + β * panel38 G h x := by
  simp only [panel38]; ring

theorem panelT_shift (F : K → K) (t h x : K) :
    panelT (fun x => F (x - t)) h (x + t) = panelT F h x := by
  simp only [panelT, add_sub_right_comm _ _ t, sub_add_cancel]

theorem panel13_shift (F : K → K) (t h x : K) :
    panel13 (fun x => F (x - t)) h (x + t) = panel13 F h x := by
  simp only [panel13, add_sub_right_comm _ _ t, sub_add_cancel]

theorem panelT_neg (F : K → K) (h x : K) : panelT F (-h) (x + h) = -panelT F h x := by
  simp only [panelT, add_neg_cancel_right]; ring

theorem panel13_neg (F : K → K) (h x : K) : panel13 F (-h) (x + 2 * h) = -panel13 F h x := by
  have e : x + 2 * h + -h = x + h := by ring
  have e' : x + 2 * h + 2 * -h = x := by ring
  simp only [panel13, e, e']; ring

theorem node_succ (s d : K) (i : ℕ) : s + ((i + 1 : ℕ) : K) * d = s + i * d + d := by
  push_cast; ring

theorem sum_trapezoid_regroup (u : ℕ → K) (n : ℕ) :
    ∑ i ∈ range (n + 1), (u i + u (i + 1)) = u 0 + 2 * ∑ i ∈ range n, u (i + 1) + u (n + 1) := by
  induction n with
  | zero => simp
  | succ n ih => rw [sum_range_succ, ih, sum_range_succ]; ring

theorem sum_simpson_regroup (u v : ℕ → K) (q : ℕ) :
    ∑ i ∈ range (q + 1), (u i + 4 * v i + u (i + 1))
      = u 0 + ∑ i ∈ range q, (4 * v i + 2 * u (i + 1)) + (4 * v q + u (q + 1)) := by
  induction q with
  | zero => simp; ring
  | succ q ih => rw [sum_range_succ, ih, sum_range_succ]; ring

theorem step_mul [CharZero K] (a b : K) {n : ℕ} (hn : n ≠ 0) :
    (n : K) * ((b - a) / n) = b - a :=
  mul_div_cancel₀ _ (Nat.cast_ne_zero.mpr hn)

theorem add_steps [CharZero K] (a b : K) {n : ℕ} (hn : n ≠ 0) : a + (n : K) * ((b - a) / n) = b := by
  rw [step_mul a b hn]; ring

theorem sum_telescope (φ G E : K → K) (d : K) (hφ : ∀ x, φ x = G (x + d) - G x + E x) (s : K)
    (q : ℕ) :
    ∑ i ∈ range q, φ (s + i * d) = G (s + q * d) - G s + ∑ i ∈ range q, E (s + i * d) := by
  induction q with
  | zero => simp
  | succ q ih => rw [sum_range_succ, sum_range_succ, ih, hφ, node_succ]; ring

/-- `q` panels `ψ` taken from `e = s + q d` backwards in steps of `−d`, each minus the panel `φ` over
the same piece, add up to minus the panels `φ` taken from `s` forwards -/
theorem sum_reverse (φ ψ : K → K) {d s e : K} {q : ℕ} (he : s + q * d = e)
    (hψ : ∀ x, ψ (x + d) = -φ x) :
    ∑ i ∈ range q, ψ (e + i * -d) = -∑ i ∈ range q, φ (s + i * d) := by
  induction q generalizing e with
  | zero => simp
  | succ q ih =>
    have e1 : ∀ i : ℕ, e + ((i + 1 : ℕ) : K) * -d = s + q * d + i * -d := fun i => by
      rw [← he]; push_cast; ring
    have e2 : e + ((0 : ℕ) : K) * -d = s + q * d + d := by rw [← he]; push_cast; ring
    rw [sum_range_succ', sum_range_succ, e2, hψ]
    simp only [e1]
    rw [ih rfl, neg_add]

theorem cast_half_even {n : ℕ} (hn : n % 2 = 0) : ((n / 2 : ℕ) : K) * 2 = n := by
  exact_mod_cast congrArg (Nat.cast (R := K)) (Nat.div_mul_cancel (Nat.dvd_of_mod_eq_zero hn))

theorem cast_half_odd {n : ℕ} (hn : n % 2 = 1) (h3 : 3 ≤ n) :
    (((n - 3) / 2 : ℕ) : K) * 2 + 3 = n := by
  have : (n - 3) / 2 * 2 + 3 = n := by omega
  exact_mod_cast congrArg (Nat.cast (R := K)) this

theorem add_steps_even [CharZero K] (a b : K) {n : ℕ} (h0 : n ≠ 0) (hn : n % 2 = 0) :
    a + ((n / 2 : ℕ) : K) * (2 * ((b - a) / n)) = b := by
  linear_combination step_mul a b h0 + (b - a) / n * cast_half_even (K := K) hn

variable (hf : ∀ x, f x = .ok (g x))
include hf

theorem trapLoop_eq (h : K) : ∀ (n : ℕ) (xi s : K),
    trapLoop f h n xi s = .ok (xi + n * h, s + 2 * ∑ i ∈ range n, g (xi + i * h + h))
  | 0, xi, s => by simp [trapLoop]
  | n + 1, xi, s => by
    have e : ∀ i : ℕ, xi + h + i * h = xi + ((i + 1 : ℕ) : K) * h := fun i => by push_cast; ring
    simp only [trapLoop, hf]
    rw [trapLoop_eq h n, sum_range_succ']
    simp only [e, lit, Nat.cast_ofNat, Nat.cast_zero, zero_mul, add_zero]
    congr 2
    ring

theorem s13Loop_eq (h : K) : ∀ (n : ℕ) (xi s : K),
    s13Loop f h n xi s = .ok (xi + n * (2 * h),
      s + ∑ i ∈ range n, (4 * g (xi + i * (2 * h) + h) + 2 * g (xi + i * (2 * h) + 2 * h)))
  | 0, xi, s => by simp [s13Loop]
  | n + 1, xi, s => by
    have e : ∀ i : ℕ, xi + 2 * h + i * (2 * h) = xi + ((i + 1 : ℕ) : K) * (2 * h) :=
      fun i => by push_cast; ring
    have e' : xi + 2 * h - h = xi + h := by ring
    simp only [s13Loop, hf]
    rw [s13Loop_eq h n, sum_range_succ']
    simp only [e, e', lit, Nat.cast_ofNat, Nat.cast_zero, zero_mul, add_zero]
    congr 2
    ring

theorem trapezoid_eq (a b : K) (n : ℕ) :
    trapezoid f a b n = .ok ((b - a) / n
      * (g a + 2 * ∑ i ∈ range (n - 1), g (a + i * ((b - a) / n) + (b - a) / n) + g b) / 2) := by
  simp only [trapezoid, hf, trapLoop_eq hf, lit, Nat.cast_ofNat]

theorem trapezoid_eq_sum [CharZero K] (a b : K) (n : ℕ) :
    trapezoid f a b n = .ok (∑ i ∈ range n, panelT g ((b - a) / n) (a + i * ((b - a) / n))) := by
  rw [trapezoid_eq hf]
  cases n with
  | zero => simp
  | succ m =>
    have hb := add_steps a b m.succ_ne_zero
    simp only [panelT, ← mul_sum, ← node_succ]
    rw [sum_trapezoid_regroup (fun i => g (a + i * ((b - a) / (m + 1 : ℕ)))), hb]
    simp only [Nat.cast_zero, zero_mul, add_zero, Nat.add_sub_cancel]
    congr 1
    ring

/-- one panel even if `segments / 2 = 0` -/
theorem simpson13_eq (h s : K) (m : ℕ) :
    simpson13 f h s m = .ok (∑ i ∈ range (m / 2 - 1 + 1), panel13 g h (s + i * (2 * h))) := by
  have e : s + ((m / 2 - 1 : ℕ) : K) * (2 * h) + 2 * h - h
      = s + ((m / 2 - 1 : ℕ) : K) * (2 * h) + h := by ring
  simp only [simpson13, hf, s13Loop_eq hf, lit, Nat.cast_ofNat, e]
  simp only [panel13, ← mul_sum, ← node_succ]
  rw [sum_simpson_regroup (fun i => g (s + i * (2 * h))) (fun i => g (s + i * (2 * h) + h))]
  simp only [Nat.cast_zero, zero_mul, add_zero]
  congr 1
  ring

theorem simpson38_eq (h x : K) :
    simpson38 f h x (x + h) (x + 2 * h) (x + 3 * h) = .ok (panel38 g h x) := by
  simp only [simpson38, hf, lit, Nat.cast_ofNat, panel38]
  congr 1
  ring

theorem definiteIntegral_one (a b : K) :
    definiteIntegral f a b 1 = .ok ((b - a) * (g a + g b) / 2) := by
  simp [definiteIntegral_eq_one, trapezoid, trapLoop, liftErr, hf, lit]

theorem definiteIntegral_even (a b : K) {n : ℕ} (hn : n % 2 = 0) :
    definiteIntegral f a b n = .ok (∑ i ∈ range (n / 2),
      panel13 g ((b - a) / n) (a + i * (2 * ((b - a) / n)))) := by
  obtain rfl | h0 := Nat.eq_zero_or_pos n
  · simp [definiteIntegral]
  · rw [definiteIntegral_eq_even f a b hn (by omega) (simpson13_eq hf _ a n), zero_add,
      show n / 2 - 1 + 1 = n / 2 by omega]

theorem definiteIntegral_odd (a b : K) {n : ℕ} (hn : n % 2 = 1)
    (h3 : 3 ≤ n) :
    definiteIntegral f a b n = .ok (panel38 g ((b - a) / n) (b - 3 * ((b - a) / n))
      + ∑ i ∈ range ((n - 3) / 2), panel13 g ((b - a) / n) (a + i * (2 * ((b - a) / n)))) := by
  have s38 := simpson38_eq hf ((b - a) / n) (b - 3 * ((b - a) / n))
  have e0 : b - 3 * ((b - a) / n) = b - (b - a) / n * lit 3 := by
    simp only [lit, Nat.cast_ofNat]; ring
  have e1 : b - 3 * ((b - a) / n) + (b - a) / n = b - (b - a) / n * lit 2 := by
    simp only [lit, Nat.cast_ofNat]; ring
  have e2 : b - 3 * ((b - a) / n) + 2 * ((b - a) / n) = b - (b - a) / n * lit 1 := by
    simp only [lit, Nat.cast_one]; ring
  have e3 : b - 3 * ((b - a) / n) + 3 * ((b - a) / n) = b := by ring
  rw [e1, e2, e3] at s38
  nth_rewrite 1 [e0] at s38
  obtain rfl | h5 : n = 3 ∨ 5 ≤ n := by omega
  · rw [definiteIntegral_eq_three f a b s38 rfl, zero_add, sum_range_zero, add_zero]
  · rw [definiteIntegral_eq_odd f a b s38 hn h5 (simpson13_eq hf _ a (n - 3)), zero_add,
      show (n - 3) / 2 - 1 + 1 = (n - 3) / 2 by omega]

theorem trapezoid_spec [CharZero K] (a b : K) (n : ℕ) (hn : 1 ≤ n)
    (Gt : K → K) (hpanel : ∀ x, panelT g ((b - a) / n) x = Gt (x + (b - a) / n) - Gt x) :
    trapezoid f a b n = .ok (Gt b - Gt a) := by
  have hb := add_steps a b (show n ≠ 0 by omega)
  rw [trapezoid_eq_sum hf, sum_telescope _ Gt (fun _ => 0) _ (fun x => by rw [hpanel, add_zero]),
    hb, sum_const_zero, add_zero]

/-- `definite_integral` with `n ≥ 2` segments in exact arithmetic, for any integrand `g` whose
1/3- and 3/8-panels starting at `x` integrate `G' = g` up to `E13 x`, `E38 x`: the result is
`G b − G a` plus the panel errors — 1/3 panels start at `a + 2ih`, the 3/8 panel (odd `n`) at `b − 3h` -/
theorem definiteIntegral_spec_sum [CharZero K] (a b : K) (n : ℕ)
    (hn : 2 ≤ n) (G E13 E38 : K → K)
    (h13 : ∀ x, panel13 g ((b - a) / n) x = G (x + 2 * ((b - a) / n)) - G x + E13 x)
    (h38 : ∀ x, panel38 g ((b - a) / n) x = G (x + 3 * ((b - a) / n)) - G x + E38 x) :
    definiteIntegral f a b n = .ok (G b - G a +
      (if n % 2 = 0 then ∑ i ∈ range (n / 2), E13 (a + i * (2 * ((b - a) / n)))
       else ∑ i ∈ range ((n - 3) / 2), E13 (a + i * (2 * ((b - a) / n)))
          + E38 (b - 3 * ((b - a) / n)))) := by
  have h0 : n ≠ 0 := by omega
  by_cases hpar : n % 2 = 0
  · rw [definiteIntegral_even hf a b hpar, sum_telescope _ G E13 _ h13, add_steps_even a b h0 hpar,
      if_pos hpar]
  · have e : a + (((n - 3) / 2 : ℕ) : K) * (2 * ((b - a) / n)) = b - 3 * ((b - a) / n) := by
      linear_combination step_mul a b h0 + (b - a) / n * cast_half_odd (K := K) (show n % 2 = 1 by omega) (by omega)
    rw [definiteIntegral_odd hf a b (by omega) (by omega), sum_telescope _ G E13 _ h13, e, h38,
      sub_add_cancel, if_neg hpar]
    congr 1
    ring

/-- the same with constant panel errors -/
theorem definiteIntegral_spec [CharZero K] (a b : K) (n : ℕ)
    (hn : 2 ≤ n) (G : K → K) (E13 E38 : K)
    (h13 : ∀ x, panel13 g ((b - a) / n) x = G (x + 2 * ((b - a) / n)) - G x + E13)
    (h38 : ∀ x, panel38 g ((b - a) / n) x = G (x + 3 * ((b - a) / n)) - G x + E38) :
    definiteIntegral f a b n = .ok (G b - G a +
      (if n % 2 = 0 then ((n / 2 : ℕ) : K) * E13 else (((n - 3) / 2 : ℕ) : K) * E13 + E38)) := by
  rw [definiteIntegral_spec_sum hf a b n hn G (fun _ => E13) (fun _ => E38) h13 h38]
  simp only [sum_const, card_range, nsmul_eq_mul]

end exact
section polyfacts
variable {K : Type} [Field K]

/-- an explicit quartic, its antiderivative and its derivative -/
def quart (c0 c1 c2 c3 c4 x : K) : K := c0 + c1 * x + c2 * x ^ 2 + c3 * x ^ 3 + c4 * x ^ 4
def quartInt (c0 c1 c2 c3 c4 x : K) : K :=
  c0 * x + c1 * x ^ 2 / 2 + c2 * x ^ 3 / 3 + c3 * x ^ 4 / 4 + c4 * x ^ 5 / 5
def quartDer (c1 c2 c3 c4 x : K) : K := c1 + 2 * c2 * x + 3 * c3 * x ^ 2 + 4 * c4 * x ^ 3

/-! `p.comp (X + C x)` is `p` moved by `x`: a panel identity at `x`, `x + h`, … is the identity at
`0`, `h`, … for the moved polynomials, one that `ring` sees in `h` and the coefficients alone. -/

theorem eval_shift (p : K[X]) (x y : K) : (p.comp (X + C x)).eval y = p.eval (x + y) := by
  rw [eval_comp, eval_add, eval_X, eval_C, add_comm]

theorem derivative_shift (p : K[X]) (x : K) :
    derivative (p.comp (X + C x)) = (derivative p).comp (X + C x) := by
  rw [derivative_comp, derivative_add, derivative_X, derivative_C, add_zero, one_mul]

theorem iterate_derivative_shift (p : K[X]) (x : K) (k : ℕ) :
    derivative^[k] (p.comp (X + C x)) = (derivative^[k] p).comp (X + C x) := by
  induction k with
  | zero => rfl
  | succ k ih =>
    rw [Function.iterate_succ_apply', Function.iterate_succ_apply', ih, derivative_shift]

theorem natDegree_shift_le (p : K[X]) (x : K) : (p.comp (X + C x)).natDegree ≤ p.natDegree :=
  natDegree_comp_le.trans (by rw [natDegree_X_add_C, mul_one])

/-- the values of a polynomial of degree ≤ 9, of its derivative and of its fifth derivative in the
coefficients -/
theorem eval_of_natDegree_lt_ten (P : K[X]) (hd : P.natDegree < 10) (y : K) :
    P.eval y = P.coeff 0 + P.coeff 1 * y + P.coeff 2 * y ^ 2 + P.coeff 3 * y ^ 3 + P.coeff 4 * y ^ 4
      + P.coeff 5 * y ^ 5 + P.coeff 6 * y ^ 6 + P.coeff 7 * y ^ 7 + P.coeff 8 * y ^ 8
      + P.coeff 9 * y ^ 9 := by
  simp only [eval_eq_sum_range' hd, sum_range_succ, sum_range_zero, zero_add, pow_zero, mul_one,
    pow_one]

theorem eval_derivative_of_natDegree_lt_ten (P : K[X]) (hd : P.natDegree < 10) (y : K) :
    (derivative P).eval y = P.coeff 1 + 2 * P.coeff 2 * y + 3 * P.coeff 3 * y ^ 2
      + 4 * P.coeff 4 * y ^ 3 + 5 * P.coeff 5 * y ^ 4 + 6 * P.coeff 6 * y ^ 5
      + 7 * P.coeff 7 * y ^ 6 + 8 * P.coeff 8 * y ^ 7 + 9 * P.coeff 9 * y ^ 8 := by
  have h9 : (derivative P).natDegree < 9 := by
    have := natDegree_derivative_le P
    omega
  simp only [eval_eq_sum_range' h9, sum_range_succ, sum_range_zero, coeff_derivative, zero_add]
  push_cast
  ring

theorem eval_derivative5_of_natDegree_lt_ten (P : K[X]) (hd : P.natDegree < 10) (y : K) :
    (derivative^[4] (derivative P)).eval y = 120 * P.coeff 5 + 720 * P.coeff 6 * y
      + 2520 * P.coeff 7 * y ^ 2 + 6720 * P.coeff 8 * y ^ 3 + 15120 * P.coeff 9 * y ^ 4 := by
  have h4 : (derivative^[4] (derivative P)).natDegree < 5 := by
    have := natDegree_iterate_derivative (derivative P) 4
    have := natDegree_derivative_le P
    omega
  simp only [eval_eq_sum_range' h4, sum_range_succ, sum_range_zero, coeff_iterate_derivative,
    coeff_derivative, nsmul_eq_mul, Nat.descFactorial, zero_add, Nat.reduceAdd, Nat.reduceSub,
    Nat.reduceMul]
  push_cast
  ring

theorem iterate_derivative_four (p : K[X]) (hp : p.natDegree ≤ 4) :
    derivative^[4] p = C (24 * p.coeff 4) := by
  ext m
  rw [coeff_iterate_derivative, coeff_C]
  by_cases hm : m = 0
  · subst hm
    simp [Nat.descFactorial]
  · have h0 : p.coeff (m + 4) = 0 := coeff_eq_zero_of_natDegree_lt (by omega)
    rw [if_neg hm, h0, smul_zero]

variable [CharZero K]

theorem natDegree_antiderivative_le (p P : K[X]) (hP : derivative P = p) (n : ℕ)
    (hp : p.natDegree ≤ n) : P.natDegree ≤ n + 1 := by
  rw [natDegree_le_iff_coeff_eq_zero]
  intro N hN
  obtain ⟨i, rfl⟩ : ∃ i, N = i + 1 := ⟨N - 1, by omega⟩
  have h0 : p.coeff i = 0 := coeff_eq_zero_of_natDegree_lt (by omega)
  rw [← hP, coeff_derivative] at h0
  have hne : ((i : K) + 1) ≠ 0 := by exact_mod_cast Nat.succ_ne_zero i
  exact (mul_eq_zero.mp h0).resolve_right hne

theorem panel_trap_zero (P : K[X]) (hd : P.natDegree < 5) (h : K) :
    h / 2 * ((derivative P).eval 0 + (derivative P).eval h)
      = P.eval h - P.eval 0
        + h ^ 2 / 12 * ((derivative (derivative P)).eval h - (derivative (derivative P)).eval 0) := by
  have h4 : (derivative P).natDegree < 4 := by
    have := natDegree_derivative_le P
    omega
  have h3 : (derivative (derivative P)).natDegree < 3 := by
    have := natDegree_derivative_le (derivative P)
    omega
  simp only [eval_eq_sum_range' hd, eval_eq_sum_range' h4, eval_eq_sum_range' h3,
    Finset.sum_range_succ, Finset.sum_range_zero, coeff_derivative, zero_add]
  push_cast
  ring

theorem panel13_zero (P : K[X]) (hd : P.natDegree < 10) (h : K) :
    h / 3 * ((derivative P).eval 0 + 4 * (derivative P).eval h + (derivative P).eval (2 * h))
      = P.eval (2 * h) - P.eval 0
        + h ^ 5 * (13 / 1890 * (derivative^[4] (derivative P)).eval h
          + 2 / 945 * ((derivative^[4] (derivative P)).eval (h / 2)
              + (derivative^[4] (derivative P)).eval (3 * h / 2))) := by
  simp only [eval_of_natDegree_lt_ten P hd, eval_derivative_of_natDegree_lt_ten P hd,
    eval_derivative5_of_natDegree_lt_ten P hd]
  ring

theorem panel38_zero (P : K[X]) (hd : P.natDegree < 10) (h : K) :
    3 * h / 8 * ((derivative P).eval 0 + 3 * (derivative P).eval h + 3 * (derivative P).eval (2 * h)
        + (derivative P).eval (3 * h))
      = P.eval (3 * h) - P.eval 0
        + h ^ 5 * (13 / 1120 * (derivative^[4] (derivative P)).eval (3 * h / 2)
          + 1 / 96 * ((derivative^[4] (derivative P)).eval h
              + (derivative^[4] (derivative P)).eval (2 * h))
          + 17 / 6720 * ((derivative^[4] (derivative P)).eval (h / 2)
              + (derivative^[4] (derivative P)).eval (5 * h / 2))) := by
  simp only [eval_of_natDegree_lt_ten P hd, eval_derivative_of_natDegree_lt_ten P hd,
    eval_derivative5_of_natDegree_lt_ten P hd]
  ring
/-- trapezoid panel for a polynomial of degree ≤ 3 (Euler–Maclaurin with exact remainder) -/
theorem poly_panel_trap (p P : K[X]) (hP : derivative P = p) (hp : p.natDegree ≤ 3) (x h : K) :
    h / 2 * (p.eval x + p.eval (x + h))
      = P.eval (x + h) - P.eval x
        + h ^ 2 / 12 * ((derivative p).eval (x + h) - (derivative p).eval x) := by
  have hd := natDegree_antiderivative_le p P hP 3 hp
  subst hP
  simpa only [derivative_shift, eval_shift, add_zero] using
    panel_trap_zero (P.comp (X + C x)) ((natDegree_shift_le P x).trans_lt (by omega)) h

/-- Simpson 1/3 panel, any polynomial of degree ≤ 8 (indeed ≤ 9): the error is a *positive*
combination of three values of `f⁗` inside the panel, with weights summing to `h⁵/90` — the Gauss
rule of the Peano kernel, which makes the textbook bound an algebraic identity -/
theorem poly_panel13_gen (p P : K[X]) (hP : derivative P = p) (hp : p.natDegree ≤ 8) (x h : K) :
    h / 3 * (p.eval x + 4 * p.eval (x + h) + p.eval (x + 2 * h))
      = P.eval (x + 2 * h) - P.eval x
        + h ^ 5 * (13 / 1890 * (derivative^[4] p).eval (x + h)
          + 2 / 945 * ((derivative^[4] p).eval (x + h / 2)
              + (derivative^[4] p).eval (x + 3 * h / 2))) := by
  have hd := natDegree_antiderivative_le p P hP 8 hp
  subst hP
  simpa only [derivative_shift, iterate_derivative_shift, eval_shift, add_zero] using
    panel13_zero (P.comp (X + C x)) ((natDegree_shift_le P x).trans_lt (by omega)) h

/-- Simpson 3/8 panel, degree ≤ 8: positive combination of five values of `f⁗` inside the panel,
weights summing to `3h⁵/80` -/
theorem poly_panel38_gen (p P : K[X]) (hP : derivative P = p) (hp : p.natDegree ≤ 8) (x h : K) :
    3 * h / 8 * (p.eval x + 3 * p.eval (x + h) + 3 * p.eval (x + 2 * h) + p.eval (x + 3 * h))
      = P.eval (x + 3 * h) - P.eval x
        + h ^ 5 * (13 / 1120 * (derivative^[4] p).eval (x + 3 * h / 2)
          + 1 / 96 * ((derivative^[4] p).eval (x + h) + (derivative^[4] p).eval (x + 2 * h))
          + 17 / 6720 * ((derivative^[4] p).eval (x + h / 2)
              + (derivative^[4] p).eval (x + 5 * h / 2))) := by
  have hd := natDegree_antiderivative_le p P hP 8 hp
  subst hP
  simpa only [derivative_shift, iterate_derivative_shift, eval_shift, add_zero] using
    panel38_zero (P.comp (X + C x)) ((natDegree_shift_le P x).trans_lt (by omega)) h

theorem poly_panel13 (p P : K[X]) (hP : derivative P = p) (hp : p.natDegree ≤ 4) (x h : K) :
    h / 3 * (p.eval x + 4 * p.eval (x + h) + p.eval (x + 2 * h))
      = P.eval (x + 2 * h) - P.eval x + h ^ 5 / 90 * (24 * p.coeff 4) := by
  rw [poly_panel13_gen p P hP (by omega), iterate_derivative_four p hp]
  simp only [eval_C]
  ring

theorem poly_panel38 (p P : K[X]) (hP : derivative P = p) (hp : p.natDegree ≤ 4) (x h : K) :
    3 * h / 8 * (p.eval x + 3 * p.eval (x + h) + 3 * p.eval (x + 2 * h) + p.eval (x + 3 * h))
      = P.eval (x + 3 * h) - P.eval x + 3 * h ^ 5 / 80 * (24 * p.coeff 4) := by
  rw [poly_panel38_gen p P hP (by omega), iterate_derivative_four p hp]
  simp only [eval_C]
  ring

theorem trapezoid_cubic {f : K → Except PErr K} (p P : K[X]) (hP : derivative P = p)
    (hp : p.natDegree ≤ 3) (hf : ∀ x, f x = .ok (p.eval x)) (a b : K) (n : ℕ) (hn : 1 ≤ n) :
    trapezoid f a b n = .ok (P.eval b - P.eval a
      + ((b - a) / n) ^ 2 / 12 * ((derivative p).eval b - (derivative p).eval a)) := by
  rw [trapezoid_spec hf a b n hn
    (fun x => P.eval x + ((b - a) / n) ^ 2 / 12 * (derivative p).eval x)
    (fun x => by rw [panelT, poly_panel_trap p P hP hp]; ring)]
  congr 1
  ring

/-- composite Simpson as `definite_integral` arranges it is exact for degree ≤ 3: both panel errors
are multiples of the coefficient of `x⁴` -/
theorem definiteIntegral_exact_cubic {f : K → Except PErr K} (q P : K[X]) (hP : derivative P = q)
    (hq : q.natDegree ≤ 3) (hf : ∀ x, f x = .ok (q.eval x)) (a b : K) (n : ℕ) (hn : 2 ≤ n) :
    definiteIntegral f a b n = .ok (P.eval b - P.eval a) := by
  have c4 : q.coeff 4 = 0 := coeff_eq_zero_of_natDegree_lt (by omega)
  have h13 := fun x h => poly_panel13 _ P hP (show q.natDegree ≤ 4 by omega) x h
  have h38 := fun x h => poly_panel38 _ P hP (show q.natDegree ≤ 4 by omega) x h
  simp only [c4, mul_zero] at h13 h38
  rw [definiteIntegral_spec hf a b n hn (fun x => P.eval x) 0 0 (fun x => h13 x _)
    (fun x => h38 x _)]
  simp

end polyfacts
section bound
variable {K : Type} [Field K] [LinearOrder K] [IsStrictOrderedRing K]

theorem abs_pow_five (h : K) : |h ^ 5| = h ^ 4 * |h| := by
  have h4 : |h| ^ 4 = h ^ 4 := by
    rw [← abs_pow]; exact abs_of_nonneg (by positivity)
  rw [abs_pow, pow_succ, h4]

theorem abs_add_le_add {x y X Y : K} (hx : |x| ≤ X) (hy : |y| ≤ Y) : |x + y| ≤ X + Y :=
  (abs_add_le x y).trans (add_le_add hx hy)

theorem abs_mul_le_mul {w d M : K} (hw : 0 ≤ w) (hd : |d| ≤ M) : |w * d| ≤ w * M := by
  rw [abs_mul, abs_of_nonneg hw]
  exact mul_le_mul_of_nonneg_left hd hw

theorem quad13_bound (h d1 d2 d3 M : K) (h1 : |d1| ≤ M) (h2 : |d2| ≤ M) (h3 : |d3| ≤ M) :
    |h ^ 5 * (13 / 1890 * d1 + 2 / 945 * (d2 + d3))| ≤ h ^ 4 * |h| * (M / 90) := by
  rw [abs_mul, abs_pow_five]
  refine mul_le_mul_of_nonneg_left ((abs_add_le_add (abs_mul_le_mul (by norm_num) h1)
    (abs_mul_le_mul (by norm_num) (abs_add_le_add h2 h3))).trans_eq ?_) (by positivity)
  ring

theorem quad38_bound (h d1 d2 d3 d4 d5 M : K) (h1 : |d1| ≤ M) (h2 : |d2| ≤ M) (h3 : |d3| ≤ M)
    (h4 : |d4| ≤ M) (h5 : |d5| ≤ M) :
    |h ^ 5 * (13 / 1120 * d1 + 1 / 96 * (d2 + d3) + 17 / 6720 * (d4 + d5))|
      ≤ h ^ 4 * |h| * (3 * M / 80) := by
  rw [abs_mul, abs_pow_five]
  refine mul_le_mul_of_nonneg_left ((abs_add_le_add (abs_add_le_add
    (abs_mul_le_mul (by norm_num) h1) (abs_mul_le_mul (by norm_num) (abs_add_le_add h2 h3)))
    (abs_mul_le_mul (by norm_num) (abs_add_le_add h4 h5))).trans_eq ?_) (by positivity)
  ring

theorem convex_mem (a b t : K) (hab : a ≤ b) (t0 : 0 ≤ t) (t1 : t ≤ 1) :
    a ≤ a + t * (b - a) ∧ a + t * (b - a) ≤ b :=
  ⟨le_add_of_nonneg_right (mul_nonneg t0 (sub_nonneg.mpr hab)),
    (add_le_add_right (mul_le_of_le_one_left (sub_nonneg.mpr hab) t1) a).trans_eq (add_sub_cancel a b)⟩

theorem node_mem (a b : K) (n : ℕ) (hn : 0 < n) (s : K) (h0 : 0 ≤ s) (h1 : s ≤ n) :
    min a b ≤ a + s * ((b - a) / n) ∧ a + s * ((b - a) / n) ≤ max a b := by
  have hnpos : (0 : K) < n := Nat.cast_pos.mpr hn
  have t0 : 0 ≤ s / n := div_nonneg h0 hnpos.le
  have t1 : s / n ≤ 1 := (div_le_one hnpos).mpr h1
  rcases le_total a b with hab | hab
  · have e : a + s * ((b - a) / n) = a + s / n * (b - a) := by ring
    rw [min_eq_left hab, max_eq_right hab, e]
    exact convex_mem a b _ hab t0 t1
  · have e : a + s * ((b - a) / n) = b + (1 - s / n) * (a - b) := by ring
    rw [min_eq_right hab, max_eq_left hab, e]
    exact convex_mem b a _ hab (sub_nonneg.mpr t1) (sub_le_self 1 t0)

theorem abs_sum_range_le (E : ℕ → K) (c : K) (q : ℕ) (hE : ∀ i < q, |E i| ≤ c) :
    |∑ i ∈ range q, E i| ≤ q * c := by
  refine (abs_sum_le_sum_abs _ _).trans ?_
  have := sum_le_card_nsmul (range q) (fun i => |E i|) c (fun i hi => hE i (mem_range.mp hi))
  rwa [card_range, nsmul_eq_mul] at this

variable (D : K → K) (a h M : K) (n : ℕ) (hM : 0 ≤ M)
  (hD : ∀ (x : K) (j r : ℕ) (θ : K), x = a + (j + θ) * h → 0 ≤ θ → θ ≤ r → j + r ≤ n → |D x| ≤ M)
include hD

/-- `h⁵ M / 90` is less than two segments' share of the bound, `3 h⁵ M / 80` is three segments' -/
theorem err38_le (b : K) (hb : a + n * h = b) (h3 : 3 ≤ n) :
    |h ^ 5 * (13 / 1120 * D (b - 3 * h + 3 * h / 2)
      + 1 / 96 * (D (b - 3 * h + h) + D (b - 3 * h + 2 * h))
      + 17 / 6720 * (D (b - 3 * h + h / 2) + D (b - 3 * h + 5 * h / 2)))|
      ≤ 3 * (h ^ 4 * |h| * M / 80) := by
  obtain ⟨m, rfl⟩ := Nat.exists_eq_add_of_le' h3
  push_cast at hb
  refine (quad38_bound h _ _ _ _ _ M
    (hD _ m 3 (3 / 2) (by linear_combination -hb) (by norm_num) (by norm_num) le_rfl)
    (hD _ m 3 1 (by linear_combination -hb) (by norm_num) (by norm_num) le_rfl)
    (hD _ m 3 2 (by linear_combination -hb) (by norm_num) (by norm_num) le_rfl)
    (hD _ m 3 (1 / 2) (by linear_combination -hb) (by norm_num) (by norm_num) le_rfl)
    (hD _ m 3 (5 / 2) (by linear_combination -hb) (by norm_num) (by norm_num) le_rfl)).trans_eq ?_
  ring

include hM

theorem err13_le (i : ℕ) (hi : 2 * i + 2 ≤ n) :
    |h ^ 5 * (13 / 1890 * D (a + i * (2 * h) + h)
      + 2 / 945 * (D (a + i * (2 * h) + h / 2) + D (a + i * (2 * h) + 3 * h / 2)))|
      ≤ 2 * (h ^ 4 * |h| * M / 80) := by
  have hA : 0 ≤ h ^ 4 * |h| * M := by positivity
  refine (quad13_bound h _ _ _ M
    (hD _ (2 * i) 2 1 (by push_cast; ring) (by norm_num) (by norm_num) hi)
    (hD _ (2 * i) 2 (1 / 2) (by push_cast; ring) (by norm_num) (by norm_num) hi)
    (hD _ (2 * i) 2 (3 / 2) (by push_cast; ring) (by norm_num) (by norm_num) hi)).trans ?_
  linarith

omit hM hD

/-- **The textbook error bound for every degree ≤ 8**, any integrand function that evaluates the
polynomial `p`, any interval (reversed, empty), any `n ≥ 2` (even, odd, 3) -/
theorem definiteIntegral_error_bound {f : K → Except PErr K} (p P : K[X])
    (hP : derivative P = p) (hp : p.natDegree ≤ 8) (hf : ∀ x, f x = .ok (p.eval x)) (a b M : K)
    (n : ℕ) (hn : 2 ≤ n)
    (hM : ∀ x, min a b ≤ x → x ≤ max a b → |(derivative^[4] p).eval x| ≤ M) :
    ∃ v, definiteIntegral f a b n = .ok v ∧
      |v - (P.eval b - P.eval a)| ≤ |b - a| * ((b - a) / n) ^ 4 * M / 80 := by
  have hnh := step_mul a b (show n ≠ 0 by omega)
  have hM0 : 0 ≤ M := (abs_nonneg _).trans (hM a (min_le_left a b) (le_max_left a b))
  have hD : ∀ (x : K) (j r : ℕ) (θ : K), x = a + (j + θ) * ((b - a) / n) → 0 ≤ θ → θ ≤ r →
      j + r ≤ n → |(derivative^[4] p).eval x| ≤ M := by
    rintro x j r θ rfl h0 h1 hjr
    have hs : (j : K) + θ ≤ n := (add_le_add_right h1 _).trans (by exact_mod_cast hjr)
    have := node_mem a b n (by omega) _ (add_nonneg j.cast_nonneg h0) hs
    exact hM _ this.1 this.2
  refine ⟨_, definiteIntegral_spec_sum hf a b n hn (fun x => P.eval x) _ _
    (fun x => poly_panel13_gen p P hP hp x _) (fun x => poly_panel38_gen p P hP hp x _), ?_⟩
  rw [add_sub_cancel_left]
  generalize (b - a) / (n : K) = h at hD hnh ⊢
  rw [← hnh, abs_mul, Nat.abs_cast]
  have h13 := err13_le (fun x => (derivative^[4] p).eval x) a h M n hM0 hD
  by_cases hpar : n % 2 = 0
  · rw [if_pos hpar]
    refine (abs_sum_range_le _ _ _ fun i hi => h13 i (by omega)).trans_eq ?_
    rw [← cast_half_even (K := K) hpar]
    ring
  · rw [if_neg hpar]
    refine (abs_add_le _ _).trans ((add_le_add (abs_sum_range_le _ _ _ fun i hi => h13 i (by omega))
      (err38_le (fun x => (derivative^[4] p).eval x) a h M n hD b (by linear_combination hnh)
        (by omega))).trans_eq ?_)
    rw [← cast_half_odd (K := K) (show n % 2 = 1 by omega) (by omega)]
    ring

end bound
section repr
variable {K : Type} [Field K]

/-- `p` (of either polynomial type) evaluates, without error, like the Mathlib polynomial `q` -/
def Evaluates (powf : K → K → K) (p : AnyPoly K) (q : K[X]) : Prop :=
  ∀ x, p.evalUni powf x = .ok (q.eval x)

theorem simple_evaluates (powf : K → K → K) (var : Option Char) (cs : List K) :
    Evaluates powf (.simple ⟨cs, var⟩) (ofCoeffs cs) := fun x => by
  simp [AnyPoly.evalUni, evalSimple_eq]

/-- the terms of a univariate `IntermediatePolynomial` in the variable `v` — each `c` or `c·v^k`
with a natural exponent stored as a scalar, in any order, repetitions and zero coefficients allowed —
and the polynomial they denote -/
inductive Denotes (v : String) : List (Term K) → K[X] → Prop
  | nil : Denotes v [] 0
  | const (c : K) {ts : List (Term K)} {q : K[X]} :
      Denotes v ts q → Denotes v (⟨c, []⟩ :: ts) (C c + q)
  | pow (c : K) (k : ℕ) {ts : List (Term K)} {q : K[X]} :
      Denotes v ts q → Denotes v (⟨c, [(v, (k : K))]⟩ :: ts) (C c * X ^ k + q)

/-- the terms `Denotes` admits mention no name but `v`, and their sum form is the value of the
polynomial they denote -/
theorem Denotes.sum_eq (powf : K → K → K) (hpow : ∀ (x : K) (k : ℕ), powf x (k : K) = x ^ k)
    {v : String} {ts : List (Term K)} {q : K[X]} (h : Denotes v ts q) (x : K) :
    (∀ t ∈ ts, ∀ p ∈ t.vars, p.1 ∈ [v]) ∧
      (ts.map fun t => t.coef * (t.vars.map fun p => powf x p.2).prod).sum = q.eval x := by
  induction h with
  | nil => simp
  | const c _ ih =>
    refine ⟨List.forall_mem_cons.2 ⟨fun _ hp => (nomatch hp), ih.1⟩, ?_⟩
    simp only [List.map_cons, List.sum_cons, List.map_nil, List.prod_nil, mul_one, ih.2, eval_add,
      eval_C]
  | pow c k _ ih =>
    refine ⟨List.forall_mem_cons.2 ⟨fun p hp => ?_, ih.1⟩, ?_⟩
    · rw [List.mem_singleton.1 hp]
      exact List.mem_singleton.2 rfl
    · simp only [List.map_cons, List.sum_cons, List.map_nil, List.prod_cons, List.prod_nil, mul_one,
        hpow, ih.2, eval_add, eval_mul, eval_C, eval_pow, eval_X]

/-- an `IntermediatePolynomial` whose terms are `c` or `c·v^k` and whose variable list is `[v]`
evaluates like the polynomial its terms denote, provided `powf` is the power function at natural
exponents (as `f64::powf` is) -/
theorem inter_evaluates (powf : K → K → K) (hpow : ∀ (x : K) (k : ℕ), powf x (k : K) = x ^ k)
    (v : String) (ts : List (Term K)) (q : K[X]) (h : Denotes v ts q) :
    Evaluates powf (.inter ⟨ts, [v]⟩) q := fun x => by
  obtain ⟨hn, hs⟩ := h.sum_eq powf hpow x
  rw [← hs]
  exact evalUni_eq_sum powf ⟨ts, [v]⟩ (Nat.le_refl 1) hn x

/-- a constant `IntermediatePolynomial` (no term has a variable; the variable list is empty, as the
parser leaves it) evaluates like the constant polynomial -/
theorem inter_const_evaluates (powf : K → K → K) (ts : List (Term K))
    (hts : ∀ t ∈ ts, t.vars = []) :
    Evaluates powf (.inter ⟨ts, []⟩) (C (ts.map (·.coef)).sum) := fun x => by
  rw [eval_C, ← List.map_congr_left fun t ht => show t.coef * (t.vars.map fun p => powf x p.2).prod
    = t.coef by rw [hts t ht, List.map_nil, List.prod_nil, mul_one]]
  exact evalUni_eq_sum powf ⟨ts, []⟩ (Nat.zero_le 1)
    (fun t ht p hp => by rw [hts t ht] at hp; exact nomatch hp) x

end repr
end SV.C05
