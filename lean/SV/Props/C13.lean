import SV.Model.C13
import SV.Lemmas.C13
import Mathlib.Data.Matrix.Mul
import Mathlib.Tactic.LinearCombination
import Mathlib.Data.Real.Basic
/-!
# C13 — the power method returns, never panics, and returns a normalised Rayleigh pair

About `SV.C13.power`/`powerCap`/`loop`/`pass`/`rayleigh`/`maxOf`, the generic definitions the driver
runs at `Float` and compares bit for bit with `power_method`.  `power = powerCap
SV.Gen.powerMethodCap` with the cap read from the source (`MAX_ITERATIONS`) on every run of the
check; every theorem is for an arbitrary cap, so a change of the constant cannot break them.

Totality is proved for *every scalar type* (no algebraic law is used, so it covers the `Float`
instance); the facts about a returned pair need a linearly ordered field.  The analytic accuracy
clause is only stated here (`PowerAccuracy`, a `def … : Prop`); its proof over `ℝ` is
`SV.Props.C13Accuracy.power_accuracy`.  Rounding is outside every theorem and rests on the oracle
of the check on symmetric `Q D Qᵀ` inputs.
-/
set_option linter.unusedSectionVars false

namespace SV.Props.C13
open SV SV.C11 SV.C13 Finset Matrix

section total
variable {S : Type} [Inhabited S] [Add S] [Sub S] [Mul S] [Div S] [Neg S] [OfNat S 0] [OfNat S 1]
  [LT S] [DecidableRel (α := S) (· < ·)] [BEq S]

/-- Every product of the loop is a checked product (the `*` operator never falls back to the empty
array) and `as_scalar_unchecked` reads a `1 × 1` array. -/
theorem power_products_conform (n : Nat) (A x : Mat S) (hA : A.h = n ∧ A.w = n ∧ A.WF)
    (hx : x.h = n ∧ x.w = 1 ∧ x.WF) :
    (∃ ax, dot A x = .ok ax ∧ ax.h = n ∧ ax.w = 1 ∧ ax.WF) ∧
    (∃ num, dot x.transpose (mulOp A x) = .ok num ∧ num.h = 1 ∧ num.w = 1 ∧ num.WF) ∧
    (∃ den, dot x.transpose x = .ok den ∧ den.h = 1 ∧ den.w = 1 ∧ den.WF) :=
  rayleigh_shapes n A x hA hx

/-- **Totality.**  For every well-formed input and every cap:
non-square and empty input is `NonSquareMatrix`; a square input of size `n ≥ 1` gives either
`Ok` — from a pass `2 ≤ p ≤ cap` (the first pass is never a stopping pass), with an `n × 1`
eigenvector — or `NoConvergence`; the panic outcome (an `unwrap` of `max()` on an empty array, an
index panic in `as_scalar_unchecked`) is unreachable.  The cap bounds the number of passes, so
the call cannot spin forever. -/
theorem powerCap_total (cap : Nat) (A : Mat S) (es : S) (hA : A.WF) :
    (A.h ≠ A.w ∨ A.h = 0 ∨ A.w = 0 → powerCap cap A es = .err .nonSquare) ∧
    (A.h = A.w → 0 < A.h →
      (∃ lam v p, powerCap cap A es = .ok (lam, v, p) ∧ v.h = A.h ∧ v.w = 1 ∧ v.WF ∧
          2 ≤ p ∧ p ≤ cap) ∨ powerCap cap A es = .err .noConvergence) ∧
    powerCap cap A es ≠ .panic := by
  have hbad : A.h ≠ A.w ∨ A.h = 0 ∨ A.w = 0 → powerCap cap A es = .err .nonSquare :=
    fun h => if_pos h
  by_cases hb : A.h ≠ A.w ∨ A.h = 0 ∨ A.w = 0
  · exact ⟨hbad, fun hsq hpos => by omega, by rw [hbad hb]; nofun⟩
  have hpos : 0 < A.h := by omega
  have hSq : A.HasShape A.h A.h := ⟨rfl, by omega, hA⟩
  obtain ⟨lam0, _, hev, hpc⟩ := powerCap_square A.h hpos A hSq
  rw [hpc]
  by_cases hz : (lam0 == 0) = true
  · rw [if_pos hz]
    exact ⟨fun h => absurd h hb, fun _ _ => Or.inr rfl, nofun⟩
  rw [if_neg hz]
  rcases loop_total A.h hpos A es hSq cap 0 _ lam0 hev with ⟨⟨l, v, p⟩, hr⟩ | hn
  · obtain ⟨_, _, _, ps, c, hlast, _, _, hnv, _⟩ :=
      loop_ok A.h hpos A es hSq cap _ lam0 _ hev hr
    have hC := divS_colVec A.h _ c hnv
    obtain ⟨_, hle, h2⟩ := loop_passes_bounds A es cap 0 _ lam0 l v p hr
    rw [Nat.zero_add] at hle
    cases hlast.result
    rw [hr]
    exact ⟨fun h => absurd h hb,
      fun _ _ => Or.inl ⟨_, _, _, rfl, hC.1, hC.2.1, hC.2.2, h2, hle⟩, nofun⟩
  · rw [hn]
    exact ⟨fun h => absurd h hb, fun _ _ => Or.inr rfl, nofun⟩

/-- the same with the cap the source declares -/
theorem power_total (A : Mat S) (es : S) (hA : A.WF) :
    (A.h ≠ A.w ∨ A.h = 0 ∨ A.w = 0 → power A es = .err .nonSquare) ∧
    (A.h = A.w → 0 < A.h →
      (∃ lam v p, power A es = .ok (lam, v, p) ∧ v.h = A.h ∧ v.w = 1 ∧ v.WF ∧
          2 ≤ p ∧ p ≤ SV.Gen.powerMethodCap) ∨ power A es = .err .noConvergence) ∧
    power A es ≠ .panic :=
  powerCap_total SV.Gen.powerMethodCap A es hA

end total

/-- non-vacuity / sanity, evaluated by the kernel: over `ℤ` (truncating division — totality needs no
field) a 2×2 matrix that returns from pass 2, the zero matrix (normaliser 0 ⇒ `NoConvergence`), a
matrix that runs into the cap; over `ℚ` a 1×1 matrix; a non-square and an empty input -/
example : (match powerCap 50 (⟨2, 2, #[2, 0, 0, 1]⟩ : Mat Int) 1 with
    | .ok (lam, v, p) => lam == 2 && v.a == #[1, 0] && p == 2 | _ => false) = true := by decide +kernel
example : (match powerCap 50 (⟨2, 2, #[0, 0, 0, 0]⟩ : Mat Int) 1 with
    | .err .noConvergence => true | _ => false) = true := by decide +kernel
example : (match powerCap 8 (⟨2, 2, #[0, 1, -1, 0]⟩ : Mat Int) 1 with
    | .err .noConvergence => true | _ => false) = true := by decide +kernel
example : (match powerCap 50 (⟨1, 1, #[2]⟩ : Mat Rat) (1 / 10) with
    | .ok (lam, v, p) => lam == 2 && v.a == #[1] && p == 2 | _ => false) = true := by
  decide +kernel
example : (match powerCap 50 (⟨1, 2, #[1, 2]⟩ : Mat Rat) (1 / 10) with
    | .err .nonSquare => true | _ => false) = true := by decide
example : (match powerCap 50 (⟨0, 0, #[]⟩ : Mat Rat) (1 / 10) with
    | .err .nonSquare => true | _ => false) = true := by decide

section field
variable {K : Type} [Field K] [LinearOrder K] [IsStrictOrderedRing K] [Inhabited K]

/-- the Rayleigh quotient `xᵀAx / xᵀx` of a column vector, written as sums (specification) -/
def rq (n : Nat) (A x : Mat K) : K :=
  (∑ i ∈ range n, x.get i 0 * ∑ k ∈ range n, A.get i k * x.get k 0)
    / (∑ i ∈ range n, x.get i 0 * x.get i 0)

theorem rq_eq_matrix (n : Nat) (A x : Mat K) :
    rq n A x = ((fun i : Fin n => x.get i 0) ⬝ᵥ (A.toMatrix n n) *ᵥ (fun i : Fin n => x.get i 0))
      / ((fun i : Fin n => x.get i 0) ⬝ᵥ (fun i : Fin n => x.get i 0)) := by
  unfold rq dotProduct Matrix.mulVec dotProduct Mat.toMatrix
  rw [Finset.sum_range, Finset.sum_range]
  congr 2
  funext i
  rw [Finset.sum_range]

theorem rq_scale (n : Nat) (A w : Mat K) (c : K) (hc : c ≠ 0) (hw : w.h = n ∧ w.w = 1) :
    rq n A (divS w c) = rq n A w := by
  rw [rq_eq_matrix, rq_eq_matrix]
  exact (congrArg (fun X => (X ⬝ᵥ A.toMatrix n n *ᵥ X) / (X ⬝ᵥ X)) (vec_divS n w c hw.1 hw.2)).trans
    (rq_smul _ _ _ (inv_ne_zero hc))

theorem rayleigh_rq (n : Nat) (A x : Mat K) (hA : A.HasShape n n) (hx : x.HasShape n 1) :
    rayleigh A x = some (rq n A x) :=
  (rayleigh_vec n A x hA hx).trans (congrArg some (rq_eq_matrix n A x).symm)

/-- what an `Ok (lam, v)` comes from: `x` is the previous normalised iterate, `w` the last one, `cw`
its normaliser -/
structure LastIterate (A : Mat K) (es lam : K) (v x w : Mat K) (cw : K) : Prop where
  x_col : x.h = A.h ∧ x.w = 1 ∧ x.WF
  cw_eq : normaliser (mulOp A x) = some cw
  cw_ne : cw ≠ 0
  w_eq : w = divS (mulOp A x) cw
  lam_eq : lam = rq A.h A w
  lam_ne : lam ≠ 0
  change_lt : |(lam - rq A.h A x) / lam| < es
  max_w : maxOf w = some 1
  v_eq : v = divS w 1

theorem power_last_iterate (cap : Nat) (A : Mat K) (es lam : K) (v : Mat K) (p : Nat)
    (hA : A.WF) (h : powerCap cap A es = .ok (lam, v, p)) :
    (A.h = A.w ∧ 0 < A.h) ∧ (2 ≤ p ∧ p ≤ cap) ∧ ∃ x w cw, LastIterate A es lam v x w cw := by
  have hp := powerCap_first_pass_never_stops cap A es lam v p h
  have hsq : ¬(A.h ≠ A.w ∨ A.h = 0 ∨ A.w = 0) := by
    intro hb
    rw [show powerCap cap A es = .err .nonSquare from if_pos hb] at h
    cases h
  have hpos : 0 < A.h := by omega
  have hSq : A.HasShape A.h A.h := ⟨rfl, by omega, hA⟩
  obtain ⟨lam0, _, hev, hpc⟩ := powerCap_square A.h hpos A hSq
  rw [hpc] at h
  by_cases hz : (lam0 == 0) = true
  · rw [if_pos hz] at h
    cases h
  rw [if_neg hz] at h
  obtain ⟨done, x, lamPrev, ps, c, hlast, hx, hrx, hnvC, _⟩ :=
    loop_ok A.h hpos A es hSq cap _ lam0 _ hev h
  obtain ⟨hlam, hv, _⟩ : lam = ps.next ∧ v = divS ps.nv c ∧ p = done + 1 := by
    simpa only [Prod.mk.injEq] using hlast.result
  obtain ⟨hcw, hnv, hrn, heaeq⟩ := pass_spec A x lamPrev ps hlast.pass_eq
  have hc0 : ps.c ≠ 0 := fun e => hlast.c_ne (beq_iff_eq.mpr e)
  -- the last iterate is normalised already, so the final `max()` is 1
  have hmax := (normalised_col A.h _ (mulOp_colVec A.h A x hSq hx) ps.c hcw hc0).2.2
  rw [← hnv, hlast.max_eq] at hmax
  obtain rfl : c = 1 := Option.some.inj hmax
  refine ⟨⟨by omega, hpos⟩, hp, x, ps.nv, ps.c, hx, hcw, hc0, hnv, ?_, ?_, ?_,
    hlast.max_eq, hv⟩
  · rw [hlam]
    exact Option.some.inj (hrn.symm.trans (rayleigh_rq A.h A ps.nv hSq hnvC))
  · rw [hlam]
    exact fun e => hlast.stops.2.1 (beq_iff_eq.mpr e)
  · have hlp : lamPrev = rq A.h A x :=
      Option.some.inj (hrx.symm.trans (rayleigh_rq A.h A x hSq hx))
    rw [hlam, ← hlp, ← sabs_eq_abs, ← heaeq]
    exact hlast.stops.2.2

/-- **The returned pair.**  If the call returns `Ok (λ, v)` (after `p` passes) then
* `v` is `n × 1`, its largest component is **exactly 1** and every component is `≤ 1`;
* `λ` is the Rayleigh quotient `vᵀAv / vᵀv` of the returned vector, a genuine quotient
  (`vᵀv > 0`), and `λ ≠ 0`;
* `2 ≤ p ≤ cap`;
* there are the previous normalised iterate `x` and the last one `w = (A·x) / normaliser(A·x)` (with
  `normaliser(A·x) ≠ 0`) such that `λ` is also the Rayleigh quotient of `w`, the last relative
  change `|(λ − rq x)/λ| < es` is measured against the Rayleigh quotient of `x` (never against the
  estimate from the start vector, since `p ≥ 2`), `max(w) = 1` already — also when no component
  of `A·x` is positive — and `v = w / 1`: the final renormalisation changes nothing.
(A zero normaliser or a zero eigenvalue estimate never leads to `Ok`: the model's IEEE rules,
see `SV.Model.C13`.) -/
theorem power_result_shape (cap : Nat) (A : Mat K) (es lam : K) (v : Mat K) (p : Nat)
    (hA : A.WF) (h : powerCap cap A es = .ok (lam, v, p)) :
    (v.h = A.h ∧ v.w = 1 ∧ v.WF) ∧ (2 ≤ p ∧ p ≤ cap) ∧
    (∃ i, i < A.h ∧ v.get i 0 = 1) ∧ (∀ i, i < A.h → v.get i 0 ≤ 1) ∧
    lam = rq A.h A v ∧ 0 < ∑ i ∈ range A.h, v.get i 0 * v.get i 0 ∧ lam ≠ 0 ∧
    ∃ (x w : Mat K) (cw : K),
      (x.h = A.h ∧ x.w = 1 ∧ x.WF) ∧
      normaliser (mulOp A x) = some cw ∧ cw ≠ 0 ∧ w = divS (mulOp A x) cw ∧
      lam = rq A.h A w ∧ |(lam - rq A.h A x) / lam| < es ∧
      maxOf w = some 1 ∧ v = divS w 1 := by
  obtain ⟨⟨hsq, hpos⟩, hp, x, w, cw, hL⟩ := power_last_iterate cap A es lam v p hA h
  have haxC := mulOp_colVec A.h A x ⟨rfl, hsq.symm, hA⟩ hL.x_col
  obtain ⟨⟨j0, hj0, h1⟩, hle, _⟩ := normalised_col A.h _ haxC cw hL.cw_eq hL.cw_ne
  have hwC : w.HasShape A.h 1 := hL.w_eq ▸ divS_colVec A.h _ cw haxC
  -- the final renormalisation divides by 1
  obtain rfl : v = w := hL.v_eq.trans (divS_one w hwC.2.2)
  rw [← hL.w_eq] at h1 hle
  refine ⟨hwC, hp, ⟨j0, hj0, h1⟩, hle, hL.lam_eq, ?_, hL.lam_ne, x, v, cw, hL.x_col, hL.cw_eq,
    hL.cw_ne, hL.w_eq, hL.lam_eq, hL.change_lt, hL.max_w, hL.v_eq⟩
  have h1le : v.get j0 0 * v.get j0 0 ≤ ∑ i ∈ range A.h, v.get i 0 * v.get i 0 :=
    Finset.single_le_sum (f := fun i => v.get i 0 * v.get i 0)
      (fun i _ => mul_self_nonneg _) (Finset.mem_range.mpr hj0)
  rw [h1, mul_one] at h1le
  exact lt_of_lt_of_le one_pos h1le

end field

/-- **Residual identity** (any field): for `λ` the Rayleigh quotient of `v`,
`‖Av − λv‖² = ‖Av‖² − λ²‖v‖²` — the algebraic half of the a-posteriori error bound (with
`power_result_shape` and `rq_eq_matrix`: it applies to the returned `λ` and the last iterate). -/
theorem rayleigh_residual_identity {F : Type} [Field F] {n : Nat} (A : Matrix (Fin n) (Fin n) F)
    (v : Fin n → F) :
    (A *ᵥ v - ((v ⬝ᵥ A *ᵥ v) / (v ⬝ᵥ v)) • v) ⬝ᵥ (A *ᵥ v - ((v ⬝ᵥ A *ᵥ v) / (v ⬝ᵥ v)) • v)
      = (A *ᵥ v) ⬝ᵥ (A *ᵥ v) - ((v ⬝ᵥ A *ᵥ v) / (v ⬝ᵥ v)) ^ 2 * (v ⬝ᵥ v) := by
  generalize hlam : (v ⬝ᵥ A *ᵥ v) / (v ⬝ᵥ v) = lam
  have e : (A *ᵥ v - lam • v) ⬝ᵥ (A *ᵥ v - lam • v)
      = (A *ᵥ v) ⬝ᵥ (A *ᵥ v) - 2 * lam * (v ⬝ᵥ A *ᵥ v) + lam ^ 2 * (v ⬝ᵥ v) := by
    simp only [sub_dotProduct, dotProduct_sub, smul_dotProduct, dotProduct_smul, smul_eq_mul,
      dotProduct_comm (A *ᵥ v) v]
    ring
  rw [e]
  by_cases h : v ⬝ᵥ v = 0
  · have h0 : lam = 0 := by rw [← hlam, h, div_zero]
    rw [h0]; ring
  · have key : lam * (v ⬝ᵥ v) = v ⬝ᵥ A *ᵥ v := by rw [← hlam]; exact div_mul_cancel₀ _ h
    linear_combination (2 * lam) * key

/-- The analytic accuracy clause (proved: `SV.Props.C13Accuracy.power_accuracy`; the S half of
`./check C13` tests the same clause on the implementation with the same constant `C = 8`): for a
real symmetric matrix with an orthonormal eigenbasis `q`, eigenvalues `d`, a dominant one `d i₁`
with all others at most half its modulus, and the all-ones start vector at cosine at least `3/10`
in modulus to the dominant eigenvector, every tolerance in `[1e-12, 1e-4]` makes the call return a
pair with `‖Av − λv‖ ≤ C√tol·|λ|·‖v‖` and `|λ − λ₁| ≤ C·tol·|λ₁|`. -/
def PowerAccuracy : Prop :=
  ∀ (n : Nat) (A : Mat ℝ) (tol : ℝ), 0 < n → A.h = n → A.w = n → A.WF →
    (∀ i j, i < n → j < n → A.get i j = A.get j i) →
    ∀ (q : Fin n → Fin n → ℝ) (d : Fin n → ℝ) (i₁ : Fin n),
      (∀ a b, ∑ i, q a i * q b i = if a = b then 1 else 0) →
      (∀ a (i : Fin n), ∑ j : Fin n, A.get i j * q a j = d a * q a i) →
      d i₁ ≠ 0 → (∀ a, a ≠ i₁ → |d a| ≤ |d i₁| / 2) →
      (3 / 10 : ℝ) ^ 2 * n ≤ (∑ i, q i₁ i) ^ 2 →
      (1 / 10 ^ 12 : ℝ) ≤ tol → tol ≤ 1 / 10 ^ 4 →
      ∃ lam v p, power A tol = .ok (lam, v, p) ∧
        (∑ i ∈ range n, ((∑ k ∈ range n, A.get i k * v.get k 0) - lam * v.get i 0) ^ 2)
          ≤ 8 ^ 2 * tol * lam ^ 2 * (∑ i ∈ range n, v.get i 0 ^ 2) ∧
        |lam - d i₁| ≤ 8 * tol * |d i₁|

end SV.Props.C13
