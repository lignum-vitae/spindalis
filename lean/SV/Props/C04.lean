import SV.Model.C04
import SV.Lemmas.C04Integral
import SV.Props.C03
import Mathlib.MeasureTheory.Integral.IntervalIntegral.FundThmCalculus
/-!
# C04 — indefinite integrals are antiderivatives; the definite integral is F(b) − F(a)

About the shared model `SV.Model.Poly` — `simpleInteg` (`indefinite_integral_simple`), `integInter`
(`indefinite_integral_intermediate`), `integUni` (the trait wrapper) — and `SV.C04.analytical`
(`analytical_integral`), the definitions the driver runs at `Float`.  The property's "up to rounding" is
proved with rounding error 0 (exact field arithmetic); the rounding envelope is measured by the
check's exact-rational oracle, not proved.
-/
namespace SV.Props.C04
open SV SV.Poly SV.C03 SV.C04 SV.Props.C03 Polynomial

/-- `simple_derivative ∘ indefinite_integral_simple = id` on coefficient lists (characteristic 0: the
divisors `k + 1` are not zero), and the constant of integration is `0`. -/
theorem simple_deriv_integ {K : Type} [Field K] [CharZero K] (cs : List K) :
    simpleDeriv (simpleInteg cs) = cs ∧ (simpleInteg cs).head? = some 0 :=
  ⟨simpleDeriv_simpleInteg cs, rfl⟩

theorem simple_integ_at_zero {K : Type} [Field K] (cs : List K) :
    evalSimple (simpleInteg cs) 0 = 0 := by
  rw [evalSimple_eq]
  simp [simpleInteg, ofCoeffs, ofCoeffsFrom, ofCoeffsFrom_eval_zero]

theorem simple_integ_hasDerivAt (cs : List ℝ) (x : ℝ) :
    HasDerivAt (fun t => evalSimple (simpleInteg cs) t) (evalSimple cs x) x := by
  have h := simple_deriv_hasDerivAt (simpleInteg cs) x
  rwa [(simple_deriv_integ cs).1] at h

section inter
variable {K : Type} [Field K] [LinearOrder K]
set_option linter.unusedSectionVars false

/-- `d/dv ∫ p dv = p` in value, for `v` present, absent or fresh.  `hp0` is used only where a term
carries a literal `v^0`, which comes back without `v`; `v` itself need not be bound. -/
theorem inter_deriv_integ (powf : K → K → K) (hp0 : ∀ x, powf x 0 = 1)
    (p : IPoly K) (hwf : TermsWF p.terms) (v : String)
    (hne : ∀ t ∈ p.terms, ∀ q, (v, q) ∈ t.vars → q ≠ -1)
    (bs : List (String × K)) (hb : ∀ w ∈ termNames p.terms, (lookup bs w).isSome) :
    ∃ y, evalTerms powf p.terms bs = .ok y ∧
      evalTerms powf (partialDeriv (integInter p.terms v).terms v).terms bs = .ok y := by
  have hne' : ∀ t ∈ p.terms, ∀ q, (v, q) ∈ t.vars → q + 1 ≠ 0 :=
    fun t ht q hq h => hne t ht q hq (eq_neg_of_add_eq_zero_left h)
  exact ⟨_, evalTerms_eq powf p.terms bs hb, by
    rw [evalTerms_eq powf _ bs (fun w hw => hb w (termNames_roundtrip v p.terms hwf hne' w hw)),
      polyVal_roundtrip powf hp0 _ v p.terms hwf hne']⟩

/-- … and structurally, when `v` occurs neither as `v^(-1)` nor as a literal `v^0`: the appended `v^1`
is removed again and sortedness restores the original order. -/
theorem inter_deriv_integ_struct (p : IPoly K) (hwf : WF p) (v : String)
    (hne : ∀ t ∈ p.terms, ∀ q, (v, q) ∈ t.vars → q ≠ -1)
    (hn0 : ∀ t ∈ p.terms, ∀ q, (v, q) ∈ t.vars → q ≠ 0) :
    partialDeriv (integInter p.terms v).terms v = p :=
  wf_ext (partialDeriv_wf _ v (integInter_wf p.terms v hwf.1.1).1.1) hwf
    (roundtrip_eq v p.terms hwf.1.1
      (fun t ht q hq h => hne t ht q hq (eq_neg_of_add_eq_zero_left h)) hn0)

/-- The integral by name is `WF` again (a fresh variable is inserted at its sorted position), every
term contains `v` (no constant of integration), no other variable is introduced, and bindings of
`p.variables` and `v` evaluate it. -/
theorem integ_closed (powf : K → K → K) (p : IPoly K) (h : Usable p) (v : String) :
    WF (integInter p.terms v) ∧
    (∀ t ∈ (integInter p.terms v).terms, v ∈ names t.vars) ∧
    (∀ w ∈ (integInter p.terms v).variables, w ∈ p.variables ∨ w = v) ∧
    (∀ bs : List (String × K), (∀ w ∈ p.variables, (lookup bs w).isSome) → (lookup bs v).isSome →
      ∃ y, evalTerms powf (integInter p.terms v).terms bs = .ok y) := by
  have hwf := integInter_wf p.terms v h.1
  refine ⟨hwf, fun t ht => integInter_mem_var ht, ?_, ?_⟩
  · intro w hw
    rcases integInter_names p.terms v w (hwf.2 w hw) with h1 | h1
    · exact Or.inl (h.2.2 w h1)
    · exact Or.inr h1
  · intro bs hbs hv
    refine ⟨_, evalTerms_eq powf _ bs (fun w hw => ?_)⟩
    rcases integInter_names p.terms v w hw with h1 | h1
    · exact hbs w (h.2.2 w h1)
    · rw [h1]; exact hv

/-- the univariate wrapper (a constant is integrated in `x`); the result is `UniOK` again, which is
what `SV.Props.C03.uni_chain_ok` iterates -/
theorem integ_uni_closed (p : IPoly K) (h : UniOK p) :
    ∃ q, integUni p = .ok q ∧ WF q ∧ UniOK q :=
  integUni_ok h.1 h.2

end inter

section analytical
variable {K : Type} [Field K] [LinearOrder K]

omit [LinearOrder K] in
theorem analytical_ok_iff (powf : K → K → K) (p : AnyPoly K) (a b u : K) :
    analytical powf p a b = .ok u ↔
      ∃ F fa fb, p.integUni = .ok F ∧ F.evalUni powf a = .ok fa ∧ F.evalUni powf b = .ok fb ∧
        u = fb - fa :=
  analytical_eq_ok_iff powf p a b u

omit [LinearOrder K] in
/-- additivity over adjacent intervals; `c` need not lie between `a` and `b` -/
theorem analytical_additive (powf : K → K → K) (p : AnyPoly K) (a b c u w : K)
    (h1 : analytical powf p a c = .ok u) (h2 : analytical powf p c b = .ok w) :
    analytical powf p a b = .ok (u + w) := by
  obtain ⟨F, fa, fc, hF, hfa, hfc, rfl⟩ := (analytical_ok_iff powf p a c u).1 h1
  obtain ⟨F', fc', fb, hF', hfc', hfb, rfl⟩ := (analytical_ok_iff powf p c b w).1 h2
  rw [hF] at hF'
  cases hF'
  rw [hfc] at hfc'
  cases hfc'
  exact (analytical_ok_iff powf p a b _).2 ⟨F, fa, fb, hF, hfa, hfb, by ring⟩

omit [LinearOrder K] in
theorem analytical_swap (powf : K → K → K) (p : AnyPoly K) (a b u : K)
    (h : analytical powf p a b = .ok u) : analytical powf p b a = .ok (-u) := by
  obtain ⟨F, fa, fb, hF, hfa, hfb, rfl⟩ := (analytical_ok_iff powf p a b u).1 h
  exact (analytical_ok_iff powf p b a _).2 ⟨F, fb, fa, hF, hfb, hfa, by ring⟩

/-- error cases of `analytical_integral`: none for the dense type; the sparse type is `Ok` on `UniOK`
polynomials and `TooManyVariables` with two or more variables -/
theorem analytical_total (powf : K → K → K) (a b : K) :
    (∀ q : SPoly K, ∃ u, analytical powf (.simple q) a b = .ok u) ∧
    (∀ q : IPoly K, UniOK q → ∃ u, analytical powf (.inter q) a b = .ok u) ∧
    (∀ q : IPoly K, q.variables.length > 1 →
      analytical powf (.inter q) a b = .error .tooManyVariables) := by
  refine ⟨fun q => ⟨_, rfl⟩, ?_, ?_⟩
  · intro q hq
    obtain ⟨F, hF, _, hFok⟩ := integ_uni_closed q hq
    obtain ⟨fa, hfa⟩ := (uni_closed powf F hFok).1 a
    obtain ⟨fb, hfb⟩ := (uni_closed powf F hFok).1 b
    exact ⟨fb - fa, (analytical_ok_iff powf _ a b _).2
      ⟨.inter F, fa, fb, by rw [AnyPoly.integUni, hF]; rfl, hfa, hfb, rfl⟩⟩
  · intro q hq
    simp [analytical, AnyPoly.integUni, integUni, hq, Except.map]

theorem analytical_additive_total (powf : K → K → K) (q : IPoly K) (hq : UniOK q) (a b c : K) :
    ∃ u w, analytical powf (.inter q) a c = .ok u ∧ analytical powf (.inter q) c b = .ok w ∧
      analytical powf (.inter q) a b = .ok (u + w) ∧ analytical powf (.inter q) b a = .ok (-(u + w)) := by
  obtain ⟨u, hu⟩ := (analytical_total powf a c).2.1 q hq
  obtain ⟨w, hw⟩ := (analytical_total powf c b).2.1 q hq
  have h := analytical_additive powf _ a b c u w hu hw
  exact ⟨u, w, hu, hw, h, analytical_swap powf _ a b _ h⟩

end analytical

/-- all real bounds, in either order (fundamental theorem of calculus on `simple_integ_hasDerivAt`) -/
theorem analytical_is_integral (cs : List ℝ) (var : Option Char) (a b : ℝ) :
    analytical Real.rpow (.simple ⟨cs, var⟩) a b = .ok (∫ x in a..b, evalSimple cs x) := by
  have hcont : Continuous fun x => evalSimple cs x := by
    have : (fun x => evalSimple cs x) = fun x => (ofCoeffs cs).eval x := by
      funext x; exact evalSimple_eq cs x
    rw [this]
    exact continuous_iff_continuousAt.2 (fun x => ((ofCoeffs cs).hasDerivAt x).continuousAt)
  have hftc := intervalIntegral.integral_eq_sub_of_hasDerivAt
    (f := fun t => evalSimple (simpleInteg cs) t) (f' := fun x => evalSimple cs x) (a := a) (b := b)
    (fun x _ => simple_integ_hasDerivAt cs x) (hcont.intervalIntegrable a b)
  rw [hftc]
  rfl

/-- The sparse type on positive bounds, in either order: there every real power is differentiable, so
zero, negative and fractional exponents are covered, except `-1`.  `f` is the function
`eval_univariate` computes.  Natural exponents and all real bounds: `SV.Props.C04Natural`. -/
theorem analytical_is_integral_inter (p : IPoly ℝ) (h : UniOK p)
    (hne : ∀ t ∈ p.terms, ∀ w q, (w, q) ∈ t.vars → q ≠ -1) (a b : ℝ) (ha : 0 < a) (hb : 0 < b) :
    ∃ f : ℝ → ℝ, (∀ x, evalUni Real.rpow p x = .ok (f x)) ∧
      analytical Real.rpow (.inter p) a b = .ok (∫ x in a..b, f x) := by
  obtain ⟨hu, h1⟩ := h
  exact ⟨_, evalUni_eq Real.rpow p hu h1 _ (eq_uniVar hu h1),
    analytical_inter_eq_integral p hu h1 a b
      (fun t ht q hq hq1 => hne t ht _ q hq (eq_neg_of_add_eq_zero_left hq1))
      (fun x hx _ _ _ _ => Or.inl (lt_of_lt_of_le (lt_min ha hb) hx.1).ne')⟩

/-- `"3x^2 - 2x + 1"` as the dense parser returns it: integral `x^3 - x^2 + x` -/
example : simpleInteg ([1, -2, 3] : List ℚ) = [0, 1, -1, 1] := by
  norm_num [simpleInteg, integFrom]

/-- `"2xy"` meets the `WF` hypothesis of `inter_deriv_integ_struct` -/
example : WF (⟨[⟨2, [("x", 1), ("y", 1)]⟩], ["x", "y"]⟩ : IPoly ℚ) := by decide

/-- `y^2` integrated in the fresh variable `x`: the new variable is inserted in sorted position -/
example : (integInter [(⟨1, [("y", 2)]⟩ : Term ℚ)] "x").terms.map (fun t => (t.coef, t.vars))
    = [(1, [("x", 1), ("y", 2)])] := by
  have h : sortVars [("y", (2 : ℚ)), ("x", 1)] = [("x", 1), ("y", 2)] := by
    simp [sortVars, List.mergeSort, List.MergeSort.Internal.splitInTwo]
  simp [integInter, integTerm, integVars, h]

/-- the hypotheses of `analytical_is_integral_inter` are satisfiable with a fractional and a negative
exponent: `"x^1/2 - 3x^-2"` over `[1, 4]` -/
example : ∃ f : ℝ → ℝ,
    (∀ x, evalUni Real.rpow ⟨[⟨1, [("x", 1 / 2)]⟩, ⟨-3, [("x", -2)]⟩], ["x"]⟩ x = .ok (f x)) ∧
    analytical Real.rpow (.inter ⟨[⟨1, [("x", 1 / 2)]⟩, ⟨-3, [("x", -2)]⟩], ["x"]⟩) 1 4
      = .ok (∫ x in (1 : ℝ)..4, f x) := by
  refine analytical_is_integral_inter _ ⟨by decide, by decide⟩ ?_ 1 4 one_pos (by norm_num)
  intro t ht w q hq
  simp only [List.mem_cons, List.not_mem_nil, or_false] at ht
  rcases ht with rfl | rfl
  · simp only [List.mem_singleton, Prod.mk.injEq] at hq
    rw [hq.2]; norm_num
  · simp only [List.mem_singleton, Prod.mk.injEq] at hq
    rw [hq.2]; norm_num

end SV.Props.C04
