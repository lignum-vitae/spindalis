import SV.Model.C10
import SV.Lemmas.Mat
import SV.Lemmas.C10
import SV.Props.C09
import Mathlib.LinearAlgebra.Matrix.NonsingularInverse
import Mathlib.LinearAlgebra.Matrix.ToLinearEquiv
/-!
# C10 — the matrix inverse really inverts, on both sides, or says why it cannot

`K` is any linearly ordered field, so the "to within `n·eps·|A||B|`-scaled rounding" clause of the
statement is proved with rounding error 0, for every size and every pivoting pattern (rounding
bounds: `SV.Props.C10Rounding`, `SV.Props.C10Rounding2`).  The same `SV.C10.inverse` runs at `Float`
in the driver (`eps = 2^-52 = f64::EPSILON`), where the check compares it bit for bit with
`Arr2D::inverse`.

`inverse_right` rests on `plu_correct` (`L U = P A`, `P` the permutation matrix of `σ`: row `i` is
`e_{σ i}`), the two substitution-soundness theorems of C08 and the bijectivity of `σ`.  Reading `P`
transposed (`b' = P.get j i`) changes nothing when the pivoting permutation is an involution; the
non-vacuity examples below therefore use a 3-cycle and a 4-cycle.
-/
namespace SV.Props.C10
open SV SV.C09 SV.C10 Finset

variable {K : Type} [Field K] [LinearOrder K] [IsStrictOrderedRing K] [Inhabited K]

omit [IsStrictOrderedRing K] in
theorem inverse_shape {eps : K} {A B : Mat K} (h : inverse eps A = .ok B) :
    A.h = A.w ∧ B.h = A.h ∧ B.w = A.h ∧ B.WF := by
  obtain ⟨h1, h2, h3, h4, _⟩ := inverse_ok_columns h
  exact ⟨h1, h2, h3, h4⟩

/-- C10, right inverse.  `0 < eps` is what makes the accepted pivots non-zero. -/
theorem inverse_right {eps : K} (heps : 0 < eps) {A B : Mat K} (h : inverse eps A = .ok B) :
    A.toMatrix A.h A.h * B.toMatrix A.h A.h = 1 :=
  inverse_toMatrix heps h rfl

theorem inverse_right_entries {eps : K} (heps : 0 < eps) {A B : Mat K}
    (h : inverse eps A = .ok B) (r j : Nat) (hr : r < A.h) (hj : j < A.h) :
    ∑ k ∈ range A.h, A.get r k * B.get k j = if r = j then 1 else 0 :=
  entries_of_toMatrix_mul_eq_one (inverse_right heps h) r j hr hj

theorem inverse_left {eps : K} (heps : 0 < eps) {A B : Mat K} (h : inverse eps A = .ok B) :
    B.toMatrix A.h A.h * A.toMatrix A.h A.h = 1 :=
  mul_eq_one_comm.mp (inverse_right heps h)

theorem inverse_left_entries {eps : K} (heps : 0 < eps) {A B : Mat K}
    (h : inverse eps A = .ok B) (r j : Nat) (hr : r < A.h) (hj : j < A.h) :
    ∑ k ∈ range A.h, B.get r k * A.get k j = if r = j then 1 else 0 :=
  entries_of_toMatrix_mul_eq_one (inverse_left heps h) r j hr hj

theorem inverse_eq_inv {eps : K} (heps : 0 < eps) {A B : Mat K} (h : inverse eps A = .ok B) :
    B.toMatrix A.h A.h = (A.toMatrix A.h A.h)⁻¹ :=
  inverse_inv heps h rfl

theorem inverse_det {eps : K} (heps : 0 < eps) {A B : Mat K} (h : inverse eps A = .ok B) :
    (A.toMatrix A.h A.h).det * (B.toMatrix A.h A.h).det = 1 := by
  rw [← Matrix.det_mul, inverse_right heps h, Matrix.det_one]

theorem inverse_involutive {eps eps' : K} (heps : 0 < eps) (heps' : 0 < eps') {A B A' : Mat K}
    (h : inverse eps A = .ok B) (h' : inverse eps' B = .ok A') :
    A'.toMatrix A.h A.h = A.toMatrix A.h A.h :=
  -- both are `B⁻¹`: `B A' = 1` and `A B = 1`
  (inverse_inv heps' h' (inverse_shape h).2.1).trans (Matrix.inv_eq_left_inv (inverse_right heps h))

/-- `A.WF` is needed for the equality of the buffers: `A'` is tabulated, hence well formed. -/
theorem inverse_involutive_mat {eps eps' : K} (heps : 0 < eps) (heps' : 0 < eps') {A B A' : Mat K}
    (hA : A.WF) (h : inverse eps A = .ok B) (h' : inverse eps' B = .ok A') : A' = A := by
  obtain ⟨hsq, hBh, _, _⟩ := inverse_shape h
  obtain ⟨_, hA'h, hA'w, hA'wf⟩ := inverse_shape h'
  exact eq_of_toMatrix ⟨hA'h.trans hBh, hA'w.trans hBh, hA'wf⟩ ⟨rfl, hsq.symm, hA⟩
    (inverse_involutive heps heps' h h')

omit [IsStrictOrderedRing K] in
theorem inverse_nonsquare (eps : K) (A : Mat K) (h : A.h ≠ A.w) :
    inverse eps A = .err .nonSquare :=
  inverse_of_nonsquare h

omit [IsStrictOrderedRing K] in
/-- no input makes `inverse` panic — not even the empty matrix, for which `back_substitution`
(whose `size - 1` would underflow) is never called -/
theorem inverse_never_panics (eps : K) (A : Mat K) : inverse eps A ≠ .panic :=
  inverse_ne_panic eps A

omit [IsStrictOrderedRing K] in
theorem inverse_empty (eps : K) (A : Mat K) (hh : A.h = 0) (hw : A.w = 0) :
    inverse eps A = .ok ⟨0, 0, #[]⟩ :=
  SV.C10.inverse_empty eps A hh hw

/-- C10 "singular ⇒ `SingularMatrix`", in exact arithmetic only: at `Float` the rounded last pivot of
a singular matrix can stay `≥ eps` (finding F-C10-eps4). -/
theorem inverse_refuses_singular {eps : K} (heps : 0 < eps) (A : Mat K) (hsq : A.h = A.w)
    (hdet : (A.toMatrix A.h A.h).det = 0) : inverse eps A = .err .singular :=
  inverse_of_plu_err hsq (SV.Props.C09.plu_refuses_singular heps A hsq hdet)

theorem inverse_refuses_kernel {eps : K} (heps : 0 < eps) (A : Mat K) (hsq : A.h = A.w)
    (x : Fin A.h → K) (hx : x ≠ 0) (hker : (A.toMatrix A.h A.h).mulVec x = 0) :
    inverse eps A = .err .singular :=
  inverse_of_plu_err hsq (SV.Props.C09.plu_refuses_kernel heps A hsq x hx hker)

theorem inverse_refuses_zero_row {eps : K} (heps : 0 < eps) (A : Mat K) (hsq : A.h = A.w)
    (r : Nat) (hr : r < A.h) (hz : ∀ j, j < A.h → A.get r j = 0) :
    inverse eps A = .err .singular :=
  inverse_of_plu_err hsq (SV.Props.C09.plu_refuses_zero_row heps A hsq r hr hz)

theorem inverse_refuses_zero_column {eps : K} (heps : 0 < eps) (A : Mat K) (hsq : A.h = A.w)
    (c : Nat) (hc : c < A.h) (hz : ∀ i, i < A.h → A.get i c = 0) :
    inverse eps A = .err .singular :=
  inverse_of_plu_err hsq (SV.Props.C09.plu_refuses_zero_column heps A hsq c hc hz)

theorem inverse_refuses_repeated_row {eps : K} (heps : 0 < eps) (A : Mat K) (hsq : A.h = A.w)
    (r s : Nat) (hr : r < A.h) (hs : s < A.h) (hne : r ≠ s)
    (heq : ∀ j, j < A.h → A.get r j = A.get s j) : inverse eps A = .err .singular :=
  inverse_of_plu_err hsq (SV.Props.C09.plu_refuses_repeated_row heps A hsq r s hr hs hne heq)

/-- C10 "or says why it cannot": the outcome kind is decided by the shape and, for a square input,
by the factorisation alone. -/
theorem inverse_errors {eps : K} (heps : 0 < eps) (A : Mat K) :
    (A.h ≠ A.w → inverse eps A = .err .nonSquare) ∧
    (A.h = A.w → (inverse eps A = .err .singular ∧ plu eps A = .err .singular) ∨
        ∃ B, inverse eps A = .ok B) ∧
    (A.h = A.w → (A.toMatrix A.h A.h).det = 0 → inverse eps A = .err .singular) ∧
    inverse eps A ≠ .panic := by
  refine ⟨inverse_nonsquare eps A, ?_, inverse_refuses_singular heps A, inverse_never_panics eps A⟩
  intro hsq
  rcases SV.Props.C09.plu_square_outcome eps A hsq with hs | ⟨L, U, P, hp⟩
  · exact Or.inl ⟨inverse_of_plu_err hsq hs, hs⟩
  · exact Or.inr ⟨_, inverse_of_plu hp⟩

theorem inverse_threshold_mono {eps eps' : K} (hle : eps' ≤ eps) {A B : Mat K}
    (h : inverse eps A = .ok B) : inverse eps' A = .ok B := by
  obtain ⟨L, U, P, hp, rfl⟩ := inverse_ok h
  exact inverse_of_plu (SV.Props.C09.plu_threshold_mono hle hp)

/-- `eps0` depends on `A` (it lies below the pivots of the run); the code's threshold is the constant
`f64::EPSILON`, and regular matrices of small scale are refused with it (`SV.Props.C10Findings`). -/
theorem inverse_accepts_regular (A : Mat K) (hsq : A.h = A.w)
    (hdet : (A.toMatrix A.h A.h).det ≠ 0) :
    ∃ eps0 : K, 0 < eps0 ∧ ∃ B, ∀ eps, 0 < eps → eps ≤ eps0 → inverse eps A = .ok B := by
  obtain ⟨eps0, h0, L, U, P, hplu⟩ := SV.Props.C09.plu_accepts_regular A hsq hdet
  exact ⟨eps0, h0, _, fun eps he hle => inverse_of_plu (hplu eps he hle)⟩

theorem inverse_ok_iff_det_ne_zero (A : Mat K) (hsq : A.h = A.w) :
    ∃ eps0 : K, 0 < eps0 ∧ ∀ eps, 0 < eps → eps ≤ eps0 →
      ((∃ B, inverse eps A = .ok B) ↔ (A.toMatrix A.h A.h).det ≠ 0) :=
  ok_iff_of_refuse_accept
    (fun hdet eps he ⟨B, hB⟩ => by
      rw [inverse_refuses_singular he A hsq (not_not.mp hdet)] at hB
      cases hB)
    fun hdet => by
      obtain ⟨eps0, h0, B, hB⟩ := inverse_accepts_regular A hsq hdet
      exact ⟨eps0, h0, fun eps he hle => ⟨B, hB eps he hle⟩⟩

/-- C10 "the inverse of the inverse returns to `A`", in exact arithmetic and below a threshold that
depends on `B`; with the code's constant threshold it fails at small scales
(`SV.Props.C10Findings.abs_scale_involution_fails`). -/
theorem inverse_roundtrip {eps : K} (heps : 0 < eps) {A B : Mat K} (hA : A.WF)
    (h : inverse eps A = .ok B) :
    ∃ eps0 : K, 0 < eps0 ∧ ∀ eps', 0 < eps' → eps' ≤ eps0 → inverse eps' B = .ok A := by
  obtain ⟨_, hBh, hBw, _⟩ := inverse_shape h
  have hdetB : (B.toMatrix B.h B.h).det ≠ 0 := by
    rw [hBh]
    exact right_ne_zero_of_mul_eq_one (inverse_det heps h)
  obtain ⟨eps0, h0, A', hA'⟩ := inverse_accepts_regular B (hBh.trans hBw.symm) hdetB
  refine ⟨eps0, h0, fun eps' he hle => ?_⟩
  have := hA' eps' he hle
  rw [this, inverse_involutive_mat heps he hA h this]

/-! ### non-vacuity: the hypotheses above are met by concrete runs over `ℚ`

(`decide +kernel` evaluates the model inside the kernel; no axiom is involved.) -/

section examples

/-- `f64::EPSILON` -/
def epsQ : ℚ := 1 / 4503599627370496

theorem epsQ_pos : 0 < epsQ := by norm_num [epsQ]

/-- the matrix of `plu::tests::test_known_solution`: its pivoting permutation is the 3-cycle with
`P = [[0,0,1],[1,0,0],[0,1,0]] ≠ Pᵀ` -/
def A3 : Mat ℚ := ⟨3, 3, #[0, 1, -2, 1, 0, 2, 3, -2, 2]⟩

/-- a 4×4 matrix whose pivoting permutation is a 4-cycle (each row is dominated by the entry right
of the diagonal, cyclically) -/
def A4 : Mat ℚ := ⟨4, 4, #[1, 4, 0, 0, 0, 1, 4, 0, 0, 0, 1, 4, 4, 0, 0, 1]⟩

def arrayOf : Outcome InvErr (Mat ℚ) → Option (Nat × Nat × Array ℚ)
  | .ok b => some (b.h, b.w, b.a)
  | _ => none

def permOf : Outcome DecompErr (Mat ℚ × Mat ℚ × Mat ℚ) → Option (Array ℚ)
  | .ok (_, _, p) => some p.a
  | _ => none

theorem arrayOf_eq_some {r : Outcome InvErr (Mat ℚ)} {h w : Nat} {a : Array ℚ} :
    arrayOf r = some (h, w, a) ↔ r = .ok ⟨h, w, a⟩ := by
  rcases r with ⟨⟨bh, bw, ba⟩⟩ | e | _ <;> simp [arrayOf]

/-- the permutations are what the comments say: not symmetric -/
example : permOf (plu epsQ A3) = some #[0, 0, 1, 1, 0, 0, 0, 1, 0] := by decide +kernel
example : permOf (plu epsQ A4) = some #[0, 0, 0, 1, 1, 0, 0, 0, 0, 1, 0, 0, 0, 0, 1, 0] := by
  decide +kernel

theorem inverse_A3 : arrayOf (inverse epsQ A3) =
    some (3, 3, #[1/2, 1/4, 1/4, 1/2, 3/4, -1/4, -1/4, 3/8, -1/8]) := by decide +kernel

/-- the model computes the exact inverses (checked by hand: `A3 · B3 = 1`, `255 · A4⁻¹` is the
circulant of `(-1, 4, -16, 64)`) -/
example : arrayOf (inverse epsQ A3) =
    some (3, 3, #[1/2, 1/4, 1/4, 1/2, 3/4, -1/4, -1/4, 3/8, -1/8]) := inverse_A3
example : arrayOf (inverse epsQ A4) =
    some (4, 4, #[-1/255, 4/255, -16/255, 64/255, 64/255, -1/255, 4/255, -16/255,
                  -16/255, 64/255, -1/255, 4/255, 4/255, -16/255, 64/255, -1/255]) := by
  decide +kernel

/-- so the hypothesis of `inverse_right` / `inverse_left` / `inverse_involutive` is satisfiable … -/
theorem inverse_ok_example : ∃ B, inverse epsQ A3 = .ok B :=
  ⟨_, arrayOf_eq_some.1 inverse_A3⟩

/-- … the conclusion of `inverse_right` on it … -/
example : ∃ B, inverse epsQ A3 = .ok B ∧ A3.toMatrix 3 3 * B.toMatrix 3 3 = 1 ∧
    B.toMatrix 3 3 * A3.toMatrix 3 3 = 1 := by
  obtain ⟨B, hB⟩ := inverse_ok_example
  exact ⟨B, hB, inverse_right epsQ_pos hB, inverse_left epsQ_pos hB⟩

/-- … the second inversion of `inverse_involutive` succeeds as well and returns `A3` … -/
example : ∃ B, inverse epsQ A3 = .ok B ∧
    (match inverse epsQ B with | .ok A' => A'.a = A3.a | _ => False) := by
  have h2 : arrayOf (inverse epsQ ⟨3, 3, #[1/2, 1/4, 1/4, 1/2, 3/4, -1/4, -1/4, 3/8, -1/8]⟩) =
      some (3, 3, #[0, 1, -2, 1, 0, 2, 3, -2, 2]) := by decide +kernel
  refine ⟨_, arrayOf_eq_some.1 inverse_A3, ?_⟩
  rw [arrayOf_eq_some.1 h2]
  rfl

/-- … the hypothesis of `inverse_accepts_regular` holds for it … -/
example : (A3.toMatrix A3.h A3.h).det ≠ 0 := by
  obtain ⟨B, hB⟩ := inverse_ok_example
  exact left_ne_zero_of_mul_eq_one (inverse_det epsQ_pos hB)

/-- … and the error branches are reached: a repeated row, a zero column, a non-square shape, the
empty matrix -/
example : inverse epsQ ⟨3, 3, #[1, 2, -1, 2, 0, 1, 1, 2, -1]⟩ = .err .singular :=
  inverse_refuses_repeated_row epsQ_pos _ rfl 0 2 (by decide) (by decide) (by decide)
    (by decide +kernel)
example : inverse epsQ ⟨2, 2, #[0, 1, 0, 2]⟩ = .err .singular :=
  inverse_refuses_zero_column epsQ_pos _ rfl 0 (by decide) (by decide +kernel)
example : inverse epsQ ⟨2, 3, #[1, 2, 3, 4, 5, 6]⟩ = .err .nonSquare :=
  inverse_nonsquare _ _ (by decide)
example : inverse epsQ ⟨0, 3, #[]⟩ = .err .nonSquare := inverse_nonsquare _ _ (by decide)
example : inverse epsQ ⟨0, 0, #[]⟩ = .ok ⟨0, 0, #[]⟩ := inverse_empty _ _ rfl rfl

end examples

end SV.Props.C10
