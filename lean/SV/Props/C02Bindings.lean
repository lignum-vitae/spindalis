import SV.Lemmas.Sparse
import SV.Lemmas.C02Agree
import SV.Props.C02
/-!
# C02 — the multivariate evaluation sees the bindings only as a finite map, and is a sum over terms

`Poly.evalTerms` (model of `eval_intermediate_polynomial`) receives a *list* of bindings
`(name, value)`; the Rust code collects it into a `HashMap`.  The theorems here say that nothing else
of the list matters (the lemmas about `lookup` and the evaluator that the proofs use are in
`SV.Lemmas.Sparse`):

* `lookup_nil`, `lookup_snoc` — the model's `lookup` *is* the map built by inserting the bindings in
  order (a later binding of a name replaces an earlier one);
* `evalTerms_congr_lookup` (1) — two binding lists that agree as maps give the same outcome, value
  or error, for every term list and every power function (`evalTerms_congr_on_names`: it is enough that
  they agree on the names that occur in the polynomial);
* `evalTerms_perm_bindings` (1a) — permuting a binding list with pairwise distinct names changes
  nothing; `evalTerms_insert_unused` (1b) — nor does a binding, anywhere in the list, of a name that does not
  occur in the polynomial;
* `evalTerms_other_name_is_error`, `evalTerms_case_sensitive` (1c) — names are compared exactly: a
  binding of `"X"` is not a binding of `"x"`, although the two letters agree in `letter & 0x1f` (so a
  table with 32 slots indexed that way is not an implementation of this function);
* `evalTerms_append` (2) — evaluation of `ts₁ ++ ts₂` is the sum of the two evaluations, the first
  error in term order otherwise; `evalTerms_perm_terms` — in a commutative semiring a permutation of
  the terms does not change a successful value, nor the fact of success.
-/
namespace SV.Props.C02Bindings
open SV SV.Poly

section Lookup
variable {S : Type}

/-- The empty binding list binds nothing. -/
theorem lookup_nil (w : String) : lookup ([] : List (String × S)) w = none := rfl

/-- **Duplicate rule: the last binding wins.**  Appending one more binding is `HashMap::insert`: the
new name is now bound to the new value whatever it was bound to before, every other name keeps its
binding.  With `lookup_nil` this determines `lookup` completely — it is the map obtained by inserting
the bindings in list order. -/
theorem lookup_snoc (σ : List (String × S)) (n : String) (x : S) (w : String) :
    lookup (σ ++ [(n, x)]) w = if n = w then some x else lookup σ w :=
  Poly.lookup_snoc σ n x w

end Lookup

section Congr
variable {S : Type} [Add S] [Mul S] [OfNat S 0]

/-- **(1), sharp form.**  If two binding lists bind every name *that occurs in the polynomial* to
the same value (or both leave it unbound), the evaluation outcome — the value, or the
`VariableNotFound` error with its name — is the same.  Any scalar type, any power function. -/
theorem evalTerms_congr_on_names (powf : S → S → S) (ts : List (Term S)) (σ₁ σ₂ : List (String × S))
    (h : ∀ t ∈ ts, ∀ p ∈ t.vars, lookup σ₁ p.1 = lookup σ₂ p.1) :
    evalTerms powf ts σ₁ = evalTerms powf ts σ₂ :=
  evalTermsFrom_congr powf (lookup σ₁) (lookup σ₂) ts 0 h

/-- **(1) The evaluation depends on the binding list only as a finite map.**  Two binding lists with
the same `lookup` for every name (the last binding of a repeated name counts, see `lookup_snoc`) give
the same outcome, value or error, for every term list.  Order, repetition and length of the list are
invisible. -/
theorem evalTerms_congr_lookup (powf : S → S → S) (ts : List (Term S)) (σ₁ σ₂ : List (String × S))
    (h : ∀ w, lookup σ₁ w = lookup σ₂ w) : evalTerms powf ts σ₁ = evalTerms powf ts σ₂ :=
  evalTerms_congr_on_names powf ts σ₁ σ₂ (fun _ _ p _ => h p.1)

/-- **(1a) Permuting the bindings.**  If the names in the binding list are pairwise distinct, any
permutation of the list gives the same outcome (value or error). -/
theorem evalTerms_perm_bindings (powf : S → S → S) (ts : List (Term S)) (σ₁ σ₂ : List (String × S))
    (hp : σ₁.Perm σ₂) (hnd : (σ₁.map (·.1)).Nodup) :
    evalTerms powf ts σ₁ = evalTerms powf ts σ₂ :=
  evalTerms_congr_lookup powf ts σ₁ σ₂ (lookup_perm σ₁ σ₂ hp hnd)

/-- **(1b) An unused binding.**  A binding of a name that does not occur in the polynomial, inserted
anywhere in the binding list (in front, at the end, in between; whether or not the name is bound
already), does not change the outcome. -/
theorem evalTerms_insert_unused (powf : S → S → S) (ts : List (Term S)) (a b : List (String × S))
    (n : String) (x : S) (hn : ∀ t ∈ ts, ∀ p ∈ t.vars, p.1 ≠ n) :
    evalTerms powf ts (a ++ (n, x) :: b) = evalTerms powf ts (a ++ b) :=
  evalTerms_congr_on_names powf ts _ _
    (fun t ht p hp => lookup_insert_other a b n x p.1 (fun e => hn t ht p hp e.symm))

/-- Repeating a name: only its last binding is seen — every earlier binding of the same name can be
removed from the list without changing the outcome. -/
theorem evalTerms_shadowed (powf : S → S → S) (ts : List (Term S)) (a b c : List (String × S))
    (n : String) (x y : S) :
    evalTerms powf ts (a ++ (n, x) :: b ++ (n, y) :: c) = evalTerms powf ts (a ++ b ++ (n, y) :: c) := by
  apply evalTerms_congr_lookup
  intro w
  by_cases hw : n = w
  · have e1 : a ++ (n, x) :: b ++ (n, y) :: c = (a ++ (n, x) :: b) ++ ([(n, y)] ++ c) := by simp
    have e2 : a ++ b ++ (n, y) :: c = (a ++ b) ++ ([(n, y)] ++ c) := by simp
    rw [e1, e2, lookup_append, lookup_append _ ([(n, y)] ++ c), lookup_append [(n, y)] c,
      lookup_single, if_pos hw]
    cases lookup c w <;> simp
  · have e1 : a ++ (n, x) :: b ++ (n, y) :: c = a ++ (n, x) :: (b ++ (n, y) :: c) := by simp
    have e2 : a ++ b ++ (n, y) :: c = a ++ (b ++ (n, y) :: c) := by simp
    rw [e1, e2, lookup_insert_other _ _ _ _ _ hw]

end Congr

section Exact
variable {R : Type} [CommSemiring R]

/-- **(1c) A binding of another name is no binding.**  If the polynomial uses the name `n` and no
binding in the list has exactly the name `n` (whatever else the list binds — names that differ from
`n` only in case, names with the same hash, the same `letter & 0x1f`, …), the outcome is the
`VariableNotFound` error of an unbound name — never a number. -/
theorem evalTerms_other_name_is_error (powf : R → R → R) (ts : List (Term R)) (σ : List (String × R))
    (n : String) (huse : ∃ t ∈ ts, ∃ p ∈ t.vars, p.1 = n) (hσ : ∀ b ∈ σ, b.1 ≠ n) :
    ∃ v, evalTerms powf ts σ = .error (.variableNotFound v) ∧ lookup σ v = none := by
  obtain ⟨t, ht, p, hp, hn⟩ := huse
  exact SV.Props.C02.eval_missing_is_error powf ts σ
    ⟨t, ht, p, hp, by rw [hn]; exact lookup_none_of_not_mem σ n hσ⟩

private theorem singleton_ne {a b : Char} (h : a ≠ b) : String.singleton b ≠ String.singleton a := by
  intro e
  apply h
  have := congrArg String.toList e
  simpa using this.symm

/-- **(1c) for one-letter names** (all names the parser produces, `SV.Props.C02.parse_ok_variables_ascii`):
a polynomial that uses the letter `a`, evaluated with only a *different* character `b` bound, is the
missing-variable error.  In particular for `a = 'x'`, `b = 'X'`, which a table indexed by
`letter & 0x1f` cannot tell apart (`x_X_same_slot`). -/
theorem evalTerms_case_sensitive (powf : R → R → R) (ts : List (Term R)) (a b : Char) (hab : a ≠ b)
    (x : R) (huse : ∃ t ∈ ts, ∃ p ∈ t.vars, p.1 = String.singleton a) :
    ∃ v, evalTerms powf ts [(String.singleton b, x)] = .error (.variableNotFound v) ∧
      lookup [(String.singleton b, x)] v = none := by
  apply evalTerms_other_name_is_error powf ts _ _ huse
  intro p hp
  simp only [List.mem_cons, List.not_mem_nil, or_false] at hp
  subst hp
  exact singleton_ne hab

/-- `'x'` and `'X'` are different characters with the same five low bits (slot 24 of a 32-slot
table indexed by `letter & 0x1f`) — as are `'a'`/`'A'`, …, `'z'`/`'Z'`. -/
theorem x_X_same_slot : 'x' ≠ 'X' ∧ 'x'.toNat &&& 0x1f = 'X'.toNat &&& 0x1f := by decide

/-- **`c·x^e + …` with only `X` bound is `VariableNotFound("x")`**, for every coefficient, exponent,
value bound to `X`, every further factor and term, every power function. -/
theorem evalTerms_x_with_X_bound {S : Type} [Add S] [Mul S] [OfNat S 0] (powf : S → S → S)
    (c e val : S) (vs : List (String × S)) (ts : List (Term S)) :
    evalTerms powf (⟨c, ("x", e) :: vs⟩ :: ts) [("X", val)] = .error (.variableNotFound "x") :=
  evalTerms_first_unbound powf c e "x" vs ts _ (by rw [lookup_single, if_neg (by decide)])

end Exact

section Sum
variable {R : Type} [Semiring R]

/-- **(2) Evaluation is a sum over the terms.**  The outcome for `ts₁ ++ ts₂` is: the error of `ts₁`
if `ts₁` fails; otherwise the error of `ts₂` if `ts₂` fails (terms are visited in order, so the error
reported is the first one in term order); otherwise the sum of the two values.  Any semiring, any
power function, any bindings. -/
theorem evalTerms_append (powf : R → R → R) (ts₁ ts₂ : List (Term R)) (σ : List (String × R)) :
    evalTerms powf (ts₁ ++ ts₂) σ =
      match evalTerms powf ts₁ σ with
      | .error e => .error e
      | .ok a =>
        match evalTerms powf ts₂ σ with
        | .error e => .error e
        | .ok b => .ok (a + b) := by
  unfold evalTerms
  rw [evalTermsFrom_append]
  cases h : evalTermsFrom powf (lookup σ) 0 ts₁ with
  | error e => rfl
  | ok a =>
    simp only
    rw [evalTermsFrom_acc]
    cases evalTermsFrom powf (lookup σ) 0 ts₂ <;> rfl

/-- When both parts evaluate, the whole evaluates to the sum. -/
theorem evalTerms_append_ok (powf : R → R → R) (ts₁ ts₂ : List (Term R)) (σ : List (String × R))
    (a b : R) (h₁ : evalTerms powf ts₁ σ = .ok a) (h₂ : evalTerms powf ts₂ σ = .ok b) :
    evalTerms powf (ts₁ ++ ts₂) σ = .ok (a + b) := by
  rw [evalTerms_append, h₁, h₂]

/-- The whole evaluates only if both parts do (no part's failure is swallowed), and then its value
is the sum of theirs. -/
theorem evalTerms_append_ok_iff (powf : R → R → R) (ts₁ ts₂ : List (Term R)) (σ : List (String × R))
    (c : R) : evalTerms powf (ts₁ ++ ts₂) σ = .ok c ↔
      ∃ a b, evalTerms powf ts₁ σ = .ok a ∧ evalTerms powf ts₂ σ = .ok b ∧ c = a + b := by
  simp only [evalTerms_eq_ok_iff, bound_append, List.map_append, List.sum_append]
  constructor
  · rintro ⟨⟨h1, h2⟩, rfl⟩
    exact ⟨_, _, ⟨h1, rfl⟩, ⟨h2, rfl⟩, rfl⟩
  · rintro ⟨a, b, ⟨h1, rfl⟩, ⟨h2, rfl⟩, rfl⟩
    exact ⟨⟨h1, h2⟩, rfl⟩

end Sum

section PermTerms
variable {R : Type} [CommSemiring R]

/-- **Permuting the terms** (commutative semiring): a permutation of the term list evaluates
successfully exactly when the original does, and to the same value.  (When they fail, both fail with
`VariableNotFound`, but the name reported may differ: it is the first unbound one in term order.) -/
theorem evalTerms_perm_terms (powf : R → R → R) (ts₁ ts₂ : List (Term R)) (hp : ts₁.Perm ts₂)
    (σ : List (String × R)) (a : R) :
    evalTerms powf ts₁ σ = .ok a ↔ evalTerms powf ts₂ σ = .ok a := by
  rw [evalTerms_eq_ok_iff, evalTerms_eq_ok_iff, Bound.perm hp, (hp.map _).sum_eq]

/-- Permuting the terms of a polynomial whose evaluation fails: the permuted one fails too, with
`VariableNotFound` of some unbound name. -/
theorem evalTerms_perm_terms_error (powf : R → R → R) (ts₁ ts₂ : List (Term R)) (hp : ts₁.Perm ts₂)
    (σ : List (String × R)) (e : PErr) (h : evalTerms powf ts₁ σ = .error e) :
    ∃ v, evalTerms powf ts₂ σ = .error (.variableNotFound v) ∧ lookup σ v = none := by
  cases h2 : evalTerms powf ts₂ σ with
  | ok a =>
    rw [evalTerms_eq_ok_iff, ← Bound.perm hp, ← (hp.map _).sum_eq, ← evalTerms_eq_ok_iff, h] at h2
    cases h2
  | error e' =>
    obtain ⟨v, rfl, hv⟩ := evalTerms_error powf ts₂ σ e' h2
    exact ⟨v, rfl, hv⟩

end PermTerms

section Parsed
open SV.Text SV.C02Agree

/-- **(1c) end to end.**  For every text the parser model accepts, every name `n` in the variable list
it returns, and every binding list in which no binding is named exactly `n` — e.g. the text uses `x`
and the caller binds `X` — `eval_intermediate_polynomial` of the parsed polynomial (numbers read in
any field `K`) is the `VariableNotFound` error of an unbound name; it is never a number. -/
theorem parsed_eval_other_name_is_error {K : Type} [Field K] (powf : K → K → K) (cc : CharClass)
    (s : List Char) (p : C02.IParsed) (hp : C02.parse cc s = .ok p) (n : String)
    (hn : n ∈ p.variables) (σ : List (String × K)) (hσ : ∀ b ∈ σ, b.1 ≠ n) :
    ∃ v, evalTerms powf (instPoly K p).terms σ = .error (.variableNotFound v) ∧
      lookup σ v = none := by
  obtain ⟨t, ht, q, hq, hname⟩ := ((SV.Props.C02.parse_canonical cc s p hp).2.2.2 n).1 hn
  apply evalTerms_other_name_is_error powf _ σ n _ hσ
  exact ⟨instTerm K t, List.mem_map.2 ⟨t, ht, rfl⟩, (q.1, numK K q.2),
    List.mem_map.2 ⟨q, hq, rfl⟩, hname⟩

end Parsed

private def qpow (x e : ℚ) : ℚ := x ^ e.num.toNat

/-- `2·x²·y + 1` with `x ↦ 3, y ↦ 5` and then `x ↦ 1` again: the last binding of `x` is used. -/
example : evalTerms qpow [⟨2, [("x", 2), ("y", 1)]⟩, ⟨1, []⟩] [("x", 3), ("y", 5), ("x", 1)]
    = .ok 11 := by
  simp [evalTerms, evalTermsFrom, termValue, lookup, qpow]
  norm_num

/-- the same value with the bindings in another order and an unused `z` (instances of (1a), (1b)) -/
example : evalTerms qpow [⟨2, [("x", 2), ("y", 1)]⟩, ⟨1, []⟩] [("y", 5), ("z", 7), ("x", 1)]
    = evalTerms qpow [⟨2, [("x", 2), ("y", 1)]⟩, ⟨1, []⟩] [("x", 1), ("y", 5)] := by
  have h := evalTerms_insert_unused qpow [⟨2, [("x", 2), ("y", 1)]⟩, ⟨1, []⟩]
    [("y", 5)] [("x", 1)] "z" 7 (by decide)
  rw [show [("y", (5 : ℚ))] ++ ("z", (7 : ℚ)) :: [("x", (1 : ℚ))] = [("y", 5), ("z", 7), ("x", 1)] from rfl] at h
  rw [h]
  exact evalTerms_perm_bindings qpow _ _ _ (List.Perm.swap _ _ _) (by decide)

/-- `2·x²` with only `X` bound: the missing-variable error for `x`, not `2·5²`. -/
example : evalTerms qpow [⟨2, [("x", 2)]⟩] [("X", 5)] = .error (.variableNotFound "x") :=
  evalTerms_x_with_X_bound qpow 2 2 5 [] []

end SV.Props.C02Bindings
