import SV.Lemmas.C19Eval
/-!
# C19 — constant folding never changes a finite value

`eval S e : Option K` (`SV.Lemmas.C19Eval`) evaluates a tree over an ordered field `K`; `none` means
"not finite" (division by zero, a power / function / `!` / `%` outside its domain).  Variables, named
constants, the functions, `!`, `%` and the power are parameters of `S : Sem K`; the only facts assumed are
`S.PowLaws`: `pow x 0 = 1` for every `x` and `pow 0 y = 0` for `0 < y` (true of `f64::powf`).
-/
namespace SV.Props.C19Fold
open SV SV.Text SV.C19

section
variable {K : Type} [Field K] [LinearOrder K]

/-- **Constant folding never changes the value of an expression whose unfolded value is finite.**
For every tree `e` (not only those the parser returns): if `e` evaluates to `v` — so every subterm is
defined — then the folded tree evaluates to `v` as well. -/
theorem fold_sound (S : Sem K) (hS : S.PowLaws) (e : Expr K) (v : K) (h : eval S e = some v) :
    eval S (fold (fieldTests K) e) = some v := by
  induction e generalizing v with
  | num | var | const | func | pre | post => exact h
  | bin o l r p ihl ihr =>
    obtain ⟨a, b, hl, hr, hv⟩ := eval_bin_some h
    rw [fold_bin, foldStep_eval S hS (ihl a hl) (ihr b hr), hv]

end

/-- The same for the driver's instance: literals are exact decimals, the tests `== 0`, `== 1`, `> 0` are
decided on the decimal, the values are read in `ℚ`. -/
theorem fold_sound_dec (S : Sem ℚ) (hS : S.PowLaws) (e : Expr Dec) (v : ℚ)
    (h : eval S (e.map Dec.val) = some v) : eval S ((fold decTests e).map Dec.val) = some v := by
  rw [fold_map decTests_agree]
  exact fold_sound S hS _ v h

/-- a partial power on `ℚ`: integer exponents (negative ones for a non-zero base), and `0^y` for every
rational `y ≥ 0` -/
def powQ (x y : ℚ) : Option ℚ :=
  if x = 0 then (if 0 < y then some 0 else if y = 0 then some 1 else none)
  else if y.den = 1 then some (x ^ y.num) else none

/-- a semantics over `ℚ` with that power, no function, `!` on nothing, `%` on nothing -/
def semQ (ρ : String → ℚ) : Sem ℚ where
  var := ρ
  const _ := 3
  fn _ _ := none
  fac _ := none
  rem _ _ := none
  pow := powQ

theorem powLaws_satisfiable (ρ : String → ℚ) : (semQ ρ).PowLaws where
  pow_zero x := by
    by_cases hx : x = 0 <;> simp [semQ, powQ, hx]
  zero_pow y hy := by simp [semQ, powQ, hy]

/-- `fold_operations` with the rule `0^e ⇒ 0` applied to every `e`, not only to a positive literal
(defect D28 of DESIGN.md §5) -/
def foldUnrestricted {N : Type} (nt : NumTests N) : Expr N → Expr N
  | .bin o l r p =>
    let l := foldUnrestricted nt l
    let r := foldUnrestricted nt r
    if o = .mul ∧ isNumZero nt l then .num nt.zero
    else if o = .mul ∧ isNumZero nt r then .num nt.zero
    else if o = .caret ∧ isNumZero nt r then .num nt.one
    else if o = .caret ∧ isNumZero nt l then .num nt.zero
    else if o = .add ∧ isNumZero nt l then r
    else if o = .add ∧ isNumZero nt r then l
    else if o = .sub ∧ isNumZero nt r then l
    else if o = .sub ∧ isNumZero nt l then .pre .sub r
    else if o = .div ∧ isNumOne nt r then l
    else .bin o l r p
  | e => e

/-- `0^(1-1)`: finite value 1, folded by the unrestricted rule to 0 -/
def zeroPowOneMinusOne : Expr ℚ := .bin .caret (.num 0) (.bin .sub (.num 1) (.num 1) true) false

/-- With the unrestricted rule folding is unsound — the tree `0^(1-1)` evaluates to 1 and its fold to 0;
`fold` leaves the tree alone. -/
theorem fold_zero_pow_unrestricted_unsound (ρ : String → ℚ) :
    eval (semQ ρ) zeroPowOneMinusOne = some 1 ∧
    eval (semQ ρ) (foldUnrestricted (fieldTests ℚ) zeroPowOneMinusOne) = some 0 ∧
    fold (fieldTests ℚ) zeroPowOneMinusOne = zeroPowOneMinusOne := by
  refine ⟨?_, ?_, ?_⟩
  · simp [zeroPowOneMinusOne, eval, binop, (powLaws_satisfiable ρ).pow_zero]
  · simp [zeroPowOneMinusOne, foldUnrestricted, isNumZero, isNumOne, fieldTests, eval]
  · simp [zeroPowOneMinusOne, fold_bin, fold_num, foldStep, isNumZero, isNumPos, fieldTests]

/-- `0 * (1/0)` -/
def zeroTimesInfinity : Expr ℚ := .bin .mul (.num 0) (.bin .div (.num 1) (.num 0) true) false

/-- The finiteness hypothesis of `fold_sound` is needed: `0 * (1/0)` has no finite value and folds to 0. -/
theorem fold_needs_finite (ρ : String → ℚ) :
    eval (semQ ρ) zeroTimesInfinity = none ∧
    eval (semQ ρ) (fold (fieldTests ℚ) zeroTimesInfinity) = some 0 := by
  constructor
  · simp [zeroTimesInfinity, eval, binop]
  · simp [zeroTimesInfinity, fold, isNumZero, fieldTests, eval]

/-! non-vacuity: a tree on which several rules fire, with its value kept -/

example (ρ : String → ℚ) :
    let e : Expr ℚ := .bin .add (.bin .mul (.num 0) (.var "x") false)
      (.bin .div (.bin .caret (.var "y") (.num 0) false) (.num 1) false) false
    eval (semQ ρ) e = some 1 ∧ fold (fieldTests ℚ) e = .num 1 := by
  constructor
  · simp [eval, binop, (powLaws_satisfiable ρ).pow_zero]
  · simp [fold, isNumZero, isNumOne, isNumPos, fieldTests]

example : fold decTests (.bin .sub (.num ⟨false, 0, 0⟩) (.var "x") false) = .pre .sub (.var "x") := by
  rfl

end SV.Props.C19Fold
