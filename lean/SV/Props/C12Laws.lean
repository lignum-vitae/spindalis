import SV.Model.C12
import SV.Lemmas.C12
import SV.Props.C12
/-!
# C12 — algebraic laws of the flat-buffer model `Arr` of `Arr2D<T>`, for every shape at once

Transpose twice, row swaps, reshape round trips and `map`, as statements about the concrete model
(`step`, `obs` on `Arr`, the functions tied to the Rust code), for every array whose hidden buffer has
`height * width` items (`R s g` for some grid `g`; by `consistent_iff_exists_grid` this is the invariant
`inv_run` proves of every reachable array), of every shape and every element type.  A transpose that
is correct for heights up to 64 and wrong above (a blocked variant with a faulty block boundary, say)
contradicts `transpose_involution` and `transpose_at2` at every height above 64; no finite test
settles them.

Proof route: `R s g` says `s = Arr.ofGrid g` (`R_iff_ofGrid`); `step_ofGrid` rewrites every step into
a step of the grid, where the laws are one-liners; and grids with the same cells inside the shape are
stored as the same array (`Arr.ofGrid_ext`).
-/
namespace SV.Props.C12Laws
open SV.C12 SV.Props.C12

variable {α : Type}

/-- the grid a consistent array shows (`d` only fills the cells outside the buffer, which `R` never
looks at) -/
def gridOf (d : α) (s : Arr α) : Grid α :=
  ⟨s.height, s.width, fun r c => (s.inner[r * s.width + c]?).getD d⟩

theorem R_gridOf (d : α) (s : Arr α) (hc : s.inner.length = s.height * s.width) : R s (gridOf d s) :=
  ⟨rfl, rfl, hc, fun _ _ hr hcw => getElem?_eq_some_getD (hc ▸ idx_lt hr hcw) d⟩

/-- The hypothesis `R s g` of all the laws below says no more than the invariant of `Arr2D` (the
buffer has `height * width` items; `SV.Props.C12.inv_run`: true after every constructor and every
operation sequence): every such array is related to a grid, for every non-empty element type. -/
theorem consistent_iff_exists_grid [Nonempty α] (s : Arr α) :
    s.inner.length = s.height * s.width ↔ ∃ g, R s g :=
  ⟨fun hc => ⟨gridOf (Classical.choice ‹Nonempty α›) s, R_gridOf _ s hc⟩, fun ⟨_, h⟩ => h.2.2.1⟩

/-- `op` is one of the two transposes of `Arr2D`: the copying `transpose()` or `transpose_mut()` -/
def IsTranspose (op : Op α) : Prop := op = .transpose ∨ op = .transposeMut

theorem step_transpose {op : Op α} (ht : IsTranspose op) (s : Arr α) : step s op = s.transpose := by
  rcases ht with rfl | rfl
  · rfl
  · exact s.transposeMut_eq

theorem step_transpose_ofGrid {op : Op α} (ht : IsTranspose op) (g : Grid α) :
    step (Arr.ofGrid g) op = (Arr.ofGrid ⟨g.w, g.h, fun r c => g.cell c r⟩, .ok) := by
  rcases ht with rfl | rfl <;> exact step_ofGrid g _

/-- **Transpose twice is the identity, structurally.**  For every consistent array of every shape
(no bound on height or width, empty shapes included) and every element type: a transpose
(`transpose()` or `transpose_mut()`) does not panic, and a second transpose (either one again)
returns exactly the original array — same `height`, same `width`, same hidden buffer — with outcome
`ok`.  All four combinations `transpose/transpose`, `mut/mut`, `transpose/mut`, `mut/transpose`. -/
theorem transpose_involution {s : Arr α} {g : Grid α} (h : R s g) {op1 op2 : Op α}
    (h1 : IsTranspose op1) (h2 : IsTranspose op2) :
    (step s op1).2 = .ok ∧ step (step s op1).1 op2 = (s, .ok) := by
  obtain rfl := R_iff_ofGrid.mp h
  rw [step_transpose_ofGrid h1, step_transpose_ofGrid h2]
  exact ⟨rfl, rfl⟩

section observers
variable [DecidableEq α] [LT α] [DecidableRel (α := α) (· < ·)]

/-- **Transpose twice is the identity, observationally**: every observer of `Arr2D` (`shape`,
`size`, both index forms, rows, iterators, `max`/`min`, `==`, `Display`, `as_scalar`) returns after
two transposes what it returned before them. -/
theorem transpose_involution_obs {s : Arr α} {g : Grid α} (h : R s g) {op1 op2 : Op α}
    (h1 : IsTranspose op1) (h2 : IsTranspose op2) (o : Obs α) :
    obs (step (step s op1).1 op2).1 o = obs s o := by
  rw [(transpose_involution h h1 h2).2]

theorem run_append (s : Arr α) (p q : List (Item α)) :
    run s (p ++ q) = ((run s p).1 ++ (run (run s p).2 q).1, (run (run s p).2 q).2) := by
  induction p generalizing s with
  | nil => rfl
  | cons item rest ih =>
    obtain ⟨op, os⟩ := item
    simp only [List.cons_append, run, ih, List.cons_append]

/-- **Transferred form, every history.**  From every consistent initial array and after every script
prefix `pre` (any operations, any length), appending two transposes (any combination, observers
`os1` after the first and `os2` after the second) ends in exactly the state `pre` alone ends in; both
transposes succeed, and the observers `os2` see what they see at the end of `pre`.  So the scripts
`pre ++ [transpose, transpose]` and `pre` are indistinguishable by anything that follows. -/
theorem transpose_twice_run {s : Arr α} {g : Grid α} (h : R s g) (pre : List (Item α))
    {op1 op2 : Op α} (h1 : IsTranspose op1) (h2 : IsTranspose op2) (os1 os2 : List (Obs α)) :
    (run s (pre ++ [(op1, os1), (op2, os2)])).2 = (run s pre).2 ∧
    (run s (pre ++ [(op1, os1), (op2, os2)])).1 =
      (run s pre).1 ++ [(.ok, os1.map (obs (step (run s pre).2 op1).1)),
                        (.ok, os2.map (obs (run s pre).2))] := by
  have hfin := (refines_run pre s g h).2
  obtain ⟨e1, e2⟩ := transpose_involution hfin h1 h2
  rw [run_append]
  simp only [run, e1, e2]
  exact ⟨trivial, trivial⟩

/-- The same for any continuation: after `pre ++ [transpose, transpose]` every further script `post`
produces the trace it produces after `pre`. -/
theorem transpose_twice_run_post {s : Arr α} {g : Grid α} (h : R s g) (pre post : List (Item α))
    {op1 op2 : Op α} (h1 : IsTranspose op1) (h2 : IsTranspose op2) (os1 os2 : List (Obs α)) :
    run (run s (pre ++ [(op1, os1), (op2, os2)])).2 post = run (run s pre).2 post := by
  rw [(transpose_twice_run h pre h1 h2 os1 os2).1]

/-- **From every constructor.**  Whatever constructor built the array (`new`, `full`, `identity`,
the `TryFrom` conversions, `from_flat`, an array literal) and whatever script `pre` ran on it since,
two transposes put it back exactly where it was, and both succeed. -/
theorem transpose_twice_from_init [Inhabited α] (i : Init α) (s : Arr α) (hs : init i = .ok s)
    (pre : List (Item α)) {op1 op2 : Op α} (h1 : IsTranspose op1) (h2 : IsTranspose op2)
    (os1 os2 : List (Obs α)) :
    (run s (pre ++ [(op1, os1), (op2, os2)])).2 = (run s pre).2 ∧
    (run s (pre ++ [(op1, os1), (op2, os2)])).1 =
      (run s pre).1 ++ [(.ok, os1.map (obs (step (run s pre).2 op1).1)),
                        (.ok, os2.map (obs (run s pre).2))] := by
  obtain ⟨g, hR⟩ := R_of_init hs
  exact transpose_twice_run hR pre h1 h2 os1 os2

end observers

-- An empty buffer may have an empty element type, for which no grid exists; there the code is run by hand.
private theorem grid_or_nil (s : Arr α) (hc : s.inner.length = s.height * s.width) :
    (∃ g, R s g) ∨ s.inner = [] := by
  cases hi : s.inner with
  | nil => exact Or.inr rfl
  | cons x l => exact Or.inl ⟨_, R_gridOf x s hc⟩

private theorem step_transpose_nil {a b : Nat} (h0 : a * b = 0) {op : Op α} (ht : IsTranspose op) :
    step (⟨[], a, b⟩ : Arr α) op = (⟨[], b, a⟩, .ok) := by
  have e : (⟨[], a, b⟩ : Arr α).transposeInner = some [] := by
    unfold Arr.transposeInner
    rcases Nat.mul_eq_zero.mp h0 with rfl | rfl
    · rw [collect_map_some _ _ (fun _ => []) (by intro _ _; rfl)]
      simp
    · rfl
  rw [step_transpose ht, Arr.transpose, e]

/-- `transpose_involution` stated with the invariant of `Arr2D` itself instead of a grid, for EVERY element type (the
empty type included): for every array whose buffer has `height * width` items, a transpose succeeds
and two transposes (any combination of `transpose()` / `transpose_mut()`) return exactly that
array. -/
theorem transpose_involution_consistent (s : Arr α)
    (hc : s.inner.length = s.height * s.width) {op1 op2 : Op α}
    (h1 : IsTranspose op1) (h2 : IsTranspose op2) :
    (step s op1).2 = .ok ∧ step (step s op1).1 op2 = (s, .ok) := by
  rcases grid_or_nil s hc with ⟨g, h⟩ | hi
  · exact transpose_involution h h1 h2
  · obtain ⟨i, a, b⟩ := s
    subst hi
    rw [step_transpose_nil hc.symm h1, step_transpose_nil (Nat.mul_comm a b ▸ hc.symm) h2]
    exact ⟨rfl, rfl⟩

/-- A transpose swaps the shape: the new height is the old width and the new width the old height;
the buffer length is unchanged. -/
theorem transpose_shape {s : Arr α} {g : Grid α} (h : R s g) {op : Op α} (ht : IsTranspose op) :
    (step s op).1.height = s.width ∧ (step s op).1.width = s.height ∧
    (step s op).1.inner.length = s.inner.length := by
  obtain rfl := R_iff_ofGrid.mp h
  rw [step_transpose_ofGrid ht]
  exact ⟨rfl, rfl, by rw [Grid.flat_length, Grid.flat_length, Nat.mul_comm]⟩

/-- **Element `(r, c)` of the transposed array is element `(c, r)` of the original**, through the
row-then-column index form `arr[r][c]` — for every `r`, `c` (outside the shape both sides panic),
every shape, every element type. -/
theorem transpose_at2 {s : Arr α} {g : Grid α} (h : R s g) {op : Op α} (ht : IsTranspose op)
    (r c : Nat) : (step s op).1.at2? r c = s.at2? c r := by
  obtain rfl := R_iff_ofGrid.mp h
  rw [step_transpose_ofGrid ht, (R_ofGrid _).at2?, h.at2?]
  simp only [and_comm]

/-- The same through the tuple index form `arr[(r, c)]`. -/
theorem transpose_at {s : Arr α} {g : Grid α} (h : R s g) {op : Op α} (ht : IsTranspose op)
    (r c : Nat) : (step s op).1.at? r c = s.at? c r := by
  obtain rfl := R_iff_ofGrid.mp h
  rw [step_transpose_ofGrid ht, (R_ofGrid _).at?, h.at?]
  simp only [and_comm]

/-- Inside the (swapped) shape the read does not panic: it is an element, the one at `(c, r)` of the
original. -/
theorem transpose_at2_in_range {s : Arr α} {g : Grid α} (h : R s g) {op : Op α}
    (ht : IsTranspose op) {r c : Nat} (hr : r < s.width) (hc : c < s.height) :
    ∃ x, (step s op).1.at2? r c = some x ∧ s.at2? c r = some x ∧ s.inner[c * s.width + r]? = some x := by
  obtain rfl := R_iff_ofGrid.mp h
  have e := h.at2? c r
  rw [if_pos ⟨hc, hr⟩] at e
  exact ⟨g.cell c r, (transpose_at2 h ht r c).trans e, e, g.flat_getElem? hc hr⟩

/-- `transpose_at2` stated with the invariant of `Arr2D` itself and directly on the buffer: for every array whose
buffer has `height * width` items, a transpose succeeds, swaps `height` and `width`, and the item at
offset `r * new_width + c` of the new buffer is the item at offset `c * old_width + r` of the old one,
for all `r < old_width`, `c < old_height` — no bound on either. -/
theorem transpose_buffer_consistent (s : Arr α)
    (hc : s.inner.length = s.height * s.width) {op : Op α} (ht : IsTranspose op) :
    (step s op).2 = .ok ∧ (step s op).1.height = s.width ∧ (step s op).1.width = s.height ∧
    ∀ r c, r < s.width → c < s.height →
      (step s op).1.inner[r * s.height + c]? = s.inner[c * s.width + r]? ∧
      (s.inner[c * s.width + r]?).isSome := by
  rcases grid_or_nil s hc with ⟨g, h⟩ | hi
  case inr =>
    obtain ⟨i, a, b⟩ := s
    subst hi
    rw [step_transpose_nil hc.symm ht]
    refine ⟨rfl, rfl, rfl, fun r c hr hcc => ?_⟩
    rcases Nat.mul_eq_zero.mp hc.symm with h0 | h0 <;> omega
  obtain rfl := R_iff_ofGrid.mp h
  rw [step_transpose_ofGrid ht]
  refine ⟨rfl, rfl, rfl, fun r c hr hcc => ?_⟩
  rw [Grid.flat_getElem? _ hr hcc, g.flat_getElem? hcc hr]
  exact ⟨rfl, rfl⟩

section observers
variable [DecidableEq α] [LT α] [DecidableRel (α := α) (· < ·)]

/-- Observer form: `getRowCol r c` after a transpose = `getRowCol c r` before, `getIdx r c`
after = `getIdx c r` before, and `shape` after is the swapped `shape` before. -/
theorem transpose_getRowCol {s : Arr α} {g : Grid α} (h : R s g) {op : Op α} (ht : IsTranspose op)
    (r c : Nat) :
    obs (step s op).1 (.getRowCol r c) = obs s (.getRowCol c r) ∧
    obs (step s op).1 (.getIdx r c) = obs s (.getIdx c r) ∧
    obs (step s op).1 .shape = .pair s.width s.height := by
  refine ⟨?_, ?_, ?_⟩
  · simp only [obs, transpose_at2 h ht]
  · simp only [obs, transpose_at h ht]
  · simp only [obs, (transpose_shape h ht).1, (transpose_shape h ht).2.1]

/-- The rows the row iterator yields after a transpose are the columns of the grid before it, in
order — `width` rows of `height` items each, for every shape. -/
theorem transpose_rows {s : Arr α} {g : Grid α} (h : R s g) {op : Op α} (ht : IsTranspose op) :
    obs (step s op).1 .rows =
      .rows ((List.range s.width).map fun c => (List.range s.height).map fun r => g.cell r c) := by
  obtain rfl := R_iff_ofGrid.mp h
  rw [step_transpose_ofGrid ht, obs_ofGrid]
  rfl

end observers

theorem step_swapRows_ofGrid (g : Grid α) (a b : Nat) :
    step (Arr.ofGrid g) (.swapRows a b) = (Arr.ofGrid (g.swapRows a b).1, (g.swapRows a b).2) :=
  step_ofGrid g _

/-- `swap_rows(a, b)` succeeds exactly when both rows exist; otherwise it panics and leaves the array
as it is. -/
theorem swapRows_outcome {s : Arr α} {g : Grid α} (h : R s g) (a b : Nat) :
    (a < s.height ∧ b < s.height → (step s (.swapRows a b)).2 = .ok) ∧
    (¬(a < s.height ∧ b < s.height) → step s (.swapRows a b) = (s, .panic)) := by
  obtain rfl := R_iff_ofGrid.mp h
  rw [step_swapRows_ofGrid, Grid.swapRows]
  show (a < g.h ∧ b < g.h → _) ∧ (¬(a < g.h ∧ b < g.h) → _)
  constructor
  · intro hab; rw [if_neg (by omega)]
  · intro hab; rw [if_pos (by omega)]

/-- **`swap_rows(a, b)` is `swap_rows(b, a)`**: same resulting array (height, width, buffer), same
outcome (`ok`, or the same panic when a row does not exist) — although the code orders the two rows
and treats the lower and the higher one differently (`split_at_mut`).  (No consistency is needed:
`Arr.swapRows_comm`.) -/
theorem swapRows_comm {s : Arr α} {g : Grid α} (h : R s g) (a b : Nat) :
    step s (.swapRows a b) = step s (.swapRows b a) :=
  Arr.swapRows_comm s a b

theorem swapIdx_invol (a b r : Nat) :
    (if (if r = a then b else if r = b then a else r) = a then b
      else if (if r = a then b else if r = b then a else r) = b then a
      else if r = a then b else if r = b then a else r) = r := by
  by_cases ha : r = a <;> by_cases hb : r = b <;> simp [ha, hb]

/-- **`swap_rows(a, b)` twice leaves the array as it was**, with the outcome of the first: either both
swaps succeed, or both panic and change nothing. -/
theorem swapRows_swapRows {s : Arr α} {g : Grid α} (h : R s g) (a b : Nat) :
    step (step s (.swapRows a b)).1 (.swapRows a b) = (s, (step s (.swapRows a b)).2) := by
  obtain rfl := R_iff_ofGrid.mp h
  by_cases hb : a ≥ g.h ∨ b ≥ g.h
  · have e : step (Arr.ofGrid g) (.swapRows a b) = (Arr.ofGrid g, .panic) := by
      rw [step_swapRows_ofGrid, Grid.swapRows, if_pos hb]
    rw [e, e]
  · simp only [step_swapRows_ofGrid, Grid.swapRows, hb, if_false]
    exact congrArg (·, Out.ok) (Arr.ofGrid_ext rfl rfl fun r c _ _ => by dsimp only; rw [swapIdx_invol])

/-- **`swap_rows(a, b)` twice is the identity** whenever it does not panic (i.e. both rows exist):
the second swap succeeds too and returns exactly the original array. -/
theorem swapRows_involution {s : Arr α} {g : Grid α} (h : R s g) (a b : Nat)
    (hok : (step s (.swapRows a b)).2 = .ok) :
    step (step s (.swapRows a b)).1 (.swapRows a b) = (s, .ok) :=
  hok ▸ swapRows_swapRows h a b

section observers
variable [DecidableEq α] [LT α] [DecidableRel (α := α) (· < ·)]

/-- Transferred form of the swap law: from every consistent initial array and after every script
prefix, a successful `swap_rows(a, b)` followed by `swap_rows(a, b)` or by `swap_rows(b, a)` ends in
the state the prefix alone ends in. -/
theorem swapRows_twice_run {s : Arr α} {g : Grid α} (h : R s g) (pre : List (Item α)) (a b : Nat)
    (os1 os2 : List (Obs α)) (hok : (step (run s pre).2 (.swapRows a b)).2 = .ok) :
    (run s (pre ++ [(.swapRows a b, os1), (.swapRows a b, os2)])).2 = (run s pre).2 ∧
    (run s (pre ++ [(.swapRows a b, os1), (.swapRows b a, os2)])).2 = (run s pre).2 := by
  have hfin := (refines_run pre s g h).2
  have e := swapRows_involution hfin a b hok
  have e' : step (step (run s pre).2 (.swapRows a b)).1 (.swapRows b a) = ((run s pre).2, .ok) :=
    (Arr.swapRows_comm _ b a).trans e
  rw [run_append, run_append]
  simp only [run, e, e']
  exact ⟨trivial, trivial⟩

end observers

/-- **`reshape` never changes the buffer** — whatever the array (consistent or not) and whatever the
requested height, valid or not. -/
theorem reshape_inner (s : Arr α) (h' : Nat) : (step s (.reshape h')).1.inner = s.inner := by
  by_cases hb : 0 < h' ∧ h' ∣ s.height * s.width
  · exact congrArg (·.1.inner) (s.reshape_of_dvd hb.1 hb.2)
  · exact congrArg (·.1.inner) (s.reshape_of_not hb)

/-- **`reshape(h')` followed by `reshape(original height)` is the identity** (for every array with at
least one row, consistent or not): when the first reshape succeeds, the second succeeds and returns
exactly the original array. -/
theorem reshape_roundtrip (s : Arr α) (h' : Nat) (hpos : 0 < s.height)
    (hok : (step s (.reshape h')).2 = .ok) :
    step (step s (.reshape h')).1 (.reshape s.height) = (s, .ok) := by
  obtain ⟨hp, hd⟩ := (s.reshape_ok_iff h').mp hok
  have hsz : h' * (s.height * s.width / h') = s.height * s.width := Nat.mul_div_cancel' hd
  show Arr.reshape (s.reshape h').1 s.height = (s, .ok)
  rw [s.reshape_of_dvd hp hd, Arr.reshape_of_dvd _ hpos (by dsimp only; rw [hsz]; exact Nat.dvd_mul_right ..)]
  dsimp only
  rw [hsz, Nat.mul_div_cancel_left _ hpos]

/-- The form "when both succeed": if `reshape(h')` and then `reshape(original height)` both return
`Ok`, the array is exactly the original one. -/
theorem reshape_roundtrip_of_ok (s : Arr α) (h' : Nat)
    (hok : (step s (.reshape h')).2 = .ok)
    (hok2 : (step (step s (.reshape h')).1 (.reshape s.height)).2 = .ok) :
    (step (step s (.reshape h')).1 (.reshape s.height)).1 = s := by
  rw [reshape_roundtrip s h' ((Arr.reshape_ok_iff _ _).mp hok2).1 hok]

/-- **`map f` then `map g` is `map (g ∘ f)`** — for every array, consistent or not. -/
theorem map_map (s : Arr α) (f k : α → α) :
    step (step s (.map f)).1 (.map k) = step s (.map (k ∘ f)) := by
  simp only [step, Arr.map, List.map_map]

/-- `map id` is the identity. -/
theorem map_id (s : Arr α) : step s (.map id) = (s, .ok) := by
  simp only [step, Arr.map, List.map_id]

/-- **`map` commutes with transpose**: mapping and then transposing gives exactly the array (height,
width, buffer) and the outcome that transposing and then mapping gives. -/
theorem map_transpose_comm {s : Arr α} {g : Grid α} (h : R s g) (f : α → α) {op : Op α}
    (ht : IsTranspose op) :
    step (step s (.map f)).1 op = step (step s op).1 (.map f) := by
  obtain rfl := R_iff_ofGrid.mp h
  rw [step_ofGrid, step_transpose_ofGrid ht, step_transpose_ofGrid ht, step_ofGrid]
  rfl

/-- the hypothesis `R s g` is satisfiable at a height above 64: the 70×3 array with `3 r + c` at `(r, c)` -/
example : R (Arr.fromArray 70 3 fun r c => 3 * r + c) (Grid.fromArray 70 3 fun r c => 3 * r + c) :=
  R_fromArray 70 3 _

/-- `transpose_involution` at height 70 -/
example : step (step (Arr.fromArray 70 3 fun r c => 3 * r + c) .transpose).1 .transposeMut =
    (Arr.fromArray 70 3 fun r c => 3 * r + c, .ok) :=
  (transpose_involution (R_fromArray 70 3 _) (Or.inl rfl) (Or.inr rfl)).2

/-- `transpose_at2`: element (2, 65) of the transposed 70×3 array is element (65, 2) = 197 -/
example : (step (Arr.fromArray 70 3 fun r c => 3 * r + c) .transpose).1.at2? 2 65 = some 197 := by
  rw [transpose_at2 (R_fromArray 70 3 _) (Or.inl rfl)]
  decide +kernel

/-- `swapRows_involution` at rows 0 and 69 of the 70×3 array -/
example : step (step (Arr.fromArray 70 3 fun r c => 3 * r + c) (.swapRows 0 69)).1 (.swapRows 0 69) =
    (Arr.fromArray 70 3 fun r c => 3 * r + c, .ok) :=
  swapRows_involution (R_fromArray 70 3 _) 0 69
    ((swapRows_outcome (R_fromArray 70 3 _) 0 69).1 (by decide))

/-- `reshape_roundtrip`: 70×3 reshaped to 105 rows and back -/
example : step (step (Arr.fromArray 70 3 fun r c => 3 * r + c) (.reshape 105)).1 (.reshape 70) =
    (Arr.fromArray 70 3 fun r c => 3 * r + c, .ok) :=
  reshape_roundtrip (Arr.fromArray 70 3 fun r c => 3 * r + c) 105 (by decide) (by decide)

/-- a concrete small run: transpose of `[[1,2,3],[4,5,6]]` is `[[1,4],[2,5],[3,6]]` -/
example : (step (⟨[1, 2, 3, 4, 5, 6], 2, 3⟩ : Arr Nat) .transpose).1.inner = [1, 4, 2, 5, 3, 6] ∧
    (step (⟨[1, 2, 3, 4, 5, 6], 2, 3⟩ : Arr Nat) .transpose).1.height = 3 := by
  decide

end SV.Props.C12Laws
