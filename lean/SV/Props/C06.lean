import SV.Model.C06
import SV.Lemmas.C06
/-!
# C06 — bisection: a returned root is a root in the bracket; bracketed roots are found

Property theorems only (helper lemmas are in `SV.Lemmas.C06`).  `K` is any linearly ordered field;
the same `SV.C06.bisection` runs at `Float` in the driver and is compared with
`spindalis::solvers::bisection` (outcome, returned bits, number of passes) on every run of the check.

Reading guide.  `bisection powf p lo init hi tol itermax mode : Res K` is the call
`bisection(&p, Bounds{lower: lo, init, upper: hi}, tol, itermax, mode)`; `Res.out` is its outcome
(`ok x | err kind | panic`), `Res.passes` the number of loop passes, `Res.lower/upper` the bracket
the loop ended with.  `bisectCore ev …` is the same algorithm for an arbitrary (possibly failing)
evaluation function `ev`; `evOf g` is the evaluation function of a total `g : K → K`.  For a dense
(`SimplePolynomial`) input, `bisection_simple` identifies `bisection … mode` with
`bisectCore (evOf (targetPoly cs mode).eval) …`, `targetPoly` being the polynomial (root mode) or
its formal derivative (extrema mode) as a Mathlib `Polynomial`; for a sparse
(`IntermediatePolynomial`) input in one variable, `bisection_inter_root` identifies root mode with
`bisectCore (evOf (valueAt powf p.terms)) …` (evaluation never fails there).  `gate` is the literal `1e-4` of
the source (regenerated into `SV.Gen.bisectionGate` by every run of `./check`).
-/
set_option linter.unusedSectionVars false

namespace SV.Props.C06
open SV SV.Poly SV.C06

variable {K : Type} [Field K] [LinearOrder K] [IsStrictOrderedRing K]

/-- The residual gate extracted from the source is at most `1e-4`, and positive. -/
theorem gate_bound : (0 : K) < gate ∧ (gate : K) ≤ 1 / 10 ^ 4 := ⟨gate_pos, gate_le⟩

/-- **Soundness, any evaluation function.**  A returned value lies in the caller's bracket and its
residual, as computed by the evaluation function, is below the gate `≤ 1e-4`. -/
theorem bisection_sound_ev (ev : K → Except PErr K) (lo init hi tol : K) (itermax : Nat) (x : K)
    (h : (bisectCore ev lo init hi tol itermax).out = .ok x) :
    lo ≤ x ∧ x ≤ hi ∧ ∃ y, ev x = .ok y ∧ |y| < gate ∧ (gate : K) ≤ 1 / 10 ^ 4 := by
  have hin := bisectCore_ok_in h
  obtain ⟨a, -, c, hok, -⟩ := (bisectCore_run ev tol itermax hin).bracket (hin.1.trans hin.2)
  obtain ⟨hx1, hx2, y, hy, hg⟩ := hok x h
  exact ⟨a.trans hx1, hx2.trans c, y, hy, hg, gate_le⟩

/-- **Soundness, both polynomial kinds and both modes.**  `q` is the polynomial the solver works on
(the input, or its derivative as computed by `derivate_univariate`). -/
theorem bisection_sound (powf : K → K → K) (p : AnyPoly K) (lo init hi tol : K) (itermax : Nat)
    (mode : SolveMode) (x : K) (h : (bisection powf p lo init hi tol itermax mode).out = .ok x) :
    lo ≤ x ∧ x ≤ hi ∧
      ∃ q y, target p mode = .ok q ∧ q.evalUni powf x = .ok y ∧ |y| < gate ∧ (gate : K) ≤ 1 / 10 ^ 4 := by
  cases hq : target p mode with
  | error e =>
    rw [bisection_target_error powf hq] at h
    cases h
  | ok q =>
    rw [bisection_eq_core powf hq] at h
    obtain ⟨a, b, y, hy, hg, hgate⟩ := bisection_sound_ev _ lo init hi tol itermax x h
    exact ⟨a, b, q, y, rfl, hy, hg, hgate⟩

/-- **Soundness for dense polynomials, through Mathlib's `Polynomial`.**  In root mode the returned
`x` has `|p(x)| < 1e-4`, in extrema mode `|p'(x)| < 1e-4` (`p'` the formal derivative). -/
theorem bisection_sound_simple (powf : K → K → K) (cs : List K) (v : Option Char)
    (lo init hi tol : K) (itermax : Nat) (mode : SolveMode) (x : K)
    (h : (bisection powf (.simple ⟨cs, v⟩) lo init hi tol itermax mode).out = .ok x) :
    lo ≤ x ∧ x ≤ hi ∧ |(targetPoly cs mode).eval x| < 1 / 10 ^ 4 := by
  rw [bisection_simple] at h
  obtain ⟨a, b, y, hy, hg, hgate⟩ := bisection_sound_ev _ lo init hi tol itermax x h
  simp only [evOf, Except.ok.injEq] at hy
  subst hy
  exact ⟨a, b, lt_of_lt_of_le hg hgate⟩

example : (bisectCore (evOf fun x : ℚ => x - 1) 0 0 2 (1 / 1000) 5).out = .ok 1 := by
  decide +kernel

/-- An initial guess outside `[lo, hi]` is rejected before anything else happens. -/
theorem bisection_init_checked (powf : K → K → K) (p : AnyPoly K) (lo init hi tol : K)
    (itermax : Nat) (mode : SolveMode) (h : init < lo ∨ hi < init) :
    (bisection powf p lo init hi tol itermax mode).out = .err .xInitOutOfBounds ∧
    (bisection powf p lo init hi tol itermax mode).passes = 0 := by
  rw [bisection_of_out powf p tol itermax mode h]
  exact ⟨rfl, rfl⟩

/-- … so a reversed bracket is always rejected, whatever the initial guess. -/
theorem bisection_reversed_rejected (powf : K → K → K) (p : AnyPoly K) (lo init hi tol : K)
    (itermax : Nat) (mode : SolveMode) (h : hi < lo) :
    (bisection powf p lo init hi tol itermax mode).out = .err .xInitOutOfBounds := by
  apply (bisection_init_checked powf p lo init hi tol itermax mode _).1
  rcases lt_or_ge init lo with h1 | h1
  · exact Or.inl h1
  · exact Or.inr (lt_of_lt_of_le h h1)

theorem bisection_init_checked_ev (ev : K → Except PErr K) (lo init hi tol : K) (itermax : Nat)
    (h : init < lo ∨ hi < init) :
    (bisectCore ev lo init hi tol itermax).out = .err .xInitOutOfBounds := by
  rw [bisectCore_of_out h]

example : (bisection (fun a _ => a) (.simple ⟨[(-1 : ℚ), 1], some 'x'⟩) 3 2 1 1 10 .root).out
    = .err .xInitOutOfBounds :=
  bisection_reversed_rejected _ _ _ _ _ _ _ _ (by norm_num)

/-- Totality for an arbitrary evaluation function. -/
theorem bisection_total_ev (ev : K → Except PErr K) (lo init hi tol : K) (itermax : Nat) :
    (bisectCore ev lo init hi tol itermax).out ≠ .panic ∧
    (bisectCore ev lo init hi tol itermax).passes ≤ itermax + 1 := by
  by_cases hout : init < lo ∨ hi < init
  · rw [bisectCore_of_out hout]
    exact ⟨nofun, Nat.zero_le _⟩
  · rw [not_or, not_lt, not_lt] at hout
    have h := bisectCore_run ev tol itermax hout
    exact ⟨h.no_panic, by have := h.passes.2; omega⟩

/-- Every call returns a value or an error value — never the `panic` outcome — after at most
`itermax + 1` loop passes. -/
theorem bisection_total (powf : K → K → K) (p : AnyPoly K) (lo init hi tol : K) (itermax : Nat)
    (mode : SolveMode) :
    (bisection powf p lo init hi tol itermax mode).out ≠ .panic ∧
    ((∃ x, (bisection powf p lo init hi tol itermax mode).out = .ok x) ∨
      ∃ e, (bisection powf p lo init hi tol itermax mode).out = .err e) ∧
    (bisection powf p lo init hi tol itermax mode).passes ≤ itermax + 1 := by
  have key : (bisection powf p lo init hi tol itermax mode).out ≠ .panic ∧
      (bisection powf p lo init hi tol itermax mode).passes ≤ itermax + 1 := by
    cases hq : target p mode with
    | error e =>
      rw [bisection_target_error powf hq]
      exact ⟨nofun, Nat.zero_le _⟩
    | ok q =>
      rw [bisection_eq_core powf hq]
      exact bisection_total_ev _ lo init hi tol itermax
  exact ⟨key.1, Outcome.ok_or_err key.1, key.2⟩

/-- **One pass.**  From a bracket `lower ≤ upper` with `g lower · g upper < 0`, one pass of the loop
(`bisectPass` at the total evaluation function of `g`) yields a bracket inside the old one that
still has the strict sign change, and either it is one of the two halves (the width halves) or a
midpoint / the lower end is an exact root: then the bracket is kept, `x_curr` is that root and the
error estimate is set to 0 (which stops the loop as soon as `0 < tol`). -/
theorem bisection_pass_keeps_sign_change (g : K → K) (first : Bool) (st : BState K)
    (hle : st.lower ≤ st.upper) (hs : g st.lower * g st.upper < 0) :
    ∃ st', bisectPass (evOf g) first st = .ok st' ∧
      st.lower ≤ st'.lower ∧ st'.lower ≤ st'.x ∧ st'.x ≤ st'.upper ∧ st'.upper ≤ st.upper ∧
      g st'.lower * g st'.upper < 0 ∧
      ((st'.upper - st'.lower = (st.upper - st.lower) / 2 ∧ st'.x = (st.lower + st.upper) / 2) ∨
       (st'.lower = st.lower ∧ st'.upper = st.upper ∧ g st'.x = 0 ∧ st'.aerr = 0)) := by
  have hp := passK_to g first st
  obtain ⟨h1, h2, h3, h4⟩ := hp.nested hle
  refine ⟨passK g first st, bisectPass_evOf g first st, h1, h2, h3, h4, hp.sign_change hs, ?_⟩
  rcases hp.halved_or_root with ⟨-, hw, hx, -⟩ | ⟨-, hl, hu, ha, hroot, -⟩
  · exact .inl ⟨eq_div_of_mul_eq two_ne_zero hw, hx⟩
  · exact .inr ⟨hl, hu, hroot, ha⟩

/-- **The whole loop.**  If `g lo · g hi < 0` (and the initial guess is accepted), the bracket the
loop ends with lies in `[lo, hi]`, still has `g lower · g upper < 0` (so in particular `≤ 0`), and
its width is `(hi − lo) / 2^h` where `h` is the number of passes — unless a midpoint (or the lower
end) was an exact root of `g`, in which case `h` counts the passes before that and the root lies
in the final bracket. -/
theorem bisection_keeps_sign_change (g : K → K) (lo init hi tol : K) (itermax : Nat)
    (hinit : lo ≤ init ∧ init ≤ hi) (hs : g lo * g hi < 0) :
    let r := bisectCore (evOf g) lo init hi tol itermax
    lo ≤ r.lower ∧ r.lower ≤ r.upper ∧ r.upper ≤ hi ∧ g r.lower * g r.upper < 0 ∧
    ∃ h : Nat, h ≤ r.passes ∧ (r.upper - r.lower) * 2 ^ h = hi - lo ∧
      (h = r.passes ∨ ∃ x, r.lower ≤ x ∧ x ≤ r.upper ∧ g x = 0) := by
  intro r
  have h := bisectCore_run (evOf g) tol itermax hinit
  obtain ⟨a, b, c, -⟩ := h.bracket (hinit.1.trans hinit.2)
  obtain ⟨n, hn, hw, hlast⟩ := h.width
  refine ⟨a, b, c, h.sign_change hs, n, hn, hw, hlast.imp id ?_⟩
  rintro ⟨x, hx0, rfl | rfl⟩
  · exact ⟨_, le_rfl, b, hx0⟩
  · exact ⟨_, le_mid b, mid_le b, hx0⟩

/-- **`NoConvergence` only from a wide bracket.**  With a sign change and an `L`-Lipschitz target
function, the answer `NoConvergence` means that the bracket the loop stopped with is still wider
than `gate / L`: if the tolerance test fires at a width `w` with `L·w < gate`, a value is returned.
No restriction on where the root lies. -/
theorem bisection_noConvergence_wide (g : K → K) (L lo init hi tol : K) (itermax : Nat)
    (hL : LipOn g L lo hi) (hinit : lo ≤ init ∧ init ≤ hi) (hs : g lo * g hi < 0)
    (h : (bisectCore (evOf g) lo init hi tol itermax).out = .err .noConvergence) :
    gate ≤ L * ((bisectCore (evOf g) lo init hi tol itermax).upper -
      (bisectCore (evOf g) lo init hi tol itermax).lower) :=
  (bisectCore_run (evOf g) tol itermax hinit).noConv_wide hL le_rfl (hinit.1.trans hinit.2) le_rfl hs h

/-- **Bracketed roots are found (brackets that stay away from 0).**  If `g` changes sign over
`[lo, hi]`, is `L`-Lipschitz there, every point of the bracket has `c ≤ |x| ≤ X` for some `c > 0`,
the tolerance is small for the scale (`L·tol·X/100 < gate`, `0 < tol ≤ 100`) and the budget ample
(`(hi − lo)·100 < tol·c·2^itermax`, `itermax ≥ 2`), a value is returned.

*Partial*: brackets containing 0 are excluded.  In exact arithmetic the statement is false for
them — for `g = X` on `[−1, 2]` consecutive midpoints keep a relative distance ≥ 100 %, so the exact
model runs into `MaxIterationsReached` for every budget; the `f64` code terminates there through
underflow to `0` of the midpoint or of `f(mid)` (the sign test `signTest` forms no product, so nothing
else underflows), which only the `Float` instance exhibits.
That case is covered by the correspondence run and by the oracle (roots at 0, budget ≥ 2000). -/
theorem bisection_complete_partial (g : K → K) (L c X lo init hi tol : K) (itermax : Nat)
    (hL : LipOn g L lo hi) (hinit : lo ≤ init ∧ init ≤ hi) (hs : g lo * g hi < 0)
    (hc : 0 < c) (haway : ∀ x, lo ≤ x → x ≤ hi → c ≤ |x| ∧ |x| ≤ X)
    (htol : 0 < tol) (htol' : tol ≤ 100) (hsmall : L * tol * X < gate * 100)
    (hiter : 2 ≤ itermax) (hbudget : (hi - lo) * 100 < tol * c * 2 ^ itermax) :
    ∃ x, (bisectCore (evOf g) lo init hi tol itermax).out = .ok x := by
  obtain ⟨n, rfl⟩ : ∃ n, itermax = n + 2 := ⟨itermax - 2, by omega⟩
  have hlt : lo < hi := lt_of_le_of_ne (hinit.1.trans hinit.2) fun e => ne_of_mul_neg hs (congrArg g e)
  rw [bisectCore_of_in hinit, bisectLoop_evOf_succ, beq_self_eq_true]
  have hb : SignBracket g lo hi ⟨lo, hi, init, ((100 : Nat) : K)⟩ := ⟨le_rfl, hlt, le_rfl, hs⟩
  rcases (passK_to g true _).signBracket hb with ⟨ha, hroot⟩ | ⟨hb', hx, hw, ha⟩
  · -- the first midpoint (or the lower end) is an exact root
    rw [if_pos (by rw [ha, abs_zero]; exact htol)]
    exact ⟨_, finish_ok_of_small (ev := evOf g) rfl (by rw [hroot, abs_zero]; exact gate_pos)⟩
  · -- the first pass halves the bracket and leaves the estimate at 100
    have hno : ¬ |(passK g true ⟨lo, hi, init, ((100 : Nat) : K)⟩).aerr| < tol := by
      rw [ha, nextErr_first]
      show ¬ |((100 : Nat) : K)| < tol
      rw [Nat.cast_ofNat, Nat.abs_ofNat]
      exact not_lt.mpr htol'
    have hw' : (_ - _) * 2 = hi - lo := hw
    rw [if_neg hno]
    refine (bisectLoop_run (evOf g) tol (n + 1) (0 + 1) _).complete hL hc haway htol hsmall
      (Nat.succ_ne_zero 0) (Nat.succ_ne_zero n) hb' hx ?_
    rw [pow_succ] at hbudget
    linarith

/-- the hypotheses of `bisection_complete_partial` are satisfiable: `x − 1` on `[1/2, 2]` -/
example : ∃ x, (bisectCore (evOf fun x : ℚ => x - 1) (1 / 2) 1 2 (1 / 10 ^ 9) 60).out = .ok x := by
  apply bisection_complete_partial (fun x : ℚ => x - 1) 1 (1 / 2) 2
  · intro x y _ _ _ _
    simp
  · norm_num
  · norm_num
  · norm_num
  · intro x h1 h2
    rw [abs_of_pos (by linarith)]
    exact ⟨h1, h2⟩
  · norm_num
  · norm_num
  · simp [gate, ratLit, SV.Gen.bisectionGate]; norm_num
  · norm_num
  · norm_num

/-- **The full-strength completeness clause** of the statement (“wherever the root lies, including
at zero”): not provable for the exact model — see `bisection_complete_partial` — and therefore kept
as a definition only.  `ample` stands for the budget condition.  What is missing for a proof is a
model of `f64` underflow; the clause is checked on the real code by the oracle of this property
(sign-changing, moderately scaled polynomials with roots at 0 and on bracket ends, budget ≥ 2000). -/
def bisection_complete : Prop :=
  ∀ (g : ℚ → ℚ) (L lo init hi tol : ℚ) (itermax : Nat),
    LipOn g L lo hi → lo ≤ init ∧ init ≤ hi → g lo * g hi < 0 →
    0 < tol → tol ≤ 100 → L * tol * max |lo| |hi| < gate * 100 → 2000 ≤ itermax →
    ∃ x, (bisectCore (evOf g) lo init hi tol itermax).out = .ok x

end SV.Props.C06
