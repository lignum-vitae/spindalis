import SV.Model.C10
import SV.Lemmas.C10
import SV.Lemmas.RoundingNearest
import SV.Props.C08Rounding
import SV.Lemmas.RoundingEx
/-!
# C10, rounding half — the column solve of `Arr2D::inverse` in floating-point arithmetic

`Arr2D::inverse` factors `P A = L U` and then, for every column `j`, solves `L y = P e_j` by
`forward_substitution` and `U x = y` by `back_substitution` (`SV.C10.column`).  Over a field the
solved column satisfies `L (U x) = P e_j` exactly (`SV.C10.column_solves`).  Here **the same
definition** `SV.C10.column` is run at the rounding scalar `Fl M` and the two backward-error
theorems of `SV.Props.C08Rounding` are composed (Higham, *Accuracy and Stability*, Thm 9.4, second
half): for **given** triangular factors `L`, `U` (the values the factorisation produced, whatever
their own error) with non-zero diagonals, and `m = max(n, 2)`, `m·u < 1` (the constant of
`SV.Props.C08Rounding`: a solved component carries the two roundings of its subtraction and division
whatever `n` is, a matrix entry at most `n`),

    (L + ΔL)(U + ΔU) x = P e_j   exactly,   |ΔL| ≤ γ_m|L|,  |ΔU| ≤ γ_m|U|,

hence `|P e_j − L U x| ≤ (2γ_m + γ_m²)·|L||U||x|` componentwise.  `inverse_column_residual`
transfers this to the columns of the matrix `SV.C10.inverse` returns at `Fl M`.

NOT covered: the error of the factorisation itself (`P A − L U`, which involves the growth factor of
partial pivoting) — so this is the residual with respect to `L U`, not `A`; overflow, underflow,
NaN/∞ — see the header of `SV.Lemmas.Rounding`.
-/
namespace SV.Props.C10Rounding
open SV SV.C09 SV.C10 SV.Subst Finset

variable {M : FlModel}

/-- the models elaborate at the rounding scalar with no change -/
noncomputable example (L U P : Mat (Fl M)) (n j : ℕ) : Outcome Empty (Array (Fl M)) :=
  column L U P n j
noncomputable example (eps : Fl M) (A : Mat (Fl M)) : Outcome InvErr (Mat (Fl M)) := inverse eps A

/-- **Backward error of the column solve.**  `L` lower, `U` upper triangular of order `n`, non-zero
diagonals, `max(n,2)·u < 1`: the computed column `x` solves **exactly** the system with perturbed
factors, `(L + ΔL)(U + ΔU) x = P e_j`, `|ΔL_ik| ≤ γ_m|L_ik|`, `|ΔU_km| ≤ γ_m|U_km|`,
`m = max(n, 2)`. -/
theorem column_backward (L U P : Mat (Fl M)) (n j : ℕ) (x : Array (Fl M))
    (hx : column L U P n j = .ok x)
    (hdL : ∀ i, i < n → (L.get i i).val ≠ 0) (hdU : ∀ i, i < n → (U.get i i).val ≠ 0)
    (htL : ∀ i k, i < n → i < k → k < n → (L.get i k).val = 0)
    (htU : ∀ i k, i < n → k < i → (U.get i k).val = 0)
    (hu : ((max n 2 : ℕ) : ℝ) * M.u < 1) :
    ∃ ΔL ΔU : ℕ → ℕ → ℝ,
      (∀ i k, |ΔL i k| ≤ M.gamma (max n 2) * |(L.get i k).val|) ∧
      (∀ k m, |ΔU k m| ≤ M.gamma (max n 2) * |(U.get k m).val|) ∧
      ∀ i, i < n →
        ∑ k ∈ range n, ((L.get i k).val + ΔL i k)
          * ∑ m ∈ range n, ((U.get k m).val + ΔU k m) * (vget x m).val = (P.get i j).val := by
  obtain ⟨y, hy, hxy⟩ := SV.C10.column_ok hx
  obtain ⟨ΔL, hΔL, _, hrowL⟩ :=
    SV.Props.C08Rounding.forwardSubst_backward L n _ _ y hy hdL htL hu
  obtain ⟨ΔU, hΔU, _, hrowU⟩ :=
    SV.Props.C08Rounding.backSubst_backward U n y _ x hxy hdU htU hu
  refine ⟨ΔL, ΔU, hΔL, hΔU, fun i hi => ?_⟩
  have := hrowL i hi
  rw [vget_vtab _ hi] at this
  rw [← this]
  refine Finset.sum_congr rfl fun k hk => ?_
  rw [hrowU k (by simpa using hk)]

/-- **Componentwise residual of the column solve**:
`|P_ij − Σ_k l_ik Σ_m u_km x_m| ≤ (2γ_m + γ_m²)·Σ_k |l_ik| Σ_m |u_km||x_m|`, `m = max(n, 2)`. -/
theorem column_residual (L U P : Mat (Fl M)) (n j : ℕ) (x : Array (Fl M))
    (hx : column L U P n j = .ok x)
    (hdL : ∀ i, i < n → (L.get i i).val ≠ 0) (hdU : ∀ i, i < n → (U.get i i).val ≠ 0)
    (htL : ∀ i k, i < n → i < k → k < n → (L.get i k).val = 0)
    (htU : ∀ i k, i < n → k < i → (U.get i k).val = 0)
    (hu : ((max n 2 : ℕ) : ℝ) * M.u < 1) :
    ∀ i, i < n →
      |(P.get i j).val
          - ∑ k ∈ range n, (L.get i k).val * ∑ m ∈ range n, (U.get k m).val * (vget x m).val|
        ≤ (2 * M.gamma (max n 2) + M.gamma (max n 2) ^ 2)
          * ∑ k ∈ range n, |(L.get i k).val|
            * ∑ m ∈ range n, |(U.get k m).val| * |(vget x m).val| := by
  obtain ⟨y, hy, hxy⟩ := SV.C10.column_ok hx
  have hrU := SV.Props.C08Rounding.backSubst_residual U n y _ x hxy hdU htU hu
  intro i hi
  have hL := SV.Props.C08Rounding.forwardSubst_residual L n _ _ y hy hdL htL hu i hi
  rw [vget_vtab _ hi] at hL
  exact residual_comp n (fun k => (L.get i k).val) (fun k => (vget y k).val)
    (fun k => ∑ m ∈ range n, (U.get k m).val * (vget x m).val)
    (fun k => ∑ m ∈ range n, |(U.get k m).val| * |(vget x m).val|) _ _ (M.gamma_nonneg hu) hL hrU
    fun k _ => (Finset.abs_sum_le_sum_abs _ _).trans
      (le_of_eq (Finset.sum_congr rfl fun m _ => abs_mul _ _))

/-- **The columns of the computed inverse.**  Whenever `inverse` returns `B` at `Fl M`, there are the
factors `L, U, P` the factorisation produced, and — provided they are triangular with non-zero
diagonals (discharged in `SV.Props.C10Rounding2`) — every column of `B` satisfies the residual bound
of the column solve:
`|P_ij − (L U B)_ij| ≤ (2γ_m + γ_m²)·(|L||U||B|)_ij`, `m = max(n, 2)`. -/
theorem inverse_column_residual (eps : Fl M) (A B : Mat (Fl M)) (h : inverse eps A = .ok B)
    (hu : ((max A.h 2 : ℕ) : ℝ) * M.u < 1) :
    ∃ L U P : Mat (Fl M), plu eps A = .ok (L, U, P) ∧
      ((∀ i, i < A.h → (L.get i i).val ≠ 0) → (∀ i, i < A.h → (U.get i i).val ≠ 0) →
       (∀ i k, i < A.h → i < k → k < A.h → (L.get i k).val = 0) →
       (∀ i k, i < A.h → k < i → (U.get i k).val = 0) →
       ∀ i j, i < A.h → j < A.h →
        |(P.get i j).val - ∑ k ∈ range A.h, (L.get i k).val
            * ∑ m ∈ range A.h, (U.get k m).val * (B.get m j).val|
          ≤ (2 * M.gamma (max A.h 2) + M.gamma (max A.h 2) ^ 2)
            * ∑ k ∈ range A.h, |(L.get i k).val|
              * ∑ m ∈ range A.h, |(U.get k m).val| * |(B.get m j).val|) := by
  obtain ⟨_, _, _, _, L, U, P, hp, hcols⟩ := inverse_ok_columns h
  refine ⟨L, U, P, hp, fun hdL hdU htL htU i j hi hj => ?_⟩
  obtain ⟨x, hx, hB⟩ := hcols j hj
  have := column_residual L U P A.h j x hx hdL hdU htL htU hu i hi
  have e1 : ∀ k, ∑ m ∈ range A.h, (U.get k m).val * (B.get m j).val
      = ∑ m ∈ range A.h, (U.get k m).val * (vget x m).val := fun k =>
    Finset.sum_congr rfl fun m hm => by rw [hB m (by simpa using hm)]
  have e2 : ∀ k, ∑ m ∈ range A.h, |(U.get k m).val| * |(B.get m j).val|
      = ∑ m ∈ range A.h, |(U.get k m).val| * |(vget x m).val| := fun k =>
    Finset.sum_congr rfl fun m hm => by rw [hB m (by simpa using hm)]
  simp only [e1, e2]
  exact this

/-- With exact arithmetic the residual vanishes: `L (U x) = P e_j`
(`SV.C10.column_solves`). -/
theorem column_residual_ideal (L U P : Mat (Fl FlModel.ideal)) (n j : ℕ)
    (x : Array (Fl FlModel.ideal)) (hx : column L U P n j = .ok x)
    (hdL : ∀ i, i < n → (L.get i i).val ≠ 0) (hdU : ∀ i, i < n → (U.get i i).val ≠ 0)
    (htL : ∀ i k, i < n → i < k → k < n → (L.get i k).val = 0)
    (htU : ∀ i k, i < n → k < i → (U.get i k).val = 0) :
    ∀ i, i < n →
      ∑ k ∈ range n, (L.get i k).val * ∑ m ∈ range n, (U.get k m).val * (vget x m).val
        = (P.get i j).val :=
  fun i hi => FlModel.eq_of_ideal_bound_sq fun hu =>
    column_residual L U P n j x hx hdL hdU htL htU hu i hi

/-- **binary64, numerically**: `2γ_m + γ_m² ≤ 3·m·2⁻⁵²` for `m = max(n,2) ≤ 2⁵²`. -/
theorem column_residual_binary64 (L U P : Mat (Fl FlModel.binary64)) (n j : ℕ)
    (x : Array (Fl FlModel.binary64)) (hx : column L U P n j = .ok x)
    (hdL : ∀ i, i < n → (L.get i i).val ≠ 0) (hdU : ∀ i, i < n → (U.get i i).val ≠ 0)
    (htL : ∀ i k, i < n → i < k → k < n → (L.get i k).val = 0)
    (htU : ∀ i k, i < n → k < i → (U.get i k).val = 0) (hn : n ≤ 2 ^ 52) :
    ∀ i, i < n →
      |(P.get i j).val
          - ∑ k ∈ range n, (L.get i k).val * ∑ m ∈ range n, (U.get k m).val * (vget x m).val|
        ≤ 3 * ((max n 2 : ℕ) : ℝ) * (2⁻¹ : ℝ) ^ 52
          * ∑ k ∈ range n, |(L.get i k).val|
            * ∑ m ∈ range n, |(U.get k m).val| * |(vget x m).val| :=
  fun i hi => FlModel.abs_le_binary64_sq (max_le hn (by norm_num)) zero_le_two (by norm_num)
    fun hu => column_residual L U P n j x hx hdL hdU htL htU hu i hi

/-- the hypotheses are satisfiable in a model with `u > 0` whose rounding is not the identity, and
there the column solve really leaves a residual: `L = [[1,0],[1,1]]`, `U = [[1,1],[0,1]]`, `P = I`,
column 0, `rnd t = t·(1 + 1/16)` (`u = 1/8`) -/
example : ∃ (M : FlModel) (L U P : Mat (Fl M)) (x : Array (Fl M)), 0 < M.u ∧
    column L U P 2 0 = .ok x ∧
    (∀ i, i < 2 → (L.get i i).val ≠ 0) ∧ (∀ i, i < 2 → (U.get i i).val ≠ 0) ∧
    (∀ i k, i < 2 → i < k → k < 2 → (L.get i k).val = 0) ∧
    (∀ i k, i < 2 → k < i → (U.get i k).val = 0) ∧ ((max 2 2 : ℕ) : ℝ) * M.u < 1 ∧
    ∑ k ∈ range 2, (L.get 1 k).val * ∑ m ∈ range 2, (U.get k m).val * (vget x m).val
      ≠ (P.get 1 0).val := by
  have hz : 2 ≤ (vtab 2 fun _ => (0 : Fl Ex.M8)).size := (vtab_size _ _).ge
  refine ⟨Ex.M8, Ex.L2, Ex.U2, Ex.I2, _, Ex.M8_pos, rfl, Ex.L2_diag, Ex.U2_diag, Ex.L2_lower,
    Ex.U2_upper, Ex.M8_hyp (by decide), ?_⟩
  obtain ⟨y0, y1⟩ := fwdCore_two Ex.L2 (vtab 2 fun i => Ex.I2.get i 0) (vtab 2 fun _ => 0) hz
  obtain ⟨x1, x0⟩ := backCore_two Ex.U2
    (fwdCore Ex.L2 2 (vtab 2 fun i => Ex.I2.get i 0) (vtab 2 fun _ => 0)) (vtab 2 fun _ => 0) hz
  simp only [sum_range_succ, sum_range_zero, zero_add, x0, x1, y0, y1]
  simp only [vget_vtab, Nat.reduceLT, Ex.L2, Ex.U2, Ex.I2, Mat.get_two, Fl.sub_val, Fl.div_val,
    Fl.mul_val, Fl.add_val, Fl.zero_val, Fl.one_val, Ex.M8_rnd]
  norm_num

end SV.Props.C10Rounding
