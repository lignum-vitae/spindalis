import SV.Props.C11
import SV.Props.C14
import Mathlib.Tactic.LinearCombination
/-!
# C14 — the Hessenberg reduction is scale-equivariant

Scaling the matrix by a positive constant `c` scales the returned `H` by `c` and leaves the
orthogonal factor `Q` and the error outcome unchanged:

  `hessenberg sqrt (smul A c) = (hessenberg sqrt A).map fun (H, Q) => (smul H c, Q)`

for every linearly ordered field, every matrix `A` (every shape: non-square, order 0, 1, 2 and the
general loop; no well-formedness hypothesis on the buffer), every `c > 0` and every `sqrt` with the
hypothesis the other C14 theorems use (`∀ x ≥ 0, sqrt x * sqrt x = x ∧ 0 ≤ sqrt x`, satisfiable by
`Real.sqrt`).  `smul` is `SV.C11.smul`, the model of the code's own `&Arr2D * scalar`.

Consequence: no ABSOLUTE threshold (`norm_x < 1e-12 { continue }`, a floor on `|u1|`, …) can be part
of this algorithm — such a test is not invariant under `A ↦ c·A`, while every test the algorithm
makes (`norm_x == 0.0`, `h_first >= 0.0`) is.  The reflector `(tau, v)` is scale-free, the norm and
`u1` are homogeneous of degree 1.
-/
namespace SV.Props.C14Scale
open SV SV.C11 SV.C14 Finset
open SV.Props.C18 (SqrtSpec)

variable {K : Type} [Field K] [LinearOrder K] [IsStrictOrderedRing K] [Inhabited K]

/-- what scaling the input by `c` does to a result `(H, Q)`: `H` is scaled, `Q` is unchanged -/
def scaleRes (c : K) : Mat K × Mat K → Mat K × Mat K := fun r => (smul r.1 c, r.2)

example : ∀ x : ℝ, 0 ≤ x → Real.sqrt x * Real.sqrt x = x ∧ 0 ≤ Real.sqrt x :=
  fun x hx => ⟨Real.mul_self_sqrt hx, Real.sqrt_nonneg x⟩

section
omit [Inhabited K]

/-- **The square root is positively homogeneous of degree 1/2** — a consequence of the two
hypotheses on `sqrt` alone: `sqrt (c·c·x) = c·sqrt x` for `x ≥ 0`, `c > 0`. -/
theorem sqrt_scale (sqrt : K → K) (hs : SqrtSpec sqrt) (x c : K) (hx : 0 ≤ x) (hc : 0 < c) :
    sqrt (c * c * x) = c * sqrt x := by
  rw [hs.mul (mul_self_nonneg c) hx, hs.eq_of_mul_self hc.le rfl]

theorem signOf_scale (x c : K) (hc : 0 < c) : signOf (x * c) = signOf x := by
  rcases le_or_gt 0 x with h | h
  · rw [signOf_of_nonneg h, signOf_of_nonneg (mul_nonneg h hc.le)]
  · rw [signOf_of_neg h, signOf_of_neg (mul_neg_of_neg_of_pos h hc)]

/-- `sign` flips under a negative factor, except at a pivot entry that is exactly `0`
(`0 >= 0.0` on both sides) -/
theorem signOf_scale_neg (x c : K) (hc : c < 0) (hx : x ≠ 0) : signOf (x * c) = -signOf x := by
  rcases hx.lt_or_gt with h | h
  · rw [signOf_of_neg h, signOf_of_nonneg (mul_pos_of_neg_of_neg h hc).le]
  · rw [signOf_of_nonneg h.le, signOf_of_neg (mul_neg_of_pos_of_neg h hc), neg_neg]

end

section
omit [LinearOrder K] [IsStrictOrderedRing K]

theorem colNormSq_smul (n k : Nat) (hk : k < n) (H : Mat K) (hh : H.h = n) (hw : H.w = n) (c : K) :
    colNormSq n k (smul H c) = c * c * colNormSq n k H := by
  rw [colNormSq_eq, colNormSq_eq, Finset.mul_sum]
  refine Finset.sum_congr rfl fun t ht => ?_
  have := Finset.mem_range.mp ht
  rw [(C11.smul_entry H c).2.2 _ _ (by omega) (by omega), mul_mul_mul_comm, mul_comm]

omit [Inhabited K] in
/-- the algebra of `reflOf_smul_of_sign`: pivot `x`, norm `N`, signs `s`, `s'`, factors `c`, `d` -/
private theorem refl_scale {s s' x N c d : K} (hd : d ≠ 0) (hcd : c * c = d * d)
    (hsgn : s' * d = s * c) :
    x * c - s' * (N * d) = (x - s * N) * c ∧
      -s' * ((x - s * N) * c) / (N * d) = -s * (x - s * N) / N := by
  have hsc : s' * c = s * d :=
    mul_right_cancel₀ hd (by rw [mul_right_comm, hsgn, mul_assoc, hcd, ← mul_assoc])
  constructor
  · linear_combination (-N) * hsgn
  · rw [← mul_div_mul_right _ N hd]
    refine congrArg (· / (N * d)) ?_
    linear_combination (-(x - s * N)) * hsc

theorem vvec_smul (n k : Nat) (H : Mat K) (hh : H.h = n) (hw : H.w = n) (u1 c : K) (hc : c ≠ 0)
    (t : Nat) (ht : k + 1 + t < n) :
    vvec k (smul H c) (u1 * c) t = vvec k H u1 t := by
  rcases Nat.eq_zero_or_pos t with rfl | h0
  · rw [vvec_zero, vvec_zero]
  · rw [vvec_of_ne_zero _ _ _ h0.ne', vvec_of_ne_zero _ _ _ h0.ne',
      (C11.smul_entry H c).2.2 _ _ (by omega) (by omega), mul_div_mul_right _ _ hc]

omit [Inhabited K] in
private theorem sum_smul (m : Nat) (v v' x x' : Nat → K) (c : K) (hv : ∀ t, t < m → v' t = v t)
    (hx : ∀ t, t < m → x' t = x t * c) :
    ∑ t ∈ range m, v' t * x' t = (∑ t ∈ range m, v t * x t) * c := by
  rw [Finset.sum_mul]
  refine Finset.sum_congr rfl fun t ht => ?_
  rw [hv t (Finset.mem_range.mp ht), hx t (Finset.mem_range.mp ht), mul_assoc]

/-- **Left phase** (`H_k * A`) is linear in the matrix; only the entries `v t`, `t < n-(k+1)`, of
the vector are read -/
theorem leftPhase_smul (n k : Nat) (tau : K) (v v' : Nat → K)
    (hv : ∀ t, k + 1 + t < n → v' t = v t) (H : Mat K) (hh : H.h = n) (hw : H.w = n) (c : K) :
    leftPhase n k tau v' (smul H c) = smul (leftPhase n k tau v H) c := by
  refine Mat.tab_congr fun i j hi hj => ?_
  rw [sumFrom_zero, leftPhase_get n k tau v H hi hj,
    (C11.smul_entry H c).2.2 _ _ (by omega) (by omega)]
  by_cases hb : k + 1 ≤ i ∧ k ≤ j
  · rw [if_pos hb, if_pos hb, hv _ (by omega), sub_mul, mul_assoc (tau * _),
      sum_smul _ v v' (fun t => H.get (k + 1 + t) j) _ c (fun t ht => hv t (by omega))
        fun t ht => (C11.smul_entry H c).2.2 _ _ (by omega) (by omega)]
  · rw [if_neg hb, if_neg hb]

/-- **Right phase** (`A * H_k`): if the entries of `H'` are those of `H` times `c`, so are those of
the results; only the entries `v t`, `t < n-(k+1)`, of the vector are read -/
theorem rightPhase_scaled (n k : Nat) (tau : K) (v v' : Nat → K)
    (hv : ∀ t, k + 1 + t < n → v' t = v t) (H H' : Mat K) (c : K)
    (hH : ∀ i j, i < n → j < n → H'.get i j = H.get i j * c) :
    rightPhase n k tau v' H' = smul (rightPhase n k tau v H) c := by
  refine Mat.tab_congr fun i j hi hj => ?_
  rw [sumFrom_zero, rightPhase_get n k tau v H hi hj, hH i j hi hj]
  by_cases hb : k + 1 ≤ j
  · rw [if_pos hb, if_pos hb, hv _ (by omega), sub_mul, mul_assoc (tau * _),
      sum_smul _ v v' (fun t => H.get i (k + 1 + t)) _ c (fun t ht => hv t (by omega))
        fun t ht => hH _ _ hi (by omega)]
  · rw [if_neg hb, if_neg hb]

theorem rightPhase_smul (n k : Nat) (tau : K) (v v' : Nat → K)
    (hv : ∀ t, k + 1 + t < n → v' t = v t) (H : Mat K) (hh : H.h = n) (hw : H.w = n) (c : K) :
    rightPhase n k tau v' (smul H c) = smul (rightPhase n k tau v H) c :=
  rightPhase_scaled n k tau v v' hv H _ c fun i j hi hj =>
    (C11.smul_entry H c).2.2 i j (by omega) (by omega)

/-- the right phase on `q` does not see the scaling at all (`c = 1`): same `tau`, same `v` on the
indices read -/
theorem rightPhase_congr (n k : Nat) (tau : K) (v v' : Nat → K)
    (hv : ∀ t, k + 1 + t < n → v' t = v t) (Q : Mat K) :
    rightPhase n k tau v' Q = rightPhase n k tau v Q :=
  (rightPhase_scaled n k tau v v' hv Q Q 1 fun _ _ _ _ => (mul_one _).symm).trans
    ((smul_tab n n _ 1).trans (Mat.tab_congr fun _ _ _ _ => mul_one _))

end

/-- **The reflector quantities of `h·c`, `c ≠ 0`.**  With `d = |c|` and a pivot entry whose
`sign` changes by the sign of `c` (`hsgn`; see `signOf_scale`, `signOf_scale_neg`): `norm_x` is
multiplied by `d`, `u1 = h_first - sign·norm_x` by `c`, and `tau` is unchanged. -/
theorem reflOf_smul_of_sign (sqrt : K → K) (hs : SqrtSpec sqrt) (n k : Nat) (hk : k + 1 < n) (H : Mat K) (hh : H.h = n) (hw : H.w = n) (c d : K) (hd : 0 < d)
    (hcd : c * c = d * d)
    (hsgn : signOf (H.get (k + 1) k * c) * d = signOf (H.get (k + 1) k) * c) :
    (reflOf sqrt n k (smul H c)).norm = (reflOf sqrt n k H).norm * d ∧
    (reflOf sqrt n k (smul H c)).u1 = (reflOf sqrt n k H).u1 * c ∧
    (reflOf sqrt n k (smul H c)).tau = (reflOf sqrt n k H).tau := by
  obtain ⟨e1, e2⟩ :=
    refl_scale (x := H.get (k + 1) k) (N := sqrt (colNormSq n k H)) hd.ne' hcd hsgn
  simp only [reflOf]
  rw [colNormSq_smul n k (by omega) H hh hw c, hcd,
    sqrt_scale sqrt hs _ d (colNormSq_nonneg n k H) hd, mul_comm d,
    (C11.smul_entry H c).2.2 _ _ (by omega) (by omega), e1]
  exact ⟨rfl, rfl, e2⟩

omit [IsStrictOrderedRing K] in
theorem step_dims (sqrt : K → K) (n k : Nat) (s : Mat K × Mat K) (hh : s.1.h = n) (hw : s.1.w = n) :
    (step sqrt n k s).1.h = n ∧ (step sqrt n k s).1.w = n := by
  rw [step]
  split
  · exact ⟨hh, hw⟩
  · exact ⟨rfl, rfl⟩

/-- **One pass commutes with a scaling `c ≠ 0` of `h`** whenever the `sign` of the pivot entry
changes by the sign of `c` (`d = |c|`): the pass on `(h·c, q)` takes the same branch and gives
`(h'·c, q')`, because `v` and `tau` are the same. -/
theorem step_smul_of_sign (sqrt : K → K) (hs : SqrtSpec sqrt) (n k : Nat) (hk : k + 1 < n) (s : Mat K × Mat K) (hh : s.1.h = n) (hw : s.1.w = n)
    (c d : K) (hc : c ≠ 0) (hd : 0 < d) (hcd : c * c = d * d)
    (hsgn : signOf (s.1.get (k + 1) k * c) * d = signOf (s.1.get (k + 1) k) * c) :
    step sqrt n k (smul s.1 c, s.2) = scaleRes c (step sqrt n k s) := by
  obtain ⟨h1, h3, h4⟩ := reflOf_smul_of_sign sqrt hs n k hk s.1 hh hw c d hd hcd hsgn
  by_cases h0 : (reflOf sqrt n k s.1).norm = 0
  · rw [SV.Props.C14.step_skip sqrt n k s h0,
      SV.Props.C14.step_skip sqrt n k (smul s.1 c, s.2) (by rw [h1, h0, zero_mul])]
    rfl
  · have hv : ∀ t, k + 1 + t < n → vvec k (smul s.1 c) ((reflOf sqrt n k s.1).u1 * c) t
        = vvec k s.1 (reflOf sqrt n k s.1).u1 t :=
      fun t ht => vvec_smul n k s.1 hh hw _ c hc t ht
    rw [SV.Props.C14.step_reflect sqrt n k s h0,
      SV.Props.C14.step_reflect sqrt n k (smul s.1 c, s.2)
        (by rw [h1]; exact mul_ne_zero h0 hd.ne')]
    dsimp only
    rw [h3, h4, leftPhase_smul n k _ _ _ hv s.1 hh hw c, rightPhase_smul n k _ _ _ hv _ rfl rfl c,
      rightPhase_congr n k _ _ _ hv s.2]
    rfl

/-- **One pass of the outer loop is scale-equivariant**: on `(h·c, q)` it takes the same branch
(skip or reflect) as on `(h, q)` and produces `(h'·c, q')`. -/
theorem step_smul (sqrt : K → K)
    (hs : ∀ x : K, 0 ≤ x → sqrt x * sqrt x = x ∧ 0 ≤ sqrt x)
    (n k : Nat) (hk : k + 1 < n) (s : Mat K × Mat K) (hh : s.1.h = n) (hw : s.1.w = n)
    (c : K) (hc : 0 < c) :
    step sqrt n k (smul s.1 c, s.2) = scaleRes c (step sqrt n k s) :=
  step_smul_of_sign sqrt hs n k hk s hh hw c c hc.ne' hc rfl (by rw [signOf_scale _ _ hc])

/-- **One pass under a negative factor.**  If the pivot entry `h[k+1][k]` is not zero, the pass on
`(h·c, q)` with `c < 0` still gives `(h'·c, q')`: `sign` flips, `norm_x` is multiplied by `|c|`,
and the two changes cancel in `u1 = h_first - sign·norm_x`, so `v` and `tau` are the same.
(For `h[k+1][k] = 0` this fails: `sign` is `-1` on both sides — `0 >= 0.0` — and `v` becomes
`(1, -v₁, -v₂, …)`, a different reflector and a different `Q`; see the example at the end.) -/
theorem step_smul_neg (sqrt : K → K)
    (hs : ∀ x : K, 0 ≤ x → sqrt x * sqrt x = x ∧ 0 ≤ sqrt x)
    (n k : Nat) (hk : k + 1 < n) (s : Mat K × Mat K) (hh : s.1.h = n) (hw : s.1.w = n)
    (c : K) (hc : c < 0) (hp : s.1.get (k + 1) k ≠ 0) :
    step sqrt n k (smul s.1 c, s.2) = scaleRes c (step sqrt n k s) :=
  step_smul_of_sign sqrt hs n k hk s hh hw c (-c) hc.ne (neg_pos.mpr hc) (neg_mul_neg c c).symm
    (by rw [signOf_scale_neg _ _ hc hp, neg_mul_neg])

/-- the whole loop, by simulation: the states of the two runs are related by `scaleRes c` after
every pass -/
theorem fold_smul (sqrt : K → K)
    (hs : ∀ x : K, 0 ≤ x → sqrt x * sqrt x = x ∧ 0 ≤ sqrt x)
    (n : Nat) (c : K) (hc : 0 < c) : ∀ (m : Nat), m + 2 ≤ n → ∀ (s : Mat K × Mat K),
      s.1.h = n → s.1.w = n →
      (List.range m).foldl (fun s k => step sqrt n k s) (smul s.1 c, s.2)
        = scaleRes c ((List.range m).foldl (fun s k => step sqrt n k s) s) ∧
      ((List.range m).foldl (fun s k => step sqrt n k s) s).1.h = n ∧
      ((List.range m).foldl (fun s k => step sqrt n k s) s).1.w = n := by
  intro m
  induction m with
  | zero => intro _ s hh hw; exact ⟨rfl, hh, hw⟩
  | succ m ih =>
    intro hm s hh hw
    obtain ⟨e, dh, dw⟩ := ih (by omega) s hh hw
    rw [foldl_range_succ, foldl_range_succ, e]
    exact ⟨step_smul sqrt hs n m (by omega) _ dh dw c hc, step_dims sqrt n m _ dh dw⟩

/-- **Scale equivariance of the Hessenberg reduction.**  For every linearly ordered field, every
`sqrt` with `sqrt x * sqrt x = x ∧ 0 ≤ sqrt x` on `x ≥ 0`, every matrix `A` (any shape, any order
including 0, 1, 2; well-formed buffer or not) and every `c > 0`: running the reduction on `A·c`
(`SV.C11.smul`, the code's `&Arr2D * scalar`) gives the outcome of running it on `A` with `H`
multiplied entrywise by `c` and the SAME `Q`; a non-square input gives the same error. -/
theorem hessenberg_smul (sqrt : K → K)
    (hs : ∀ x : K, 0 ≤ x → sqrt x * sqrt x = x ∧ 0 ≤ sqrt x) (A : Mat K) (c : K) (hc : 0 < c) :
    hessenberg sqrt (smul A c) = (hessenberg sqrt A).map (scaleRes c) := by
  unfold hessenberg
  rw [(C11.smul_entry A c).1, (C11.smul_entry A c).2.1]
  by_cases hsq : A.h ≠ A.w
  · rw [if_pos hsq, if_pos hsq]; rfl
  rw [if_neg hsq, if_neg hsq]
  by_cases h2 : A.h ≤ 2
  · rw [if_pos h2, if_pos h2]; rfl
  rw [if_neg h2, if_neg h2]
  have h := (fold_smul sqrt hs A.h c hc (A.h - 2) (by omega) (A, Mat.ident A.h) rfl
    (not_not.mp hsq).symm).1
  simp only at h
  rw [h]
  rfl

theorem hessenberg_smul_ok (sqrt : K → K)
    (hs : ∀ x : K, 0 ≤ x → sqrt x * sqrt x = x ∧ 0 ≤ sqrt x) (A H Q : Mat K) (c : K) (hc : 0 < c)
    (h : hessenberg sqrt A = .ok (H, Q)) : hessenberg sqrt (smul A c) = .ok (smul H c, Q) := by
  rw [hessenberg_smul sqrt hs A c hc, h]; rfl

theorem hessenberg_smul_err (sqrt : K → K)
    (hs : ∀ x : K, 0 ≤ x → sqrt x * sqrt x = x ∧ 0 ≤ sqrt x) (A : Mat K) (c : K) (hc : 0 < c)
    (e : HErr) (h : hessenberg sqrt A = .error e) : hessenberg sqrt (smul A c) = .error e := by
  rw [hessenberg_smul sqrt hs A c hc, h]; rfl

/-- **No absolute skip threshold is compatible with the algorithm.**  If the pass for column `k`
reflects on `h` (its `norm_x ≠ 0`), then for every `θ > 0` there is a positive rescaling of `h` on
which `norm_x < θ` and the pass still reflects, with the same `tau`, and produces the scaled result
with the same update of `q` — so a test such as `norm_x < 1e-12 { continue }` would skip an input
the algorithm handles exactly as it handles `h`. -/
theorem step_smul_below_any_threshold (sqrt : K → K)
    (hs : ∀ x : K, 0 ≤ x → sqrt x * sqrt x = x ∧ 0 ≤ sqrt x)
    (n k : Nat) (hk : k + 1 < n) (s : Mat K × Mat K) (hh : s.1.h = n) (hw : s.1.w = n)
    (hne : (reflOf sqrt n k s.1).norm ≠ 0) (θ : K) (hθ : 0 < θ) :
    ∃ c : K, 0 < c ∧ (reflOf sqrt n k (smul s.1 c)).norm < θ ∧
      (reflOf sqrt n k (smul s.1 c)).norm ≠ 0 ∧
      (reflOf sqrt n k (smul s.1 c)).tau = (reflOf sqrt n k s.1).tau ∧
      step sqrt n k (smul s.1 c, s.2) = scaleRes c (step sqrt n k s) := by
  have hpos : 0 < (reflOf sqrt n k s.1).norm :=
    lt_of_le_of_ne (hs _ (colNormSq_nonneg n k s.1)).2 (Ne.symm hne)
  have hc : 0 < θ / 2 / (reflOf sqrt n k s.1).norm := div_pos (half_pos hθ) hpos
  obtain ⟨h1, _, h4⟩ := reflOf_smul_of_sign sqrt hs n k hk s.1 hh hw _ _ hc rfl
    (by rw [signOf_scale _ _ hc])
  refine ⟨_, hc, ?_, ?_, h4, step_smul sqrt hs n k hk s hh hw _ hc⟩
  · rw [h1, mul_div_assoc', mul_div_cancel_left₀ _ hne]
    exact half_lt_self hθ
  · rw [h1]
    exact mul_ne_zero hne hc.ne'

/-! ### non-vacuity, evaluated by the kernel over `ℚ`

`sq` is an exact square root on the perfect squares that occur (and `0` elsewhere); the matrix is
chosen so that every `colNormSq` of both runs is one of them. -/

/-- a rational "square root" exact on `0, 25, 225` -/
private def sq (x : Rat) : Rat := if x = 25 then 5 else if x = 225 then 15 else 0

/-- the 3×3 matrix with first column `(1, 3, 4)ᵀ`: one reflecting pass, `norm_x = 5` -/
private def A0 : Mat Rat := ⟨3, 3, #[1, 2, 3, 3, 1, 0, 4, 0, 1]⟩

/-- the run on `A0` reflects: `H[1][0] = -5` (that is `sign·norm_x`), `H[2][0] = 0`, and `Q ≠ I` -/
example : (match hessenberg sq A0 with
    | .ok (H, Q) => H.get 1 0 == -5 && H.get 2 0 == 0 && Q.get 1 1 == -3 / 5 | _ => false) = true := by
  decide +kernel

/-- … and the run on `3·A0` (`norm_x = 15`): `H` is 3 times the `H` of `A0`, `Q` is the same -/
example : (match hessenberg sq (smul A0 3), hessenberg sq A0 with
    | .ok (H', Q'), .ok (H, Q) => H'.a == (smul H 3).a && Q'.a == Q.a && H'.get 1 0 == -15
    | _, _ => false) = true := by
  decide +kernel

example : (match hessenberg sq (smul (⟨1, 2, #[1, 2]⟩ : Mat Rat) 3) with
    | .error .nonSquare => true | _ => false) = true := by
  decide +kernel

/-- negative factor, pivot `3 ≠ 0`: `H` of `(-3)·A0` is `-3` times the `H` of `A0`, same `Q`
(an instance of `step_smul_neg`: order 3 has a single pass) -/
example : (match hessenberg sq (smul A0 (-3)), hessenberg sq A0 with
    | .ok (H', Q'), .ok (H, Q) => H'.a == (smul H (-3)).a && Q'.a == Q.a
    | _, _ => false) = true := by
  decide +kernel

/-- negative factor, pivot `= 0` (first column `(1, 0, 5)ᵀ`): the hypothesis of `step_smul_neg`
cannot be dropped — the two runs return different `Q` -/
example : (match hessenberg sq (smul (⟨3, 3, #[1, 2, 3, 0, 1, 0, 5, 0, 1]⟩ : Mat Rat) (-1)),
      hessenberg sq (⟨3, 3, #[1, 2, 3, 0, 1, 0, 5, 0, 1]⟩ : Mat Rat) with
    | .ok (_, Q'), .ok (_, Q) => Q'.a != Q.a && Q.get 1 2 == -1 && Q'.get 1 2 == 1
    | _, _ => false) = true := by
  decide +kernel

example (A : Mat ℝ) (c : ℝ) (hc : 0 < c) :
    hessenberg Real.sqrt (smul A c) = (hessenberg Real.sqrt A).map (scaleRes c) :=
  hessenberg_smul Real.sqrt (fun x hx => ⟨Real.mul_self_sqrt hx, Real.sqrt_nonneg x⟩) A c hc

end SV.Props.C14Scale
