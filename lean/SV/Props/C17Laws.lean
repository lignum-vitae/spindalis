import SV.Lemmas.C17Simple
/-!
Structural laws of the model's printer of the simple (coefficient list) polynomial,
`SV.C17.displaySimple` (`Display for SimplePolynomial`), for every coefficient list and every number
formatter `fmt`.

The model receives every coefficient as an `Item` (sign class, `|c| = 1` flag, formatter text of `|c|`).
`itemsOf fmt cs` builds the items of a rational coefficient list `cs` for an arbitrary formatter `fmt`;
nothing else about a coefficient reaches the printer.
-/
namespace SV.Props.C17Laws
open SV SV.Text SV.C17

/-- the item of the coefficient `c` under the formatter `fmt`: sign class, the unit test `|c| == 1`, and
the formatter's text of the magnitude -/
def itemOf (fmt : ℚ → List Char) (c : ℚ) : Item := ⟨signOfQ c, decide (|c| = 1), fmt |c|⟩

def itemsOf (fmt : ℚ → List Char) (cs : List ℚ) : List Item := cs.map (itemOf fmt)

/-- two items the printer cannot tell apart: same sign class and, unless that class is "zero", same unit
flag and same formatter text -/
def SameItem (a b : Item) : Prop :=
  a.sign = b.sign ∧ (a.sign ≠ .zero → a.isOne = b.isOne ∧ a.text = b.text)

/-- the pieces of text the loop appends, in the order it appends them -/
def pieces (prec : Bool) (v : Char) : Bool → List (Nat × Item) → List (List Char)
  | _, [] => []
  | first, (i, it) :: rest =>
    if it.sign = .zero then pieces prec v first rest
    else piece prec v first i it :: pieces prec v false rest

/-- the powers of the printed terms, in the order they are printed -/
def printedPowers (items : List Item) : List Nat :=
  ((((List.range items.length).zip items).reverse).filter (fun p => p.2.sign ≠ .zero)).map Prod.fst

private theorem piece_congr (prec : Bool) (v : Char) (first : Bool) (i : Nat) {a b : Item}
    (hs : a.sign = b.sign) (ho : a.isOne = b.isOne) (ht : a.text = b.text) :
    piece prec v first i a = piece prec v first i b := by
  unfold piece; rw [hs, ho, ht]

private theorem go_congr (prec : Bool) (v : Char) {l l' : List (Nat × Item)}
    (h : List.Forall₂ (fun p q => p.1 = q.1 ∧ SameItem p.2 q.2) l l') (first : Bool) (acc : List Char) :
    displaySimple.go prec v l first acc = displaySimple.go prec v l' first acc := by
  induction h generalizing first acc with
  | nil => rfl
  | @cons p q l l' hpq _ ih =>
    rcases p with ⟨i, a⟩
    rcases q with ⟨j, b⟩
    obtain ⟨hij, hs, hr⟩ := hpq
    simp only at hij hs hr
    subst hij
    rw [go_cons, go_cons]
    by_cases hz : a.sign = .zero
    · rw [if_pos hz, if_pos (hs ▸ hz)]; exact ih first acc
    · rw [if_neg hz, if_neg (hs ▸ hz), piece_congr prec v first i hs (hr hz).1 (hr hz).2]
      exact ih false _

private theorem zip_forall₂ {R : Item → Item → Prop} {l l' : List Item} (h : List.Forall₂ R l l')
    (ns : List Nat) :
    List.Forall₂ (fun p q : Nat × Item => p.1 = q.1 ∧ R p.2 q.2) (ns.zip l) (ns.zip l') := by
  induction h generalizing ns with
  | nil => simp
  | cons hab _ ih =>
    cases ns with
    | nil => simp
    | cons n ns => exact List.Forall₂.cons ⟨rfl, hab⟩ (ih ns)

/-- **The printer sees a coefficient only through its item.**  If two item lists agree position by
position in the sign class and, at the non-zero positions, in the unit flag and in the formatter's
text, the printed texts are equal (same precision mode, same variable). -/
theorem display_congr (prec : Bool) (var : Option Char) {items items' : List Item}
    (h : List.Forall₂ SameItem items items') :
    displaySimple prec var items = displaySimple prec var items' := by
  unfold displaySimple
  simp only
  rw [h.length_eq]
  exact go_congr prec _ (List.forall₂_reverse_iff.mpr (zip_forall₂ h _)) true []

/-- For every formatter `fmt`: if two coefficient lists agree
position by position in the sign / zero pattern and, at the non-zero positions, in whether the
magnitude is exactly 1 and in the formatter's output on the magnitude (`fmt |c| = fmt |c'|`), then the
printed texts are equal.  The only magnitude test of the printer is `|c| = 1` (coefficient elision);
there is no other magnitude-dependent path: whole numbers, huge numbers etc. all go through `fmt`. -/
theorem display_uses_formatter_uniformly (fmt : ℚ → List Char) (prec : Bool) (var : Option Char)
    {cs cs' : List ℚ}
    (h : List.Forall₂ (fun c c' => signOfQ c = signOfQ c' ∧
      (c ≠ 0 → ((|c| = 1 ↔ |c'| = 1) ∧ fmt |c| = fmt |c'|))) cs cs') :
    displaySimple prec var (itemsOf fmt cs) = displaySimple prec var (itemsOf fmt cs') := by
  apply display_congr
  unfold itemsOf
  rw [List.forall₂_map_left_iff, List.forall₂_map_right_iff]
  refine h.imp ?_
  intro c c' ⟨hs, hr⟩
  refine ⟨hs, fun hz => ?_⟩
  have hc : c ≠ 0 := fun h0 => hz (signOfQ_zero.mpr h0)
  obtain ⟨h1, ht⟩ := hr hc
  exact ⟨by simp only [itemOf]; exact decide_eq_decide.mpr h1, ht⟩

/-- A coefficient list without a non-zero entry (in particular the empty one)
prints as `"0"`, whatever the formatter, the precision mode and the variable are (the formatter is not
consulted). -/
theorem display_zero (fmt : ℚ → List Char) (prec : Bool) (var : Option Char) (cs : List ℚ)
    (h : ∀ c ∈ cs, c = 0) : displaySimple prec var (itemsOf fmt cs) = ['0'] := by
  apply displaySimple_zero
  intro it hit
  obtain ⟨c, hc, rfl⟩ := List.mem_map.mp hit
  exact signOfQ_zero.mpr (h c hc)

private theorem pieces_eq (prec : Bool) (v : Char) (first : Bool) (l : List (Nat × Item)) :
    pieces prec v first l = match printed l with
      | [] => []
      | p :: ps => piece prec v first p.1 p.2 :: ps.map fun p => piece prec v false p.1 p.2 := by
  induction l generalizing first with
  | nil => rfl
  | cons p rest ih =>
    obtain ⟨i, it⟩ := p
    by_cases hz : it.sign = .zero
    · rw [pieces, if_pos hz, printed_cons_zero rest hz, ih]
    · rw [pieces, if_neg hz, printed_cons_nonzero rest hz, ih]
      cases printed rest <;> rfl

/-- The printed text is `"0"` if no coefficient is non-zero, and otherwise
the concatenation of one piece of text per non-zero coefficient (`pieces`; the first one without the
`" + "` separator): the number of pieces is the number of non-zero coefficients, and the powers of
the pieces (`printedPowers`) are strictly decreasing — highest power first. -/
theorem display_term_count (prec : Bool) (var : Option Char) (items : List Item) :
    let ps := pieces prec (var.getD 'x') true ((List.range items.length).zip items).reverse
    displaySimple prec var items = (if ps = [] then ['0'] else ps.flatten) ∧
    ps.length = items.countP (fun it => it.sign ≠ .zero) ∧
    (printedPowers items).length = ps.length ∧
    (printedPowers items).Pairwise (· > ·) := by
  have hcount : (printed (pairs items).reverse).length = items.countP (fun it => it.sign ≠ .zero) := by
    rw [printed_reverse, List.length_reverse, printed, ← List.countP_eq_length_filter]
    have : items = (pairs items).map Prod.snd := by
      rw [pairs, List.map_snd_zip]; simp
    conv_rhs => rw [this, List.countP_map]
    rfl
  have hlen : (pieces prec (var.getD 'x') true (pairs items).reverse).length =
      (printed (pairs items).reverse).length := by
    rw [pieces_eq]
    cases printed (pairs items).reverse
    · rfl
    · rw [List.length_cons, List.length_map, List.length_cons]
  refine ⟨?_, hlen.trans hcount, ?_, ?_⟩
  · show _ = if pieces prec (var.getD 'x') true (pairs items).reverse = [] then ['0']
      else (pieces prec (var.getD 'x') true (pairs items).reverse).flatten
    rw [displaySimple_eq, pieces_eq]
    cases printed (pairs items).reverse
    · rfl
    · rw [if_neg (List.cons_ne_nil _ _), List.flatten_cons, ← List.flatMap_def]
  · exact (List.length_map _).trans hlen.symm
  · unfold printedPowers
    have hsub : List.Sublist
        (((((List.range items.length).zip items).reverse).filter (fun p => p.2.sign ≠ .zero)).map
          Prod.fst) (List.range items.length).reverse := by
      have h1 := (List.filter_sublist (p := fun p : Nat × Item => p.2.sign ≠ .zero)
        (l := ((List.range items.length).zip items).reverse)).map Prod.fst
      refine h1.trans ?_
      rw [List.map_reverse, List.map_fst_zip]
      simp
    refine List.Pairwise.sublist hsub ?_
    rw [List.pairwise_reverse]
    exact List.pairwise_lt_range

/-- **A constant polynomial prints exactly the formatter's text.**  For `c ≠ 0` the one-coefficient list
`[c]` prints as the (fraction-trimmed, under a precision) text `fmt |c|`, preceded by `" - "` if `c < 0`:
whole numbers, numbers above `2^64` etc. take no other path. -/
theorem display_const (fmt : ℚ → List Char) (prec : Bool) (var : Option Char) {c : ℚ} (hc : c ≠ 0) :
    displaySimple prec var (itemsOf fmt [c]) =
      (if c < 0 then " - ".toList else []) ++ numText prec (fmt |c|) := by
  have hp : printed (pairs (itemsOf fmt [c])).reverse = [(0, itemOf fmt c)] :=
    printed_cons_nonzero [] fun h => hc (signOfQ_zero.mp h)
  rw [displaySimple_eq, hp]
  show piece prec _ true 0 (itemOf fmt c) ++ [] = _
  rw [List.append_nil]
  by_cases hn : c < 0
  · simp [piece, itemOf, signOfQ_neg.mpr hn, hn]
  · simp [piece, itemOf, signOfQ_pos.mpr (lt_of_le_of_ne (not_lt.mp hn) (Ne.symm hc)), hn]

/-- a whole coefficient under a precision is printed through the formatter (here a formatter writing
`"3.00"` for 3, trimmed to `"3"` by the printer), negative sign as the separator -/
example : displaySimple true none (itemsOf (fun _ => "3.00".toList) [-3]) = " - 3".toList := by
  rw [display_const _ _ _ (by norm_num)]; norm_num; decide +kernel


example : displaySimple false none (itemsOf (fun _ => "9".toList) [0, 0, 0]) = "0".toList :=
  display_zero _ _ _ _ (by simp)

/-- two different coefficient lists on which a (coarse) formatter agrees print the same text -/
example : displaySimple true none (itemsOf (fun q => if q < 10 then "s".toList else "b".toList) [3, 0, -20, 1]) =
    displaySimple true none (itemsOf (fun q => if q < 10 then "s".toList else "b".toList) [7 / 2, 0, -(2 ^ 70), 1]) := by
  apply display_uses_formatter_uniformly
  decide +kernel

/-- a concrete text: `1 + 0 x − 2.5 x² + x³` prints highest power first, two separators, unit elided -/
example : displaySimple false none
    [⟨.pos, true, "1".toList⟩, ⟨.zero, false, "0".toList⟩, ⟨.neg, false, "2.5".toList⟩, ⟨.pos, true, "1".toList⟩]
    = "x^3 - 2.5x^2 + 1".toList := by decide +kernel

example : printedPowers
    [⟨.pos, true, "1".toList⟩, ⟨.zero, false, "0".toList⟩, ⟨.neg, false, "2.5".toList⟩, ⟨.pos, true, "1".toList⟩]
    = [3, 2, 0] := by decide +kernel

/-- "The printed text never contains `+ -`" is NOT a law of the model for every formatter: the printer folds the sign of the
coefficient into the separator, but it does not inspect the formatter's text, so a formatter that
emits a leading `-` (it is only ever called on magnitudes) would give `"+ -"`.  The law needs a
hypothesis on `fmt` (no `+` / `-` in its output) and on the variable character. -/
example : displaySimple false none [⟨.pos, false, "-3".toList⟩, ⟨.pos, false, "2".toList⟩]
    = "2x + -3".toList := by decide +kernel

end SV.Props.C17Laws
