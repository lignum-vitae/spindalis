import SV.Lemmas.C19Yield
/-!
# C19 — the tree is the conventional reading of exactly the given tokens

`PR e ts k` (`SV.Lemmas.C19Yield`) is the conventional precedence grammar as an inductive relation: the
tree `e` reads the token list `ts` and holds together at (doubled) level `k`.

* `parse_reading`: the tree `parseTokens` returns is a precedence reading of the whole
  implied-multiplied token list: binary nodes have a left operand at least as tight and a right operand
  strictly tighter than their operator (so `*` `/` bind tighter than `+` `-`, `^` tighter still, equal
  powers associate to the left — with `SV.Props.C19.precedence_order`), unary minus takes an operand
  tighter than `*` `/`, a function takes exactly its parenthesised argument, `!` a primary.
* `parse_yield`: read in order, the tree lists exactly the given tokens, parentheses dropped and `·`
  written `*`.
* The literal statement of the design notes — "the tree read in order *with parentheses where flagged* is
  the token string" — does not hold and is not what is proved: `(x)` and `x`, `((x+y))` and `(x+y)` give
  the same tree (`redundant_parens_same_tree`); the tree records a parenthesis only as the flag of a
  binary node.  `PR.paren` is the exact account: a parenthesised reading sets the flag of the tree it
  encloses.
* `unary_minus_operand`, `right_operand_tighter`, `left_operand_at_least`: the precedence facts read off a
  reading, for use without looking at `PR`.
-/
namespace SV.Props.C19Yield
open SV SV.C19

variable {N : Type}

/-- **The parsed tree is a conventional precedence reading of exactly the tokens given** (after the
implied-multiplication pass). -/
theorem parse_reading (ts : List (Tok N)) (e : Expr N) (h : parseTokens ts = .ok e) :
    ∃ k, PR e (impliedMul ts) k := by
  have hR := (parseTokens_iff_R ts e).mp h
  obtain ⟨p, k, h1, h2, -⟩ := R_pr hR
  rw [List.append_nil] at h1
  exact ⟨k, h1 ▸ h2⟩

theorem parse_yield (ts : List (Tok N)) (e : Expr N) (h : parseTokens ts = .ok e) :
    flat e = stripParens (impliedMul ts) := by
  obtain ⟨k, hk⟩ := parse_reading ts e h
  exact hk.flat_eq

/-- parentheses around an atom, and doubled parentheses, leave no trace in the tree -/
theorem redundant_parens_same_tree :
    parseTokens [Tok.lp, .var "x", .rp] = parseTokens [Tok.var "x" (N := Nat)] ∧
    parseTokens [Tok.lp, .lp, .var "x", .op .add, .var "y", .rp, .rp] =
      parseTokens [Tok.lp, .var "x", .op .add, .var "y" (N := Nat), .rp] := by
  constructor <;> rfl

/-- In a reading, the operand of a unary minus is never an unparenthesised `+`, `-` or `/` node, and a `*`
node only when its operator token is the `·` of a juxtaposition (`-2x`): the minus applies to the
following factor only. -/
theorem unary_minus_operand {o : Op} {l r : Expr N} {ts : List (Tok N)} {k : Nat}
    (h : PR (.pre .sub (.bin o l r false)) ts k) : o ≠ .add ∧ o ≠ .sub ∧ o ≠ .div ∧
      ∃ o0, o = (if o0 = .cdot then .mul else o0) ∧ SV.Gen.unaryMinPow ≤ bp o0 := by
  generalize he : Expr.pre Op.sub (.bin o l r false) = e at h
  induction h with
  | num | var | const | func | post | bin => cases he
  | paren h ih => exact ih (setParen_eq_pre he.symm).symm
  | neg M hv hM hk _ =>
    cases he
    obtain ⟨o0, ho, hlev, -⟩ := hv.bin_inv
    have hb : SV.Gen.unaryMinPow ≤ bp o0 := by
      have := bp_le_five o0
      rcases hk with hk | hk
      · rw [hlev] at hk; unfold top at hk; omega
      · omega
    -- an operator looser than the unary minus power is not the operand's, unless it is the `*` that `·` becomes
    have key : ∀ q, bp q < SV.Gen.unaryMinPow → q ≠ .mul → o ≠ q := by
      rintro q hq hqm rfl
      split at ho
      · exact hqm ho
      · rw [← ho] at hb; omega
    exact ⟨key .add (by decide) (by decide), key .sub (by decide) (by decide),
      key .div (by decide) (by decide), o0, ho, hb⟩

/-- In a reading, an unparenthesised binary right operand binds strictly tighter than its parent
(so operators of equal power associate to the left). -/
theorem right_operand_tighter {o o' : Op} {a l r : Expr N} {ts : List (Tok N)} {k : Nat}
    (h : PR (.bin o a (.bin o' l r false) false) ts k) :
    ∃ p p', o = (if p = .cdot then .mul else p) ∧ o' = (if p' = .cdot then .mul else p') ∧ bp p < bp p' := by
  obtain ⟨p, ho, -, _, _, _, _, -, hr, -, hkr⟩ := h.bin_inv
  obtain ⟨p', ho', hlev, -⟩ := hr.bin_inv
  exact ⟨p, p', ho, ho', by omega⟩

/-- …and an unparenthesised binary left operand at least as tightly. -/
theorem left_operand_at_least {o o' : Op} {b l r : Expr N} {ts : List (Tok N)} {k : Nat}
    (h : PR (.bin o (.bin o' l r false) b false) ts k) :
    ∃ p p', o = (if p = .cdot then .mul else p) ∧ o' = (if p' = .cdot then .mul else p') ∧ bp p ≤ bp p' := by
  obtain ⟨p, ho, -, _, _, _, _, hl, -, hkl, -⟩ := h.bin_inv
  obtain ⟨p', ho', hlev, -⟩ := hl.bin_inv
  exact ⟨p, p', ho, ho', by omega⟩

/-! non-vacuity: `x / -y * z` is `(x / (-y)) * z`, `-x^2` is `-(x^2)`, `sin(x)^2` is `(sin x)^2` -/

example : parseTokens [Tok.var "x" (N := Nat), .op .div, .op .sub, .var "y", .op .mul, .var "z"] =
    .ok (.bin .mul (.bin .div (.var "x") (.pre .sub (.var "y")) false) (.var "z") false) := by rfl
example : parseTokens [Tok.op .sub (N := Nat), .var "x", .op .caret, .num 2] =
    .ok (.pre .sub (.bin .caret (.var "x") (.num 2) false)) := by rfl
example : parseTokens [Tok.func .sin (N := Nat), .lp, .var "x", .rp, .op .caret, .num 2] =
    .ok (.bin .caret (.func .sin (.var "x")) (.num 2) false) := by rfl

end SV.Props.C19Yield
