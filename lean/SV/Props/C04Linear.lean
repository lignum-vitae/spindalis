import SV.Model.C04
import SV.Lemmas.C04
import SV.Lemmas.C04Nat
import SV.Props.C04
/-!
# C04 — `indefinite_integral_simple` / `_intermediate` are linear and act term by term

Dense lists (`simpleInteg`): homogeneity, the power rule at every position, additivity for
`List.zipWith (· + ·)`, which cuts at the shorter list (pad first: `simpleInteg_pad`); hence
`analytical_integral` on the dense type is linear in the polynomial.

Sparse lists (`integInter`): the integral of a concatenation is the concatenation of the integrals,
and the single-term law is by *name*: on a term with strictly sorted variables, integrating in `v`
divides the coefficient by the new exponent and raises the exponent of the entry named `v`
(`bump v`), whatever sits before it.  `2a^0xy` integrated in `x` is `a^0x^2y` (`witness_a0xy`);
dropping the `a^0` factor first and then updating "the same index" would give `xy^2`.

No hypothesis on the characteristic: the statements are about the divisions the code performs.
-/

namespace SV.Props.C04Linear
open SV SV.Poly SV.C03 SV.C04 SV.C04Nat SV.Props.C04

section simple
variable {K : Type} [Field K]

private theorem integFrom_map_mul (c : K) (k : ℕ) (cs : List K) :
    integFrom k (cs.map (c * ·)) = (integFrom k cs).map (c * ·) := by
  induction cs generalizing k with
  | nil => rfl
  | cons a cs ih => simp only [List.map_cons, integFrom, ih, mul_div_assoc]

theorem simpleInteg_smul (c : K) (cs : List K) :
    simpleInteg (cs.map (c * ·)) = (simpleInteg cs).map (c * ·) := by
  simp only [simpleInteg, List.map_cons, integFrom_map_mul, mul_zero]

theorem simpleInteg_length (cs : List K) : (simpleInteg cs).length = cs.length + 1 := by
  simp only [simpleInteg, List.length_cons, integFrom_length]

/-- coefficient `0` is `0` (no constant of integration); past the end both sides are `none` -/
theorem simpleInteg_coeff (cs : List K) :
    (simpleInteg cs)[0]? = some 0 ∧
    ∀ k : ℕ, (simpleInteg cs)[k + 1]? = cs[k]?.map (fun a => a / ((k : K) + 1)) := by
  refine ⟨rfl, fun k => ?_⟩
  simp only [simpleInteg, List.getElem?_cons_succ, integFrom_getElem?, Nat.zero_add]

theorem simpleInteg_getElem (cs : List K) (k : ℕ) (hk : k < cs.length) :
    (simpleInteg cs)[k + 1]'(by rw [simpleInteg_length]; omega) = cs[k] / ((k : K) + 1) := by
  have h := (simpleInteg_coeff cs).2 k
  rw [List.getElem?_eq_getElem (by rw [simpleInteg_length]; omega), List.getElem?_eq_getElem hk] at h
  simpa using h

private theorem integFrom_zipWith_add (k : ℕ) (cs ds : List K) :
    integFrom k (List.zipWith (· + ·) cs ds)
      = List.zipWith (· + ·) (integFrom k cs) (integFrom k ds) := by
  induction cs generalizing k ds with
  | nil => simp [integFrom]
  | cons a cs ih =>
    cases ds with
    | nil => simp [integFrom]
    | cons b ds => simp only [List.zipWith_cons_cons, integFrom, ih, add_div]

/-- `zipWith` is the sum of the polynomials only for equal lengths; otherwise both sides are cut at
the shorter list in the same way — pad first, `simpleInteg_pad`. -/
theorem simpleInteg_add (cs ds : List K) :
    simpleInteg (List.zipWith (· + ·) cs ds)
      = List.zipWith (· + ·) (simpleInteg cs) (simpleInteg ds) := by
  simp only [simpleInteg, List.zipWith_cons_cons, integFrom_zipWith_add, add_zero]

private theorem integFrom_replicate_zero (k n : ℕ) :
    integFrom k (List.replicate n (0 : K)) = List.replicate n 0 := by
  induction n generalizing k with
  | zero => rfl
  | succ n ih => simp only [List.replicate_succ, integFrom, ih, zero_div]

private theorem integFrom_append (k : ℕ) (cs ds : List K) :
    integFrom k (cs ++ ds) = integFrom k cs ++ integFrom (k + cs.length) ds := by
  induction cs generalizing k with
  | nil => simp [integFrom]
  | cons a cs ih =>
    simp only [List.cons_append, integFrom, ih, List.length_cons]
    have : k + 1 + cs.length = k + (cs.length + 1) := by omega
    rw [this]

theorem simpleInteg_pad (cs : List K) (n : ℕ) :
    simpleInteg (cs ++ List.replicate n 0) = simpleInteg cs ++ List.replicate n 0 := by
  simp only [simpleInteg, integFrom_append, integFrom_replicate_zero, List.cons_append]

theorem simpleInteg_add_padded (cs ds : List K) (n : ℕ) :
    simpleInteg (List.zipWith (· + ·) (cs ++ List.replicate n 0) ds)
      = List.zipWith (· + ·) (simpleInteg cs ++ List.replicate n 0) (simpleInteg ds) := by
  rw [simpleInteg_add, simpleInteg_pad]

end simple

section bump
variable {K : Type} [Field K]

/-- the exponent of every entry named `v` raised by one, all other entries left as they are -/
def bump (v : String) (vs : List (String × K)) : List (String × K) :=
  vs.map fun a => if a.1 = v then (a.1, a.2 + 1) else a

private theorem bump_of_not_mem {v : String} {vs : List (String × K)} (h : v ∉ names vs) :
    bump v vs = vs := by
  induction vs with
  | nil => rfl
  | cons a vs ih =>
    simp only [names, List.map_cons, List.mem_cons, not_or] at h
    have ha : ¬ a.1 = v := fun e => h.1 e.symm
    have ih' := ih h.2
    simp only [bump, List.map_cons, ha, if_false] at ih' ⊢
    rw [ih']

private theorem bump_split {v : String} {pre post : List (String × K)} (p : K)
    (hpre : v ∉ names pre) (hpost : v ∉ names post) :
    bump v (pre ++ (v, p) :: post) = pre ++ (v, p + 1) :: post := by
  have h1 := bump_of_not_mem hpre
  have h2 := bump_of_not_mem hpost
  simp only [bump, List.map_append, List.map_cons, if_true] at h1 h2 ⊢
  rw [h1, h2]

theorem names_bump (v : String) (vs : List (String × K)) : names (bump v vs) = names vs := by
  simp only [names, bump, List.map_map]
  apply List.map_congr_left
  intro a _
  simp only [Function.comp]
  split <;> rfl

/-- `integTerm` (which acts on the first occurrence of `v`) in terms of `bump` (which acts on every
entry named `v`): `Nodup` makes the first occurrence the only one. -/
theorem integTerm_present {v : String} {t : Term K} (hnd : (names t.vars).Nodup) {p : K}
    (hp : (v, p) ∈ t.vars) : integTerm v t = ⟨t.coef / (p + 1), bump v t.vars⟩ := by
  obtain ⟨pre, post, hvs, hpre, hpost⟩ := exists_split hnd hp
  rw [integTerm_split hvs hpre, hvs, bump_split p hpre hpost]

end bump

section inter
variable {K : Type} [Field K] [LinearOrder K]
set_option linter.unusedSectionVars false

theorem integInter_append (ts₁ ts₂ : List (Term K)) (v : String) :
    (integInter (ts₁ ++ ts₂) v).terms = (integInter ts₁ v).terms ++ (integInter ts₂ v).terms := by
  simp only [integInter, List.map_append]

theorem integInter_length (ts : List (Term K)) (v : String) :
    (integInter ts v).terms.length = ts.length := by
  simp only [integInter, List.length_map]

theorem bump_getElem? (v : String) (vs : List (String × K)) (i : ℕ) :
    (bump v vs)[i]? = vs[i]?.map (fun a => if a.1 = v then (a.1, a.2 + 1) else a) := by
  simp only [bump, List.getElem?_map]

/-- Single-term law of `indefinite_integral_intermediate`, by name, at position `i` of a term list.
`sort_poly` changes nothing because `bump` keeps the names (`names_bump`) and they are sorted (the
`TermsWF` invariant). -/
theorem integInter_getElem? {v : String} {ts : List (Term K)} (hwf : TermsWF ts) (i : ℕ) {t : Term K}
    (ht : ts[i]? = some t) {p : K} (hp : (v, p) ∈ t.vars) :
    (integInter ts v).terms[i]? = some ⟨t.coef / (p + 1), bump v t.vars⟩ := by
  have hs := hwf t (List.mem_of_getElem? ht)
  simp only [integInter, List.getElem?_map, ht, Option.map_some]
  rw [integTerm_present (strictSorted_nodup hs) hp]
  simp only
  rw [sortVars_of_sorted (by rw [names_bump]; exact hs)]

/-- `integInter_getElem?` on a single term -/
theorem integInter_single {v : String} {t : Term K} (hs : strictSorted (names t.vars) = true) {p : K}
    (hp : (v, p) ∈ t.vars) :
    (integInter [t] v).terms = [⟨t.coef / (p + 1), bump v t.vars⟩] :=
  congrArg (fun y => [y]) (Option.some.inj
    (integInter_getElem? (ts := [t]) (fun u hu => List.mem_singleton.1 hu ▸ hs) 0 rfl hp))

/-- `integInter_single` without `bump`, as membership -/
theorem integInter_single_mem {v : String} {t : Term K} (hs : strictSorted (names t.vars) = true)
    {p : K} (hp : (v, p) ∈ t.vars) :
    ∃ t', (integInter [t] v).terms = [t'] ∧ t'.coef = t.coef / (p + 1) ∧
      names t'.vars = names t.vars ∧
      (∀ q, (v, q) ∈ t'.vars ↔ q = p + 1) ∧
      (∀ w q, w ≠ v → ((w, q) ∈ t'.vars ↔ (w, q) ∈ t.vars)) := by
  obtain ⟨pre, post, hvs, hpre, hpost⟩ := exists_split (strictSorted_nodup hs) hp
  refine ⟨_, integInter_single hs hp, rfl, names_bump v t.vars, fun q => ?_, fun w q hw => ?_⟩
  · rw [hvs, bump_split p hpre hpost]
    exact mem_split_self hpre hpost
  · rw [hvs, bump_split p hpre hpost, mem_split_other hw, mem_split_other hw]

/-- `v` absent: coefficient kept, `v^1` inserted at its sorted position -/
theorem integInter_single_absent {v : String} {t : Term K} (hs : strictSorted (names t.vars) = true)
    (hv : v ∉ names t.vars) :
    ∃ vs', (integInter [t] v).terms = [⟨t.coef, vs'⟩] ∧ strictSorted (names vs') = true ∧
      vs'.Perm ((v, 1) :: t.vars) := by
  have hnd := nodup_integTerm (strictSorted_nodup hs) v
  rw [integTerm_absent hv] at hnd
  refine ⟨sortVars (t.vars ++ [(v, 1)]), ?_, strictSorted_sortVars hnd,
    (sortVars_perm _).trans (List.perm_append_singleton _ _)⟩
  rw [integInter_cons, integTerm_absent hv]
  rfl

end inter

/-- `2 a^0 x y` integrated in `x` is `a^0 x^2 y`: the exponent of `x` is raised although the factor
`a^0` sorts before it -/
theorem witness_a0xy :
    (integInter [(⟨2, [("a", 0), ("x", 1), ("y", 1)]⟩ : Term ℚ)] "x").terms
      = [⟨1, [("a", 0), ("x", 2), ("y", 1)]⟩] := by
  rw [integInter_single (p := 1) (by decide) (by simp)]
  have h1 : ¬ "a" = "x" := by decide
  have h2 : ¬ "y" = "x" := by decide
  norm_num [bump, h1, h2]

/-- … and not `x y^2` (the index of `x` applied after the `a^0` factor has been dropped), with or
without the `a^0` factor -/
theorem witness_a0xy_not_shifted :
    (integInter [(⟨2, [("a", 0), ("x", 1), ("y", 1)]⟩ : Term ℚ)] "x").terms
        ≠ [⟨1, [("a", 0), ("x", 1), ("y", 2)]⟩] ∧
    (integInter [(⟨2, [("a", 0), ("x", 1), ("y", 1)]⟩ : Term ℚ)] "x").terms
        ≠ [⟨1, [("x", 1), ("y", 2)]⟩] := by
  rw [witness_a0xy]
  constructor <;> simp

/-- `witness_a0xy` by evaluation of `integTerm`, independent of `integInter_single` -/
example : integTerm "x" (⟨2, [("a", 0), ("x", 1), ("y", 1)]⟩ : Term ℚ)
    = ⟨1, [("a", 0), ("x", 2), ("y", 1)]⟩ := by
  have h1 : ¬ "a" = "x" := by decide
  norm_num [integTerm, integVars, h1]

/-- … and of the whole `integInter`, `sort_poly` included -/
example : (integInter [(⟨2, [("a", 0), ("x", 1), ("y", 1)]⟩ : Term ℚ)] "x").terms.map
      (fun t => (t.coef, t.vars)) = [(1, [("a", 0), ("x", 2), ("y", 1)])] := by
  have h1 : ¬ "a" = "x" := by decide
  have hs : sortVars [("a", (0 : ℚ)), ("x", 1 + 1), ("y", 1)]
      = [("a", 0), ("x", 1 + 1), ("y", 1)] := sortVars_of_sorted (by decide)
  simp only [integInter, integTerm, integVars, h1, List.map_cons, List.map_nil, if_false, if_true, hs]
  norm_num

section evalsimple
variable {K : Type} [Field K]

theorem evalSimple_smul (c : K) (cs : List K) (x : K) :
    evalSimple (cs.map (c * ·)) x = c * evalSimple cs x := by
  rw [evalSimple_eq, evalSimple_eq, ofCoeffs, ofCoeffsFrom_map_mul, Polynomial.eval_mul,
    Polynomial.eval_C, ofCoeffs]

theorem evalSimple_add (cs ds : List K) (hl : cs.length = ds.length) (x : K) :
    evalSimple (List.zipWith (· + ·) cs ds) x = evalSimple cs x + evalSimple ds x := by
  rw [evalSimple_eq, evalSimple_eq, evalSimple_eq, ofCoeffs_zipWith_add cs ds hl, Polynomial.eval_add]

theorem evalSimple_pad (cs : List K) (n : ℕ) (x : K) :
    evalSimple (cs ++ List.replicate n 0) x = evalSimple cs x := by
  rw [evalSimple_eq, evalSimple_eq, ofCoeffs_pad]

end evalsimple

section analytical
variable {K : Type} [Field K]

theorem analytical_simple (powf : K → K → K) (cs : List K) (var : Option Char) (a b : K) :
    analytical powf (.simple ⟨cs, var⟩) a b
      = .ok (evalSimple (simpleInteg cs) b - evalSimple (simpleInteg cs) a) := rfl

/-- equal lengths, because of `zipWith`: pad the shorter list with `analytical_pad` -/
theorem analytical_add (powf : K → K → K) (cs ds : List K) (hl : cs.length = ds.length)
    (v₁ v₂ v₃ : Option Char) (a b u w : K)
    (h1 : analytical powf (.simple ⟨cs, v₁⟩) a b = .ok u)
    (h2 : analytical powf (.simple ⟨ds, v₂⟩) a b = .ok w) :
    analytical powf (.simple ⟨List.zipWith (· + ·) cs ds, v₃⟩) a b = .ok (u + w) := by
  rw [analytical_simple] at h1 h2 ⊢
  cases h1
  cases h2
  have hl' : (simpleInteg cs).length = (simpleInteg ds).length := by
    rw [simpleInteg_length, simpleInteg_length, hl]
  rw [simpleInteg_add, evalSimple_add _ _ hl', evalSimple_add _ _ hl']
  congr 1
  ring

variable [LinearOrder K]
set_option linter.unusedSectionVars false

theorem analytical_smul (powf : K → K → K) (c : K) (cs : List K) (var var' : Option Char) (a b u : K)
    (h : analytical powf (.simple ⟨cs, var⟩) a b = .ok u) :
    analytical powf (.simple ⟨cs.map (c * ·), var'⟩) a b = .ok (c * u) := by
  rw [analytical_simple] at h ⊢
  cases h
  rw [simpleInteg_smul, evalSimple_smul, evalSimple_smul, mul_sub]

theorem analytical_pad (powf : K → K → K) (cs : List K) (n : ℕ) (var : Option Char) (a b : K) :
    analytical powf (.simple ⟨cs ++ List.replicate n 0, var⟩) a b
      = analytical powf (.simple ⟨cs, var⟩) a b := by
  rw [analytical_simple, analytical_simple, simpleInteg_pad, evalSimple_pad, evalSimple_pad]

theorem analytical_linear (powf : K → K → K) (c d : K) (cs ds : List K) (hl : cs.length = ds.length)
    (var : Option Char) (a b u w : K)
    (h1 : analytical powf (.simple ⟨cs, var⟩) a b = .ok u)
    (h2 : analytical powf (.simple ⟨ds, var⟩) a b = .ok w) :
    analytical powf (.simple ⟨List.zipWith (· + ·) (cs.map (c * ·)) (ds.map (d * ·)), var⟩) a b
      = .ok (c * u + d * w) :=
  analytical_add powf _ _ (by simp only [List.length_map, hl]) var var var a b _ _
    (analytical_smul powf c cs var var a b u h1) (analytical_smul powf d ds var var a b w h2)

end analytical

example : simpleInteg (([1, -2, 3] : List ℚ).map (2 * ·)) = [0, 2, -2, 2] := by
  rw [simpleInteg_smul]; norm_num [simpleInteg, integFrom]

example : (simpleInteg ([1, -2, 3] : List ℚ))[3]? = some 1 := by
  rw [(simpleInteg_coeff _).2 2]; norm_num

example : analytical (fun _ _ => (0 : ℚ)) (.simple ⟨([0, 0, 3] : List ℚ).map (2 * ·), none⟩) 0 1
    = .ok (2 * 1) := by
  apply analytical_smul (var := none)
  rw [analytical_simple]
  congr 1
  decide +kernel

end SV.Props.C04Linear
