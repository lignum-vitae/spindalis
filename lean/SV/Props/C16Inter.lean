import SV.Props.C02
import SV.Lemmas.C16InterSem
/-!
# C16 (multivariate parser) — total, and acceptance implies fidelity

Property theorems about the model `SV.C02.parse` of `parse_intermediate_polynomial`
(spindalis_core/src/polynomials/intermediate.rs) on **arbitrary** text — the converse of
`SV.Props.C02.parse_render_inter`:

* `inter_accepts_only_grammar`   whatever is accepted is, after removal of white space, *exactly* the
                                 rendering of a list of well-formed terms of the documented grammar in
                                 which a letter may be written more than once per term (`TermSyn.WF'`):
                                 no character is dropped, nothing outside that language is accepted.
                                 No assumption on the Unicode classes is needed in this direction.
* `inter_accepts_iff_grammar`    for `Sane` classes the accepted language *is* that language
* `inter_accepts_means`          … and the returned polynomial is the meaning of that reading: one term
                                 per written term; coefficient `± value` (`±1` if absent); variables =
                                 the letters written, sorted, each once, each with the **sum** of the
                                 exponents of its occurrences; `variables` = the sorted set of letters
* `inter_means_every_reading`    … whichever reading of the text is taken (`Sane` classes)
* `inter_accepts_evaluates`      … so evaluation gives `Σ_t coef_t · Π_occurrences value^exponent` for
                                 every power function additive in the exponent on the exponents used
                                 (`inter_accepts_evaluates_int`: integer exponents over ℚ, non-zero
                                 values, `powf x a = x ^ a.num`); for terms without a repeated letter no
                                 hypothesis on the power function is needed (`SV.Props.C02`)
* `inter_accepted_chars`, `inter_no_dangling_operator`   every character of an accepted text (white
                                 space aside) is an ASCII digit, an ASCII letter or one of `. / ^ + -`;
                                 the last one is a digit, `.` or a letter — never `+ - ^ /`
* `inter_total`                  the parser answers `error` or `ok p`; `p` has at most one term per
                                 `+`-separated part of the normalised text (≤ 2·length + 1) and every
                                 term at most as many variables as the text has characters

Vocabulary: `TermSyn`, `Coef`, `Expo`, `Factor`, `render`, `sgn` in `SV.Lemmas.C02Grammar`;
`TermSyn.WF'` (= `TermSyn.WF` minus distinctness) there too; `TermMeans`, `expoSum`,
`factorsProd`, `Additive`, `toTerm` in `SV.Lemmas.C16InterSem`.
-/
namespace SV.Props.C16Inter
open SV SV.Poly SV.Text SV.C02 SV.C16Inter

/-- **Nothing outside the grammar is accepted and no character is dropped.**  If the parser accepts
`s`, the white-space-free text is character for character the rendering of a list of well-formed
terms (sign, optional decimal or fractional coefficient, ASCII letters each with an optional decimal
or fractional, optionally negative exponent; a letter may repeat), the empty list only for the empty
text.  `*`, parentheses, `#`, `@`, a second sign, a dangling operator, a digit after a variable, a
non-ASCII letter or digit: none of them occurs in a rendering, so all are rejected.  Holds for every
classification `cc` of the Unicode predicates. -/
theorem inter_accepts_only_grammar {cc : CharClass} {s : List Char} {p : IParsed}
    (h : C02.parse cc s = .ok p) :
    ∃ (lead : Bool) (ts : List TermSyn), (∀ t ∈ ts, t.WF') ∧ stripWs cc s = render lead ts ∧
      (ts = [] ↔ stripWs cc s = []) := by
  obtain ⟨lead, ts, hwf, hs, _⟩ := parse_inv h
  refine ⟨lead, ts, hwf, hs, ?_⟩
  rw [hs]
  exact (render_eq_nil_iff hwf).symm

/-- **The accepted language, exactly** (for classes satisfying `Sane`, e.g. the driver's
`stdClass`): a text is accepted iff its white-space-free form is a rendering of well-formed terms in
which letters may repeat. -/
theorem inter_accepts_iff_grammar {cc : CharClass} (hcc : Sane cc) (s : List Char) :
    (∃ p, C02.parse cc s = .ok p) ↔
      ∃ (lead : Bool) (ts : List TermSyn), (∀ t ∈ ts, t.WF') ∧ stripWs cc s = render lead ts := by
  simp only [parse_eq_ok_iff_render hcc.numeric]
  exact ⟨fun ⟨_, l, ts, h1, h2, _⟩ => ⟨l, ts, h1, h2⟩, fun ⟨l, ts, h1, h2⟩ => ⟨_, l, ts, h1, h2, rfl⟩⟩

/-- **Acceptance implies fidelity.**  If the parser accepts `s` and returns `p`, there is a reading of
the text in the grammar (`stripWs cc s = render lead ts`, `ts` well-formed, letters may repeat) and `p`
is the meaning of that reading: the terms of `p` correspond one to one, in order, to the written terms,
each with the written signed coefficient value and with the written letters as variables — sorted, each
once, carrying the sum of the exponents of its occurrences (`TermMeans`); `p.variables` is the sorted,
duplicate-free list of all letters written. -/
theorem inter_accepts_means {cc : CharClass} {s : List Char} {p : IParsed}
    (h : C02.parse cc s = .ok p) :
    ∃ (lead : Bool) (ts : List TermSyn), (∀ t ∈ ts, t.WF') ∧ stripWs cc s = render lead ts ∧
      List.Forall₂ TermMeans p.terms ts ∧
      p.variables.Pairwise (· ≤ ·) ∧ p.variables.Nodup ∧
      ∀ n, n ∈ p.variables ↔ ∃ t ∈ ts, ∃ f ∈ t.factors, n = String.singleton f.letter := by
  obtain ⟨lead, ts, hwf, hs, rfl⟩ := parse_inv h
  exact ⟨lead, ts, hwf, hs, forall₂_read ts (fun t _ => termMeans_read t), variables_sorted _,
    nodup_variablesOf _, mem_variablesOf_read ts⟩

/-- **The meaning does not depend on the reading chosen**: for `Sane` classes, if `s` is accepted then
for *every* reading of the text in the grammar (letters may repeat) the returned terms are the
meanings of the written terms — so the existential of `inter_accepts_means` hides no ambiguity. -/
theorem inter_means_every_reading {cc : CharClass} (hcc : Sane cc) {s : List Char} {p : IParsed}
    (h : C02.parse cc s = .ok p) (lead : Bool) (ts : List TermSyn) (hwf : ∀ t ∈ ts, t.WF')
    (hs : stripWs cc s = render lead ts) : List.Forall₂ TermMeans p.terms ts := by
  cases Except.ok.inj (h.symm.trans (parse_render' hcc.numeric lead ts hwf s hs))
  exact forall₂_read ts (fun t _ => termMeans_read t)

private theorem termVal_read {powf : ℚ → ℚ → ℚ} {g : String → ℚ} {E : ℚ → Prop}
    (hE : ∀ a b, E a → E b → E (a + b)) (hadd : Additive powf g E) (t : TermSyn)
    (hfs : ∀ f ∈ t.factors, E f.expValue) :
    SV.Props.C02.termVal powf g (toTerm t.read) =
      sgn t.neg * t.coef.value * factorsProd powf g t.factors := by
  have h := read_prod hE hadd t hfs
  unfold varsProd at h
  simp only [SV.Props.C02.termVal, toTerm, List.map_map]
  rw [read_coef]
  congr 1

/-- **The returned polynomial takes exactly the values of the conventional reading.**  With the reading
`ts` of the accepted text: for every power function `powf` that is additive in the exponent
(`powf x (a+b) = powf x a · powf x b` at the assigned values) on a set `E` of exponents closed under
`+` and containing the written ones, and every assignment `σ` binding the written letters, evaluating
the returned terms gives `Σ_t ± value(coef_t) · Π_{occurrences of letters in t} powf (value letter)
exponent` — a repeated letter multiplies.  (Additivity is what makes `x·x` equal `x²`; it holds for
`f64::powf` on positive values up to rounding, for integer exponents at non-zero values, for
non-negative integer exponents everywhere.  For terms without a repeated letter it is not used.) -/
theorem inter_accepts_evaluates {cc : CharClass} {s : List Char} {p : IParsed}
    (h : C02.parse cc s = .ok p) :
    ∃ (lead : Bool) (ts : List TermSyn), (∀ t ∈ ts, t.WF') ∧ stripWs cc s = render lead ts ∧
      ∀ (powf : ℚ → ℚ → ℚ) (E : ℚ → Prop) (σ : List (String × ℚ)) (g : String → ℚ),
        (∀ a b, E a → E b → E (a + b)) → Additive powf g E →
        (∀ t ∈ ts, ∀ f ∈ t.factors, E f.expValue) →
        (∀ t ∈ ts, ∀ f ∈ t.factors,
          lookup σ (String.singleton f.letter) = some (g (String.singleton f.letter))) →
        evalTerms powf (p.terms.map toTerm) σ =
          .ok ((ts.map fun t => sgn t.neg * t.coef.value * factorsProd powf g t.factors).sum) := by
  obtain ⟨lead, ts, hwf, hs, rfl⟩ := parse_inv h
  refine ⟨lead, ts, hwf, hs, fun powf E σ g hE hadd hexp hbound => ?_⟩
  rw [SV.Props.C02.eval_eq_sum_prod powf _ σ g]
  · rw [List.map_map, List.map_map]
    congr 2
    apply List.map_congr_left
    intro t ht
    exact termVal_read hE hadd t (hexp t ht)
  · intro tm htm q hq
    obtain ⟨it, hit, rfl⟩ := List.mem_map.1 htm
    obtain ⟨t, ht, rfl⟩ := List.mem_map.1 hit
    obtain ⟨v, hv, rfl⟩ := List.mem_map.1 hq
    obtain ⟨f, hf, hn⟩ := (mem_read_names t v.1).1 (List.mem_map.2 ⟨v, hv, rfl⟩)
    simp only [hn]
    exact hbound t ht f hf

def zpowf (x a : ℚ) : ℚ := x ^ a.num

/-- **Integer exponents over ℚ**: if every written exponent is an integer and every assigned value is
non-zero, the returned polynomial evaluates (with `powf x a = x ^ a.num`, the integer power) to
`Σ_t ± value(coef_t) · Π_occurrences value(letter) ^ exponent`. -/
theorem inter_accepts_evaluates_int {cc : CharClass} {s : List Char} {p : IParsed}
    (h : C02.parse cc s = .ok p) :
    ∃ (lead : Bool) (ts : List TermSyn), (∀ t ∈ ts, t.WF') ∧ stripWs cc s = render lead ts ∧
      ∀ (σ : List (String × ℚ)) (g : String → ℚ), (∀ n, g n ≠ 0) →
        (∀ t ∈ ts, ∀ f ∈ t.factors, ∃ k : ℤ, f.expValue = (k : ℚ)) →
        (∀ t ∈ ts, ∀ f ∈ t.factors,
          lookup σ (String.singleton f.letter) = some (g (String.singleton f.letter))) →
        evalTerms zpowf (p.terms.map toTerm) σ =
          .ok ((ts.map fun t => sgn t.neg * t.coef.value *
            (t.factors.map fun f => g (String.singleton f.letter) ^ f.expValue.num).prod).sum) := by
  obtain ⟨lead, ts, hwf, hs, heval⟩ := inter_accepts_evaluates h
  refine ⟨lead, ts, hwf, hs, fun σ g hg hint hbound => ?_⟩
  refine heval zpowf (fun a => ∃ k : ℤ, a = (k : ℚ)) σ g ?_ ?_ hint hbound
  · rintro a b ⟨k, rfl⟩ ⟨l, rfl⟩
    exact ⟨k + l, by push_cast; rfl⟩
  · rintro n a b ⟨k, rfl⟩ ⟨l, rfl⟩
    unfold zpowf
    rw [← Int.cast_add, Rat.num_intCast, Rat.num_intCast, Rat.num_intCast, zpow_add₀ (hg n)]

/-- Every character of an accepted text (white space aside) is an ASCII digit, an ASCII letter or one
of `. / ^ + -`: `*`, parentheses, `#`, `@`, `=`, non-ASCII letters and digits … make the parser answer
an error instead of being skipped. -/
theorem inter_accepted_chars {cc : CharClass} {s : List Char} {p : IParsed}
    (h : C02.parse cc s = .ok p) :
    ∀ c ∈ stripWs cc s, isAsciiDigit c = true ∨ isAsciiLetter c = true ∨ c = '.' ∨ c = '/' ∨
      c = '^' ∨ c = '+' ∨ c = '-' := by
  obtain ⟨lead, ts, hwf, hs, _⟩ := parse_inv h
  intro c hc
  rw [hs] at hc
  rcases mem_render hwf hc with h1 | h1 | h1 | h1 | h1 | h1 | h1
  · exact Or.inr (Or.inr (Or.inr (Or.inr (Or.inr (Or.inl h1)))))
  · exact Or.inl h1
  · exact Or.inr (Or.inl h1)
  · exact Or.inr (Or.inr (Or.inl h1))
  · exact Or.inr (Or.inr (Or.inr (Or.inl h1)))
  · exact Or.inr (Or.inr (Or.inr (Or.inr (Or.inr (Or.inr h1)))))
  · exact Or.inr (Or.inr (Or.inr (Or.inr (Or.inl h1))))

/-- Every letter of an accepted text is kept as a variable of the result. -/
theorem inter_letters_kept {cc : CharClass} {s : List Char} {p : IParsed}
    (h : C02.parse cc s = .ok p) :
    ∀ c ∈ stripWs cc s, isAsciiLetter c = true → String.singleton c ∈ p.variables := by
  obtain ⟨lead, ts, hwf, hs, _, _, _, hvars⟩ := inter_accepts_means h
  intro c hc hl
  obtain ⟨t, ht, f, hf, rfl⟩ := letter_of_mem_render hwf hl (hs ▸ hc)
  exact (hvars _).2 ⟨t, ht, f, hf, rfl⟩

/-- A text that ends (white space aside) in an operator is never accepted: the last character of an
accepted non-empty text is an ASCII digit, `.` or an ASCII letter — not `+`, `-`, `^` or `/`. -/
theorem inter_no_dangling_operator {cc : CharClass} {s : List Char} {p : IParsed}
    (h : C02.parse cc s = .ok p) (c : Char) (hc : (stripWs cc s).getLast? = some c) :
    (isAsciiDigit c = true ∨ c = '.' ∨ isAsciiLetter c = true) ∧
      c ≠ '+' ∧ c ≠ '-' ∧ c ≠ '^' ∧ c ≠ '/' := by
  obtain ⟨lead, ts, hwf, hs, _⟩ := parse_inv h
  rw [hs] at hc
  have hne : ts ≠ [] := by
    rintro rfl
    simp [render] at hc
  have hend := (endsOK_render lead hwf hne).2 c hc
  exact ⟨hend, hend.not_op⟩

/-- **Totality with the allocation bounds.**  On every character list the parser answers `error` or
`ok p` (the model has no other outcome: every slice index of the Rust code comes from a scan of the
same text), and in the second case `p` has at most one term per `+`-separated part of the normalised
text — at most `2·length + 1` — and every term has at most as many variables as the text has
characters. -/
theorem inter_total (cc : CharClass) (s : List Char) :
    (∃ e, C02.parse cc s = .error e) ∨
      (∃ p, C02.parse cc s = .ok p ∧
        p.terms.length ≤ (splitOn '+' (C02.normalize cc s)).length ∧
        (splitOn '+' (C02.normalize cc s)).length ≤ 2 * s.length + 1 ∧
        ∀ t ∈ p.terms, t.vars.length ≤ s.length) := by
  rcases h : C02.parse cc s with e | p
  · exact Or.inl ⟨e, rfl⟩
  · refine Or.inr ⟨p, rfl, ?_, ?_, ?_⟩
    · rw [parseParts_length _ _ (parse_eq_ok_iff.1 h).2.1]
      exact length_parts_le _
    · rw [splitOn_length]
      have h1 : (C02.normalize cc s).count '+' ≤ (C02.normalize cc s).length := List.count_le_length
      have h2 := length_protectDash_le (stripWs cc s) none
      have h3 : (stripWs cc s).length ≤ s.length := List.length_filter_le _ _
      unfold C02.normalize at h1 ⊢
      omega
    · obtain ⟨lead, ts, hwf, hs, rfl⟩ := parse_inv h
      intro it hit
      obtain ⟨t, ht, rfl⟩ := List.mem_map.1 hit
      have h1 := length_read_vars_le t
      have h2 := length_factors_le t.factors
      have h3 : (renderFactors t.factors).length ≤ t.body.length := by
        simp [TermSyn.body]
      have h4 := length_body_le (lead := lead) ht
      have h5 : (stripWs cc s).length ≤ s.length := List.length_filter_le _ _
      rw [← hs] at h4
      omega

/-- The one accepted text without any term: nothing but white space, read as the polynomial without
terms and without variables. -/
theorem inter_accepts_empty (cc : CharClass) {s : List Char} (hs : stripWs cc s = []) :
    C02.parse cc s = .ok ⟨[], []⟩ :=
  SV.Props.C02.parse_empty cc s hs

/-! ### non-vacuity: near-miss texts are rejected by the model, texts with repeated letters accepted -/

example : C02.parse stdClass "2x*3".toList = .error .unexpectedChar := by decide +kernel
example : C02.parse stdClass "2(x+1)".toList = .error .unexpectedChar := by decide +kernel
example : C02.parse stdClass "x#".toList = .error .unexpectedChar := by decide +kernel
example : C02.parse stdClass "x^@2".toList = .error .invalidExponent := by decide +kernel
example : C02.parse stdClass "x - -4".toList = .error .syntaxError := by decide +kernel
example : C02.parse stdClass "x^2 +".toList = .error .syntaxError := by decide +kernel
example : C02.parse stdClass "x^2 + + 1".toList = .error .syntaxError := by decide +kernel
example : C02.parse stdClass "x3^2".toList = .error .unexpectedChar := by decide +kernel
example : C02.parse stdClass "λ".toList = .error .unexpectedChar := by decide +kernel
example : C02.parse stdClass "1e5x".toList = .error .unexpectedChar := by decide +kernel
example : C02.parse stdClass "x^2/".toList = .error .invalidFractionalExponent := by decide +kernel
example : C02.parse stdClass "x^".toList = .error .invalidExponent := by decide +kernel
example : C02.parse stdClass "x^-".toList = .error .invalidExponent := by decide +kernel
example : C02.parse stdClass "x^1/-2".toList = .error .invalidFractionalExponent := by decide +kernel
example : C02.parse stdClass "3/-4x".toList = .error .invalidFraction := by decide +kernel
example : C02.parse stdClass "x^2^3".toList = .error .unexpectedChar := by decide +kernel
example : C02.parse stdClass "٣x".toList = .error .invalidCoefficient := by decide +kernel
example : C02.parse stdClass "x.5".toList = .error .unexpectedChar := by decide +kernel
example : ∃ p, C02.parse stdClass "xyx^2".toList = .ok p ∧ p.terms.length = 1 := by decide +kernel
example : ∃ p, C02.parse stdClass "xx".toList = .ok p ∧ p.terms.length = 1 := by decide +kernel
example : ∃ p, C02.parse stdClass "+ 3. - 1/2x^-1/2 y".toList = .ok p ∧ p.terms.length = 2 := by
  decide +kernel

private def u2 : C02.UDec := ⟨['2'], [], false⟩
/-- `xyx^2`: a well-formed term with a repeated letter -/
private def txyx : TermSyn :=
  ⟨false, .none, [⟨'x', none⟩, ⟨'y', none⟩, ⟨'x', some (.dec false u2)⟩]⟩

private theorem txyx_wf : txyx.WF' := by
  refine ⟨trivial, by decide, ?_, Or.inr (by simp [txyx])⟩
  intro f hf e he
  simp only [txyx, List.mem_cons, List.not_mem_nil, or_false] at hf
  rcases hf with rfl | rfl | rfl
  · cases he
  · cases he
  · cases he
    exact ⟨by decide, by decide, by decide, by decide⟩

/-- the reading of `"xyx^2"` and its meaning: `x` carries `1 + 2 = 3`, `y` carries `1` -/
example : txyx.WF' ∧ render false [txyx] = "xyx^2".toList ∧
    expoSum txyx.factors "x" = 3 ∧ expoSum txyx.factors "y" = 1 := by
  refine ⟨txyx_wf, by decide, ?_, ?_⟩ <;>
  · have h1 : String.singleton 'x' = "x" := rfl
    have h2 : String.singleton 'y' = "y" := rfl
    have h3 : ("y" : String) ≠ "x" := by decide
    have h4 : ("x" : String) ≠ "y" := by decide
    simp [expoSum, txyx, h1, h2, h3, h4, Factor.expValue, Expo.value, sgn, C02.UDec.value, C02.UDec.mant,
      u2, digitsVal, digitVal]
    try norm_num

end SV.Props.C16Inter
