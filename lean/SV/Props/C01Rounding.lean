import SV.Model.Poly
import SV.Lemmas.Rounding
import SV.Lemmas.RoundingPoly
import SV.Lemmas.RoundingNearest
import SV.Lemmas.RoundingEx
import SV.Props.C01
/-!
# C01, rounding half — "`eval` equals `Σ c_k x^k` up to floating-point rounding", as a theorem

`SV.Props.C01.eval_eq_sum` proves `evalSimple cs x = Σ_k c_k x^k` over every field (rounding error
0).  Here **the same definition** `SV.Poly.evalSimple` (the model of `eval_simple_polynomial`:
`coeffs.iter().enumerate().map(|(i,c)| c * x.powi(i)).sum()`) is run at the rounding scalar `Fl M`
of `SV.Lemmas.Rounding`, where every `+`, `×` is the exact real operation followed by a rounding
with relative error `≤ u`.

What the model does, counted (`n = cs.len() = degree + 1`): term `k` is `c_k * x.powi(k)`;
`powi` is compiler-rt's square-and-multiply loop (`powiLoop`), whose result carries **exactly `k`**
rounding factors (`SV.Poly.powiLoop_fac`: fewer multiplications than repeated multiplication —
at most `2·⌊log₂ k⌋ + 2` — but the rounding of a squaring is squared again later; the count comes
out at `k`, not `2·k`); then one multiplication by `c_k` and the `n − k` additions of the
left-to-right sum from `0`.  Every term therefore carries `k + 1 + (n − k) = n + 1` rounding
factors, and the constant is `γ_m` with

    m = n + 1 = degree + 2.

For binary64 `u = 2⁻⁵³`, so `γ_m ≈ (degree + 2)·1.1·10⁻¹⁶`.  The bound is relative to
`Σ |c_k|·|x|^k`, not to `|p(x)|`: near a root the *relative* error of `p(x)` is unbounded, as it
must be.  NOT covered: overflow (`x^k` beyond `1.8·10³⁰⁸`), underflow (a term or a power in the
subnormal range loses relative accuracy — for `|x| < 1` and large `k` this does happen), NaN/∞, and
the decimal→binary conversion of the coefficients by the parser (one more relative error `≤ u` per
coefficient, see `SV.Props.C01.parse_means` for what the coefficients are).
-/
namespace SV.Props.C01Rounding
open SV SV.Poly Finset

variable {M : FlModel}

/-- the model elaborates at the rounding scalar with no change -/
noncomputable example (cs : List (Fl M)) (x : Fl M) : Fl M := evalSimple cs x

/-- `x.powi(k)`, `k ≥ 0`, in floating point: `x^k·(1 + θ)`, `|θ| ≤ γ_k`. -/
theorem powi_rounding (x : Fl M) (k : ℕ) (hu : (k : ℝ) * M.u < 1) :
    |(powi x (k : Int)).val - x.val ^ k| ≤ M.gamma k * |x.val| ^ k := by
  obtain ⟨t, ht, hv⟩ := powi_nat_fac x k
  rw [hv, show x.val ^ k * t - x.val ^ k = (t - 1) * x.val ^ k by ring, abs_mul, abs_pow]
  exact mul_le_mul_of_nonneg_right (ht.abs_sub_one_le hu) (by positivity)

/-- **Componentwise weights.**  The computed value is `Σ_k c_k·x^k·t_k`, every `t_k` a product of
at most `n + 1` rounding factors (`n = cs.length`). -/
theorem eval_weights (cs : List (Fl M)) (x : Fl M) :
    M.WSum (range cs.length) (fun _ => cs.length + 1) (fun k => (cs.getD k 0).val * x.val ^ k)
      (evalSimple cs x).val := by
  obtain ⟨t, ht, hval⟩ := evalSimple_weights cs x
  exact .of_range ht hval

/-- **Backward form.**  If `(n+1)·u < 1`, the computed value is the *exact* value at `x` of a
polynomial whose coefficients are relative perturbations `c_k·(1 + θ_k)`, `|θ_k| ≤ γ_{n+1}`, of the
given ones. -/
theorem eval_backward (cs : List (Fl M)) (x : Fl M) (hu : ((cs.length + 1 : ℕ) : ℝ) * M.u < 1) :
    ∃ θ : ℕ → ℝ, (∀ k, |θ k| ≤ M.gamma (cs.length + 1)) ∧
      (evalSimple cs x).val
        = ∑ k ∈ range cs.length, ((cs.getD k 0).val * (1 + θ k)) * x.val ^ k := by
  obtain ⟨θ, hθ, hval⟩ := (eval_weights cs x).theta (fun _ _ => le_rfl) hu
  exact ⟨θ, hθ, hval.trans (Finset.sum_congr rfl fun k _ => by ring)⟩

/-- **Forward form — the rounding clause of property C01.**  If `(n+1)·u < 1`
(`n = cs.length = degree + 1`),
`|eval(cs, x) − Σ_k c_k x^k| ≤ γ_{n+1} · Σ_k |c_k|·|x|^k`. -/
theorem eval_rounding (cs : List (Fl M)) (x : Fl M) (hu : ((cs.length + 1 : ℕ) : ℝ) * M.u < 1) :
    |(evalSimple cs x).val - ∑ k ∈ range cs.length, (cs.getD k 0).val * x.val ^ k|
      ≤ M.gamma (cs.length + 1) * ∑ k ∈ range cs.length, |(cs.getD k 0).val| * |x.val| ^ k := by
  simpa only [abs_mul, abs_pow] using (eval_weights cs x).abs_sub_le (fun _ _ => le_rfl) hu

/-- The same bound between two instances of the one model: `evalSimple` run at `Fl M` against
`evalSimple` run at `ℝ` on the same data, the bound being `evalSimple` at `ℝ` on the absolute
values. -/
theorem eval_rounding_model (cs : List (Fl M)) (x : Fl M)
    (hu : ((cs.length + 1 : ℕ) : ℝ) * M.u < 1) :
    |(evalSimple cs x).val - evalSimple (cs.map Fl.val) x.val|
      ≤ M.gamma (cs.length + 1) * evalSimple (cs.map fun c => |c.val|) |x.val| := by
  have key : ∀ (f : Fl M → ℝ) (y : ℝ), ∑ k ∈ range cs.length, (cs.map f).getD k 0 * y ^ k
      = ∑ k ∈ range cs.length, f (cs.getD k 0) * y ^ k := fun f y =>
    Finset.sum_congr rfl fun k hk => by rw [getD_map_of_lt cs f 0 0 (by simpa using hk)]
  rw [SV.Props.C01.eval_eq_sum, SV.Props.C01.eval_eq_sum, List.length_map, List.length_map, key, key]
  exact eval_rounding cs x hu

/-- With exact arithmetic (`u = 0`) the bound collapses to the identity of
`SV.Props.C01.eval_eq_sum`. -/
theorem eval_rounding_ideal (cs : List (Fl FlModel.ideal)) (x : Fl FlModel.ideal) :
    (evalSimple cs x).val = ∑ k ∈ range cs.length, (cs.getD k 0).val * x.val ^ k :=
  (FlModel.eq_of_ideal_bound (eval_rounding cs x)).symm

/-- **binary64, numerically.**  For round-to-nearest with a 53-bit significand
(`FlModel.binary64`, no exponent limits) and fewer than `2⁵²` coefficients:
`|eval(cs, x) − Σ_k c_k x^k| ≤ (n+1)·2⁻⁵² · Σ_k |c_k|·|x|^k`, `n = cs.length`. -/
theorem eval_rounding_binary64 (cs : List (Fl FlModel.binary64)) (x : Fl FlModel.binary64)
    (hn : cs.length + 1 ≤ 2 ^ 52) :
    |(evalSimple cs x).val - ∑ k ∈ range cs.length, (cs.getD k 0).val * x.val ^ k|
      ≤ ((cs.length + 1 : ℕ) : ℝ) * (2⁻¹ : ℝ) ^ 52
        * ∑ k ∈ range cs.length, |(cs.getD k 0).val| * |x.val| ^ k :=
  FlModel.abs_le_binary64 hn (eval_rounding cs x)

/-- in a model with `u > 0` whose rounding is not the identity the hypothesis is satisfiable and the
computed value really differs from the exact one: `p = 1 + x` at `x = 1` with
`rnd t = t·(1 + 1/16)` (`u = 1/8`, `n = 2`, `3·u < 1`). -/
example : ∃ (M : FlModel) (cs : List (Fl M)) (x : Fl M), 0 < M.u ∧
    ((cs.length + 1 : ℕ) : ℝ) * M.u < 1 ∧
    (evalSimple cs x).val ≠ ∑ k ∈ range cs.length, (cs.getD k 0).val * x.val ^ k := by
  refine ⟨C09.Ex.M8, [1, 1], 1, C09.Ex.M8_pos, C09.Ex.M8_hyp (by decide), ?_⟩
  simp only [evalSimple, evalSimpleFrom, powi, powiLoop, List.length, sum_range_succ,
    sum_range_zero, List.getD_cons_zero, List.getD_cons_succ, Fl.add_val, Fl.mul_val, Fl.zero_val,
    Fl.one_val, C09.Ex.M8_rnd]
  norm_num [C09.Ex.M8_rnd]

end SV.Props.C01Rounding
