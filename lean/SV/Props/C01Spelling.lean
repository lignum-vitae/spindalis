import SV.Model.C01
import SV.Lemmas.Text
import SV.Lemmas.C01
import SV.Props.C01
/-!
# C01 — acceptance and meaning do not depend on how an exponent or a coefficient is SPELLED

The exponent reader of the model is `Text.parseUsizeCapped cap` (the text after `^` → `usize`, checked
against `MAX_POWER`); the coefficient reader is `Text.parseDec` with the value `Dec.val`.  Padding an
exponent with any number of leading zeros, padding the integer part of a coefficient with leading
zeros or its fraction part with trailing zeros, changes neither acceptance nor the value — for EVERY
amount of padding, so no rule about the *length* of such a text can be part of the behaviour.
-/
namespace SV.Props.C01Spelling
open SV SV.Poly SV.Text SV.C01 SV.Props.C01

private theorem zeros_digits (k : Nat) : ∀ c ∈ List.replicate k '0', isAsciiDigit c = true :=
  fun c hc => by rw [List.eq_of_mem_replicate hc]; rfl

/-- **The exponent reader ignores leading zeros, however many.**  For every non-empty exponent text
`ds` (digits or not), every cap and every `k`, reading `0…0ds` (`k` zeros) gives exactly what reading
`ds` gives: the same power, or the same refusal (non-digit text, or value above `MAX_POWER`).  There is
no bound on `k`: an exponent text of 20, 100 or 10⁶ characters is read like its short spelling, also
when the value is 0. -/
theorem exponent_leading_zeros (cap k : Nat) {ds : List Char} (hne : ds ≠ []) :
    parseUsizeCapped cap (List.replicate k '0' ++ ds) = parseUsizeCapped cap ds := by
  unfold parseUsizeCapped
  have h1 : (List.replicate k '0' ++ ds ≠ []) = (ds ≠ []) := by
    simp [hne]
  simp only [digitsVal_leading_zeros, List.all_append, all_digits (zeros_digits k), Bool.true_and, h1]

/-- The only text for which padding matters is the empty one: `x^` is refused, `x^0…0` is power 0. -/
theorem exponent_all_zeros (cap k : Nat) :
    parseUsizeCapped cap (List.replicate (k + 1) '0') = some 0 := by
  have h : List.replicate (k + 1) '0' = List.replicate k '0' ++ ['0'] := List.replicate_succ'
  rw [h, exponent_leading_zeros cap k (by simp)]
  rfl

/-- **One term, any coefficient text.**  For the part `c v^ds` of the normalised text (`c` any text
without the variable letter — a valid coefficient or not), padding the exponent with `k` zeros does not
change what the term reader returns: the same `(coefficient, power)` or the same error. -/
theorem parseTerm_exponent_padding (cap k : Nat) (v : Char) {c ds : List Char} (hc : v ∉ c)
    (hne : ds ≠ []) :
    parseTerm cap (some v) (c ++ v :: '^' :: (List.replicate k '0' ++ ds)) =
      parseTerm cap (some v) (c ++ v :: '^' :: ds) := by
  rw [parseTerm_var cap hc, parseTerm_var cap hc, parseTail, parseTail,
    exponent_leading_zeros cap k hne]

/-- pad the exponent text (if the term has one) with `k` leading zeros -/
def padExp (k : Nat) (t : TermSyn) : TermSyn :=
  match t.body with
  | .varPow ds => { t with body := .varPow (List.replicate k '0' ++ ds) }
  | _ => t

theorem padExp_num (k : Nat) (t : TermSyn) : (padExp k t).num = t.num := by
  unfold padExp; split <;> rfl

theorem padExp_pow (k : Nat) (t : TermSyn) : (padExp k t).pow = t.pow := by
  rcases t with ⟨neg, coef, body⟩
  cases body with
  | const => rfl
  | var => rfl
  | varPow ds => simp only [padExp, TermSyn.pow, Body.pow, digitsVal_leading_zeros]

theorem padExp_writesVar (k : Nat) (t : TermSyn) : (padExp k t).body.writesVar = t.body.writesVar := by
  rcases t with ⟨neg, coef, body⟩
  cases body <;> rfl

/-- padding the exponent keeps a term inside the grammar (the cap is on the VALUE, not on the text) -/
theorem padExp_wf {cap : Nat} (k : Nat) {t : TermSyn} (ht : t.WF cap) : (padExp k t).WF cap := by
  rcases t with ⟨neg, coef, body⟩
  cases body with
  | const => exact ht
  | var => exact ht
  | varPow ds =>
    obtain ⟨h1, h2, h3⟩ := ht.exp_wf ds rfl
    refine ⟨ht.coef_wf, fun h => by simp [padExp] at h, ?_⟩
    intro ds' hds'
    simp only [padExp, Body.varPow.injEq] at hds'
    subst hds'
    refine ⟨by simp [h1], ?_, by rw [digitsVal_leading_zeros]; exact h3⟩
    intro c hc
    exact (List.mem_append.1 hc).elim (zeros_digits k c) (h2 c)

/-- what the padded term looks like in the text: `c v^0…0ds` -/
theorem padExp_render (k : Nat) (v : Char) (neg : Bool) (coef : Option UDec) (ds : List Char) :
    (padExp k ⟨neg, coef, .varPow ds⟩).renderAbs v =
      renderCoef coef ++ v :: '^' :: (List.replicate k '0' ++ ds) := rfl

/-- `ts'` is `ts` with every exponent text padded by its own number of leading zeros -/
def ExpPadded (ts ts' : List TermSyn) : Prop := List.Forall₂ (fun t t' => ∃ k, t' = padExp k t) ts ts'

private theorem expPadded_terms {ts ts' : List TermSyn} (h : ExpPadded ts ts') :
    (ts'.map fun t => (t.num, t.pow)) = (ts.map fun t => (t.num, t.pow)) ∧
      writesVar ts' = writesVar ts := by
  unfold writesVar
  induction h with
  | nil => exact ⟨rfl, rfl⟩
  | cons hd _ ih =>
    obtain ⟨k, rfl⟩ := hd
    simp only [List.map_cons, List.any_cons, padExp_num, padExp_pow, padExp_writesVar, ih.1, ih.2,
      and_self]

theorem expPadded_wf {cap : Nat} {ts ts' : List TermSyn} (h : ExpPadded ts ts')
    (hwf : WellFormed cap ts) : WellFormed cap ts' := by
  induction h with
  | nil => exact hwf
  | cons hd _ ih =>
    obtain ⟨k, rfl⟩ := hd
    intro t ht
    rcases List.mem_cons.1 ht with rfl | ht
    · exact padExp_wf k (hwf _ List.mem_cons_self)
    · exact ih (fun t ht => hwf t (List.mem_cons_of_mem _ ht)) t ht

/-- **Padding exponents never changes the parse result.**  For every well-formed term list (any
number of terms, any coefficients, any order), in any spacing and with either leading-sign convention:
if `s'` is the same polynomial text with each exponent padded by its own, arbitrary number of leading
zeros, then `parse` returns the SAME `Except` value on `s'` as on `s` — the same coefficient
expressions (hence bit-identical `f64` vector) and the same variable.  The number of zeros is
unbounded, so the result cannot depend on the length of an exponent text: a rule such as "exponents of
20 or more characters are refused" contradicts this theorem. -/
theorem parse_exponent_padding {cc : CharClass} (hcc : cc.Sane) (cap : Nat) {v : Char}
    (hv : cc.isAlpha v = true) (lead lead' : Bool) {ts ts' : List TermSyn} (hwf : WellFormed cap ts)
    (hpad : ExpPadded ts ts') {s s' : List Char} (hs : stripWs cc s = render v lead ts)
    (hs' : stripWs cc s' = render v lead' ts') :
    parse cc cap s' = parse cc cap s ∧ ∃ p, parse cc cap s = .ok p := by
  have hvo := VarOK.of_alpha hcc hv
  obtain ⟨h1, h2⟩ := expPadded_terms hpad
  rw [parse_render_eq hcc hvo (expPadded_wf hpad hwf) (fun _ => hv) hs',
    parse_render_eq hcc hvo hwf (fun _ => hv) hs, h1, h2]
  exact ⟨rfl, _, rfl⟩

/-- The concrete instance: an exponent written with 20 characters.  `2x^00000000000000000003 + 3x + 4`
is accepted by the model with the driver's character classes and `MAX_POWER`, and is `[4, 3, 0, 2]`
(evaluated by the kernel). -/
theorem twenty_char_exponent :
    parse stdClass SV.Gen.simpleMaxPower "2x^00000000000000000003 + 3x + 4".toList =
      .ok ⟨[.add .zero (.dec ⟨false, 4, 0⟩), .add .zero (.dec ⟨false, 3, 0⟩), .zero,
        .add .zero (.dec ⟨false, 2, 0⟩)], some 'x'⟩ := by decide +kernel

/-- … with values `[4, 3, 0, 2]`. -/
example : ∃ p, parse stdClass SV.Gen.simpleMaxPower "2x^00000000000000000003 + 3x + 4".toList = .ok p ∧
    p.coeffs.map Num.val = [4, 3, 0, 2] := by
  refine ⟨_, twenty_char_exponent, ?_⟩
  norm_num [Num.val, Dec.val, Num.zero]

/-- the exponent reader on a 10⁶-character text, by the theorem (no evaluation) -/
example : parseUsizeCapped 65536 (List.replicate 1000000 '0' ++ ['3']) = some 3 := by
  rw [exponent_leading_zeros _ _ (by simp)]; rfl

private theorem parseTail_padding (cap k : Nat) (l : List Char) (d : Char) (f : List Char) :
    parseTail cap (l ++ '^' :: (List.replicate k '0' ++ d :: f)) = parseTail cap (l ++ '^' :: d :: f) := by
  cases l with
  | nil =>
    rw [List.nil_append, List.nil_append, parseTail, parseTail,
      exponent_leading_zeros cap k (List.cons_ne_nil d f)]
  | cons e l =>
    by_cases he : e = '^'
    · -- a second `^`: no exponent either way
      subst he
      rw [List.cons_append, List.cons_append, parseTail, parseTail,
        parseUsizeCapped_of_foreign cap (c := '^') (by simp) rfl,
        parseUsizeCapped_of_foreign cap (c := '^') (by simp) rfl]
    · rw [List.cons_append, List.cons_append, parseTail_cons_of_ne cap he, parseTail_cons_of_ne cap he]

/-- **One part of the normalised text, no side condition on the rest.**  For ANY text `l` before the
`^` and ANY non-empty text `d f` after it (valid or not), and any variable letter that is
not a digit or `^` (or no variable at all): padding the exponent with `k` zeros leaves the term reader's
answer unchanged — same `(coefficient, power)` or same error, in particular `InvalidExponent` for a value
above the cap however it is spelled. -/
theorem parseTerm_padding_any (cap k : Nat) (varc : Option Char)
    (hv : ∀ v, varc = some v → v ≠ '^' ∧ isAsciiDigit v = false) (l : List Char) (d : Char)
    (f : List Char) :
    parseTerm cap varc (l ++ '^' :: (List.replicate k '0' ++ d :: f)) =
      parseTerm cap varc (l ++ '^' :: d :: f) := by
  cases varc with
  | none =>
    rw [parseTerm_none, parseTerm_none,
      parseConst_of_foreign (c := '^') (by simp) rfl (by decide) (by decide),
      parseConst_of_foreign (c := '^') (by simp) rfl (by decide) (by decide)]
  | some v =>
    obtain ⟨hv1, hv2⟩ := hv v rfl
    by_cases hl : v ∈ l
    · -- the `^` stands after the variable: the padding is in the tail
      obtain ⟨l1, l2, rfl, hl1⟩ := List.eq_append_cons_of_mem hl
      rw [List.append_assoc, List.append_assoc, List.cons_append, List.cons_append,
        parseTerm_var cap hl1, parseTerm_var cap hl1, parseTail_padding cap k l2 d f]
    · -- the `^` stands before any variable: an error that only depends on whether one follows
      have hz : v ∈ List.replicate k '0' ++ d :: f ↔ v ∈ d :: f := by
        rw [List.mem_append, or_iff_right]
        intro h
        rw [zeros_digits k v h] at hv2
        cases hv2
      rw [parseTerm_of_foreign cap hl hv1 rfl (by decide) (by decide) (by decide),
        parseTerm_of_foreign cap hl hv1 rfl (by decide) (by decide) (by decide), if_congr hz rfl rfl]

/-- **Padding an exponent never changes the parse result — for EVERY input text.**  Let `s` be any text
(well formed or not) whose white-space-free form contains `^d…` with `d` an ASCII digit, and `s'` the
same text with `k` zeros inserted between that `^` and `d`.  Then the model returns the same `Except`
value on both: the same coefficient expressions and variable, or the same error (`InvalidExponent`
when the value exceeds `MAX_POWER`, or whatever error another part of the text causes).  `k` is
arbitrary, so no behaviour can depend on the length of the exponent text. -/
theorem parse_exponent_padding_any {cc : CharClass} (hcc : cc.Sane) (cap k : Nat) {a b : List Char}
    {d : Char} (hd : isAsciiDigit d = true) {s s' : List Char}
    (hs : stripWs cc s = a ++ '^' :: d :: b)
    (hs' : stripWs cc s' = a ++ '^' :: (List.replicate k '0' ++ d :: b)) :
    parse cc cap s' = parse cc cap s := by
  have hz : ∀ c, c ≠ '0' → c ∉ List.replicate k '0' := fun c hc h => hc (List.eq_of_mem_replicate h)
  -- both normalised texts are the same text around `^d` resp. `^0…0d`
  obtain ⟨pre, l, f, post, hparts⟩ := parts_insert (dashToPlusDash a) (dashToPlusDash b)
  have hn : normalize cc s = dashToPlusDash a ++ (['^', d] ++ dashToPlusDash b) := by
    rw [normalize, hs, dashToPlusDash_append, dashToPlusDash_cons_of_ne (by decide),
      dashToPlusDash_cons_of_ne (digit_ne_dash hd)]
    rfl
  have hn' : normalize cc s' =
      dashToPlusDash a ++ (('^' :: (List.replicate k '0' ++ [d])) ++ dashToPlusDash b) := by
    rw [normalize, hs', dashToPlusDash_append, dashToPlusDash_cons_of_ne (by decide),
      dashToPlusDash_append, dashToPlusDash_of_not_mem (hz '-' (by decide)),
      dashToPlusDash_cons_of_ne (digit_ne_dash hd)]
    simp
  have hp := hparts ['^', d] (List.cons_ne_nil _ _) (by
    simp only [List.mem_cons, List.not_mem_nil, or_false, not_or]
    exact ⟨by decide, fun e => digit_ne_plus hd e.symm⟩)
  have hp' := hparts ('^' :: (List.replicate k '0' ++ [d])) (List.cons_ne_nil _ _) (by
    simp only [List.mem_cons, List.mem_append, List.not_mem_nil, or_false, not_or]
    exact ⟨by decide, hz '+' (by decide), fun e => digit_ne_plus hd e.symm⟩)
  rw [← hn] at hp
  rw [← hn'] at hp'
  simp only [List.cons_append, List.nil_append, List.append_assoc] at hp hp'
  -- the variable is the same
  have hfind : (normalize cc s').find? cc.isAlpha = (normalize cc s).find? cc.isAlpha := by
    rw [hn, hn']
    simp [List.find?_append, List.find?_cons, hcc.not_alpha (c := '0') (Or.inl rfl)]
  have hvarc : ∀ v, (normalize cc s).find? cc.isAlpha = some v → v ≠ '^' ∧ isAsciiDigit v = false :=
    fun v h => ⟨(hcc.alpha_not_sym v (List.find?_some h)).2.2.2,
      hcc.alpha_not_digit v (List.find?_some h)⟩
  have hterm := parseTerm_padding_any cap k _ hvarc l d f
  -- neither form of the changed part is empty or a lone `-`
  have hX : ∀ t : List Char, '^' ∈ t → decide (t = [] ∨ t = ['-']) = false := by
    intro t ht
    rw [decide_eq_false_iff_not]
    rintro (rfl | rfl)
    · cases ht
    · exact absurd ht (by decide)
  simp only [parse, hp, hp', hfind, parseTerms_congr_mid hterm, List.any_append, List.any_cons,
    hX (l ++ '^' :: d :: f) (by simp), hX (l ++ '^' :: (List.replicate k '0' ++ d :: f)) (by simp)]

/-- … it is literally the result for `2x^3 + 3x + 4` … -/
theorem twenty_char_exponent_same :
    parse stdClass SV.Gen.simpleMaxPower "2x^00000000000000000003 + 3x + 4".toList =
      parse stdClass SV.Gen.simpleMaxPower "2x^3 + 3x + 4".toList :=
  parse_exponent_padding_any std_class_sane _ 19 (a := "2x".toList) (d := '3') (b := "+3x+4".toList)
    (by decide) (by decide +kernel) (by decide +kernel)


/-- the refusal of an over-large exponent is spelling-independent too: `x^0…070000` (10⁴ zeros) -/
example : parse stdClass 65536 ("3x^".toList ++ (List.replicate 10000 '0' ++ "70000 + 1".toList)) =
    .error .invalidExponent := by
  rw [parse_exponent_padding_any std_class_sane 65536 10000 (a := "3x".toList) (d := '7')
    (b := "0000+1".toList) (s := "3x^70000 + 1".toList) (by decide) (by decide +kernel)]
  · decide +kernel
  · rw [stripWs, List.filter_append, List.filter_append, List.filter_replicate]
    rfl

/-- the spelling `u` with `k` more leading zeros, `j` more trailing fraction zeros and the dot written
iff `d` (`7` → `007`, `7.`, `7.0`, `07.00`) -/
def padDec (k j : Nat) (d : Bool) (u : UDec) : UDec :=
  ⟨List.replicate k '0' ++ u.ip, u.fp ++ List.replicate j '0', d⟩

/-- a padded spelling is a plain decimal spelling again, provided the dot is written when there are
fraction digits -/
theorem padDec_wf {u : UDec} (hu : u.WF) (k j : Nat) {d : Bool}
    (hd : d = false → u.fp = [] ∧ j = 0) : (padDec k j d u).WF := by
  refine ⟨fun c hc => (List.mem_append.1 hc).elim (zeros_digits k c) (hu.ip_digits c),
    fun c hc => (List.mem_append.1 hc).elim (hu.fp_digits c) (zeros_digits j c), ?_, fun h => ?_⟩
  · rcases hu.some_digit with h | h
    · left; simp [padDec, h]
    · right; simp [padDec, h]
  · obtain ⟨h1, rfl⟩ := hd h
    simp [padDec, h1]

/-- **The value of a decimal spelling ignores padding zeros**: the model's decimal-value function
gives `0…0 ip . fp 0…0` (any `k` leading, any `j` trailing zeros, dot written or not) the value of
`ip . fp`. -/
theorem padDec_value (k j : Nat) (d : Bool) (u : UDec) : (padDec k j d u).value = u.value := by
  unfold UDec.value UDec.mant padDec
  have e : List.replicate k '0' ++ u.ip ++ (u.fp ++ List.replicate j '0') =
      (List.replicate k '0' ++ (u.ip ++ u.fp)) ++ List.replicate j '0' := by
    simp only [List.append_assoc]
  simp only [e, digitsVal_append (_ ++ _) (List.replicate j '0'), digitsVal_leading_zeros,
    digitsVal_zeros, List.length_append, List.length_replicate, Nat.add_zero, pow_add]
  push_cast
  exact mul_div_mul_right _ _ (pow_ne_zero _ (by norm_num))

/-- **The coefficient reader accepts every padded spelling and assigns it the same value.**  For a
plain decimal spelling `u` with optional `-`: `parseDec` accepts both the text of `u` and the text with
`k` leading zeros / `j` trailing fraction zeros, and the two `Dec`s it returns have the same exact
value (`Dec.val`, the rational that `f64::from_str` rounds).  So `7`, `007`, `7.`, `7.0`, `07.00` are
one coefficient. -/
theorem coefficient_padding {u : UDec} (hu : u.WF) (k j : Nat) {d : Bool}
    (hd : d = false → u.fp = [] ∧ j = 0) (neg : Bool) :
    ∃ a b, parseDec ((if neg then ['-'] else []) ++ u.render) = some a ∧
      parseDec ((if neg then ['-'] else []) ++ (padDec k j d u).render) = some b ∧
      b.val = a.val := by
  refine ⟨_, _, parseDec_render hu neg, parseDec_render (padDec_wf hu k j hd) neg, ?_⟩
  rw [Dec.val_mk, Dec.val_mk, padDec_value]

/-- the five spellings of seven, read by the model's coefficient reader and valued by `Dec.val` -/
example : (["7", "007", "7.", "7.0", "07.00"].map fun s => (parseDec s.toList).map Dec.val) =
    [some 7, some 7, some 7, some 7, some 7] := by
  have h : (["7", "007", "7.", "7.0", "07.00"].map fun s => parseDec s.toList) =
      [some ⟨false, 7, 0⟩, some ⟨false, 7, 0⟩, some ⟨false, 7, 0⟩, some ⟨false, 70, 1⟩,
        some ⟨false, 700, 2⟩] := by decide +kernel
  simp only [List.map_cons, List.map_nil, List.cons.injEq, and_true] at h ⊢
  obtain ⟨h1, h2, h3, h4, h5⟩ := h
  rw [h1, h2, h3, h4, h5]
  norm_num [Dec.val]

/-- two terms that denote the same power and the same signed coefficient, and both write the variable or
both do not — i.e. they differ at most in how numbers are spelled -/
def Respelled (t t' : TermSyn) : Prop :=
  t'.pow = t.pow ∧ t'.value = t.value ∧ t'.body.writesVar = t.body.writesVar

/-- pad the coefficient of a term (if it has one) -/
def padCoef (k j : Nat) (d : Bool) (t : TermSyn) : TermSyn :=
  { t with coef := t.coef.map (padDec k j d) }

theorem padCoef_respelled (k j : Nat) (d : Bool) (t : TermSyn) : Respelled t (padCoef k j d t) := by
  rcases t with ⟨neg, _ | u, body⟩
  · exact ⟨rfl, rfl, rfl⟩
  · refine ⟨rfl, ?_, rfl⟩
    show _ * (padDec k j d u).value = _ * u.value
    rw [padDec_value]
    rfl

/-- respellings compose -/
theorem Respelled.trans {a b c : TermSyn} (h1 : Respelled a b) (h2 : Respelled b c) : Respelled a c :=
  ⟨h2.1.trans h1.1, h2.2.1.trans h1.2.1, h2.2.2.trans h1.2.2⟩

/-- a term with a padded exponent denotes the same power and the same signed coefficient -/
theorem padExp_respelled (k : Nat) (t : TermSyn) : Respelled t (padExp k t) :=
  ⟨padExp_pow k t, by rw [← TermSyn.num_val, padExp_num, TermSyn.num_val], padExp_writesVar k t⟩

private theorem maxPow_respelled {ts ts' : List TermSyn} (h : List.Forall₂ Respelled ts ts') :
    maxPow ts' = maxPow ts := by
  unfold maxPow
  generalize 0 = m
  induction h generalizing m with
  | nil => rfl
  | cons hd _ ih => simp only [List.foldl_cons, hd.1, ih]

private theorem writesVar_respelled {ts ts' : List TermSyn} (h : List.Forall₂ Respelled ts ts') :
    writesVar ts' = writesVar ts := by
  unfold writesVar
  induction h with
  | nil => rfl
  | cons hd _ ih => simp only [List.any_cons, hd.2.2, ih]

private theorem sum_respelled {ts ts' : List TermSyn} (h : List.Forall₂ Respelled ts ts') (k : Nat) :
    ((ts'.filter fun t => decide (t.pow = k)).map TermSyn.value).sum =
      ((ts.filter fun t => decide (t.pow = k)).map TermSyn.value).sum := by
  induction h with
  | nil => rfl
  | cons hd _ ih =>
    simp only [List.filter_cons, hd.1]
    split <;> simp [hd.2.1, ih]

/-- **The meaning of a polynomial text does not depend on how its numbers are spelled.**  If two
well-formed term lists correspond term by term up to spelling (`Respelled`: same power, same signed
coefficient value — e.g. any `padExp`, any `padCoef`, or both), then in any spacing both texts are
accepted, with the same variable and the same vector of exact coefficient values (same length, same
entry at every position). -/
theorem parse_respelled {cc : CharClass} (hcc : cc.Sane) (cap : Nat) {v : Char}
    (hv : cc.isAlpha v = true) (lead lead' : Bool) {ts ts' : List TermSyn} (hwf : WellFormed cap ts)
    (hwf' : WellFormed cap ts') (h : List.Forall₂ Respelled ts ts') {s s' : List Char}
    (hs : stripWs cc s = render v lead ts) (hs' : stripWs cc s' = render v lead' ts') :
    ∃ p p', parse cc cap s = .ok p ∧ parse cc cap s' = .ok p' ∧ p'.var = p.var ∧
      p'.coeffs.map Num.val = p.coeffs.map Num.val := by
  obtain ⟨p, hp, hvar, hlen, hval⟩ := SV.Props.C01.parse_render hcc cap hv lead hwf hs
  obtain ⟨p', hp', hvar', hlen', hval'⟩ := SV.Props.C01.parse_render hcc cap hv lead' hwf' hs'
  refine ⟨p, p', hp, hp', ?_, ?_⟩
  · rw [hvar, hvar', writesVar_respelled h]
  · have hl : p'.coeffs.length = p.coeffs.length := by rw [hlen, hlen', maxPow_respelled h]
    apply List.ext_getElem (by simpa using hl)
    intro i h1 h2
    have e := hval' i
    rw [sum_respelled h i, ← hval i] at e
    simp only [List.length_map] at h1 h2
    simp only [List.getD_eq_getElem?_getD, List.getElem?_eq_getElem h1, List.getElem?_eq_getElem h2,
      Option.getD_some] at e
    simpa using e

/-- **Padding coefficients inside a polynomial**: each coefficient of a well-formed term list padded
with its own leading / trailing zeros (and the dot written or not, as long as the result is a plain
decimal spelling) — the text is still accepted and has the same variable and coefficient values. -/
theorem parse_coefficient_padding {cc : CharClass} (hcc : cc.Sane) (cap : Nat) {v : Char}
    (hv : cc.isAlpha v = true) (lead lead' : Bool) {ts ts' : List TermSyn} (hwf : WellFormed cap ts)
    (hwf' : WellFormed cap ts')
    (hpad : List.Forall₂ (fun t t' => ∃ k j d, t' = padCoef k j d t) ts ts') {s s' : List Char}
    (hs : stripWs cc s = render v lead ts) (hs' : stripWs cc s' = render v lead' ts') :
    ∃ p p', parse cc cap s = .ok p ∧ parse cc cap s' = .ok p' ∧ p'.var = p.var ∧
      p'.coeffs.map Num.val = p.coeffs.map Num.val := by
  refine parse_respelled hcc cap hv lead lead' hwf hwf' ?_ hs hs'
  exact hpad.imp fun t t' ⟨k, j, d, e⟩ => e ▸ padCoef_respelled k j d t

/-- `007.0x^002 + 003.0x + 004.0` is read like `7x^2 + 3x + 4` (instance of `parse_respelled`) -/
example : ∃ p p', parse stdClass 65536 "7x^2 + 3x + 4".toList = .ok p ∧
    parse stdClass 65536 "007.0x^002 + 003.0x + 004.0".toList = .ok p' ∧ p'.var = p.var ∧
      p'.coeffs.map Num.val = p.coeffs.map Num.val := by
  let ts : List TermSyn := [⟨false, some ⟨['7'], [], false⟩, .varPow ['2']⟩,
    ⟨false, some ⟨['3'], [], false⟩, .var⟩, ⟨false, some ⟨['4'], [], false⟩, .const⟩]
  have hwf : WellFormed 65536 ts := wellFormed_of_all (by decide +kernel)
  have hwf' : WellFormed 65536 (ts.map fun t => padExp 2 (padCoef 2 1 true t)) :=
    wellFormed_of_all (by decide +kernel)
  have h : List.Forall₂ Respelled ts (ts.map fun t => padExp 2 (padCoef 2 1 true t)) := by
    rw [List.forall₂_map_right_iff]
    exact List.forall₂_same.2 fun t _ => (padCoef_respelled 2 1 true t).trans (padExp_respelled 2 _)
  exact parse_respelled std_class_sane 65536 (v := 'x') (by decide) false false hwf hwf' h
    (by decide +kernel) (by decide +kernel)

end SV.Props.C01Spelling
