import SV.Model.C05
import SV.Lemmas.C05
import SV.Lemmas.Rounding
import SV.Lemmas.RoundingNearest
import SV.Lemmas.RoundingC05
import SV.Props.C05
/-!
# C05, rounding half — "composite Simpson is exact **(to rounding)** for degree ≤ 3", as a theorem

`SV.Props.C05.simpson_exact_cubic` proves over every field of characteristic 0 that
`definite_integral` returns the integral of a cubic for every `n ≥ 2` (rounding error 0).  Here
**the same definitions** `SV.C05.definiteIntegral` / `definiteIntegralP` (the model of
`definite_integral`, `simpson13`, `simpson38`, operation by operation in the order of the source)
are run at the rounding scalar `Fl M` of `SV.Lemmas.Rounding`, where every `+ − × ÷` and every
`usize as f64` / literal is the exact real operation followed by a rounding of relative error `≤ u`.

Notation: `H = (b − a)/n` the exact width, `ĥ = hFl a b n` the computed one (3 roundings);
`node13 ĥ a k`, `mid13 ĥ a k`, `node38 ĥ b j` the abscissae **as the code computes them** — the
running `xi += 2_f64*h`, the midpoints `xi − h`, and `end − h*3, end − h*2, end − h*1, end` —
(`SV.Lemmas.RoundingC05`); `simpsonSum n H F13 Fmid F38` the composite rule as `definite_integral`
arranges it for the segment count `n` (even: 1/3 rule; odd: 3/8 rule on the last three segments,
1/3 rule on the rest; `n = 3`: 3/8 rule alone) as a real expression in the sample values.

The count `m = ⌊n/2⌋ + 13` of the envelope `γ_m`: a sample takes part in at most 3 roundings inside
its panel (`4_f64*f`: cast and product, one addition), at most `n/2` additions of the running sum,
the 6 roundings of `h*sum/3_f64` (three of them in `h`), and the final `sum += …` (`0.0 + …` is
charged); in the 3/8 panel 5 + 8 + 2.  Literals are charged one rounding each (the model assumes
nothing about `rnd` except its relative accuracy; in IEEE small integers are exact, so the true
constant is smaller by 3 or 4 units).  The drift `D = 4·γ_{⌊n/2⌋+6}·max(|a|,|b|)` of the abscissae:
`xi` after `k` passes is a rounded sum of `a` and `k` copies of `2H`, `γ_{k+5}(|a| + 2k|H|)`.

NOT covered: `n = 1` (trapezoid), `IntermediatePolynomial`s (evaluated through `powf`), Romberg,
degrees above 3 (add the truncation term of `simpson_error_bound` to the envelope of
`simpson_rule_rounding_lipschitz`); overflow, underflow, NaN/∞, and the decimal→binary conversion
of the inputs — see the header of `SV.Lemmas.Rounding`.
-/
namespace SV.Props.C05Rounding
open SV SV.Poly SV.C05 Finset Polynomial

variable {M : FlModel}

/-- the model elaborates at the rounding scalar with no change -/
noncomputable example (powf : Fl M → Fl M → Fl M) (p : AnyPoly (Fl M)) (a b : Fl M) (n : ℕ) :
    Except IErr (Fl M) := definiteIntegralP powf p a b n

/-- **Rounding envelope of the composite rule.**  `g` is any floating-point integrand that cannot
fail, `n ≥ 2`, `(⌊n/2⌋+13)·u < 1`.  The value `definite_integral` computes differs from the rule
applied (with the exact width `H = (b−a)/n` and exact weights) to the sample values it obtained at
the abscissae it formed, by at most `γ_{⌊n/2⌋+13}` times the rule applied to their absolute values:
`|computed − (H/3)Σwᵢfᵢ| ≤ γ_m·(|H|/3)Σwᵢ|fᵢ|`. -/
theorem simpson_rule_rounding (f : Fl M → Except PErr (Fl M)) (g : Fl M → Fl M)
    (hf : ∀ x, f x = .ok (g x)) (a b : Fl M) (n : ℕ) (hn : 2 ≤ n)
    (hu : ((n / 2 + 13 : ℕ) : ℝ) * M.u < 1) :
    ∃ v, definiteIntegral f a b n = .ok v ∧
      |v.val - simpsonSum n ((b.val - a.val) / n)
          (fun k => (g (node13 (hFl a b n) a k)).val) (fun k => (g (mid13 (hFl a b n) a k)).val)
          (fun j => (g (node38 (hFl a b n) b j)).val)|
        ≤ M.gamma (n / 2 + 13) * simpsonSum n |(b.val - a.val) / n|
          (fun k => |(g (node13 (hFl a b n) a k)).val|)
          (fun k => |(g (mid13 (hFl a b n) a k)).val|)
          (fun j => |(g (node38 (hFl a b n) b j)).val|) := by
  obtain ⟨v, hv, hA⟩ := definiteIntegral_rounded (mf := 0) hf
    (fun x => FlModel.Rounded.single (g x).val) a b n hn
  rw [Nat.zero_add] at hA
  exact ⟨v, hv, hA.abs_sub_le le_rfl hu le_rfl⟩

/-- **… with the rounding of the abscissae included.**  If the integrand approximates a real
function `F`, `|g(x̂) − F(x̂)| ≤ ε` at every floating-point argument, and `F` is `Λ`-Lipschitz, the
computed value is compared with the composite rule at the **exact** abscissae `a + 2kH`,
`a + (2k+1)H`, `b − (3−j)H`: every abscissa the code forms is within
`D = 4·γ_{⌊n/2⌋+6}·max(|a|,|b|)` of the exact one, which costs `Λ·D·|b − a|`. -/
theorem simpson_rule_rounding_lipschitz (f : Fl M → Except PErr (Fl M)) (g : Fl M → Fl M)
    (hf : ∀ x, f x = .ok (g x)) (F : ℝ → ℝ) (ε Λ : ℝ) (hε : ∀ x, |(g x).val - F x.val| ≤ ε)
    (hΛ : ∀ x y, |F x - F y| ≤ Λ * |x - y|)
    (a b : Fl M) (n : ℕ) (hn : 2 ≤ n) (hu : ((n / 2 + 13 : ℕ) : ℝ) * M.u < 1) :
    ∃ v, definiteIntegral f a b n = .ok v ∧
      |v.val - simpsonSum n ((b.val - a.val) / n)
          (fun k => F (a.val + (k : ℝ) * (2 * ((b.val - a.val) / n))))
          (fun k => F (a.val + ((k : ℝ) + 1) * (2 * ((b.val - a.val) / n))
            - (b.val - a.val) / n))
          (fun j => F (b.val - ((3 - j : ℕ) : ℝ) * ((b.val - a.val) / n)))|
        ≤ M.gamma (n / 2 + 13) * simpsonSum n |(b.val - a.val) / n|
            (fun k => |(g (node13 (hFl a b n) a k)).val|)
            (fun k => |(g (mid13 (hFl a b n) a k)).val|)
            (fun j => |(g (node38 (hFl a b n) b j)).val|)
          + (ε + Λ * drift M n (max |a.val| |b.val|)) * |b.val - a.val| := by
  have hΛ0 : 0 ≤ Λ := by
    have := hΛ 1 0
    rw [sub_zero, abs_one, mul_one] at this
    exact (abs_nonneg _).trans this
  obtain ⟨v, hv, hB⟩ := definiteIntegral_rounded_exact (mf := 0) hf
    (fun x => FlModel.Rounded.single (g x).val) F
    (ε + Λ * drift M n (max |a.val| |b.val|)) a b n hn (by rwa [Nat.zero_add])
    fun x y h _ => (abs_sub_le _ (F x.val) _).trans
      (add_le_add (hε x) ((hΛ _ _).trans (mul_le_mul_of_nonneg_left h hΛ0)))
  rw [Nat.zero_add] at hB
  exact ⟨v, hv, hB⟩

/-- the drift bound used above, on its own: every abscissa `definite_integral` evaluates at is
within `4·γ_{⌊n/2⌋+6}·max(|a|,|b|)` of the exact abscissa `a + i·H` -/
theorem abscissa_drift (a b : Fl M) (n : ℕ) (hn : 2 ≤ n) (hu6 : ((n / 2 + 6 : ℕ) : ℝ) * M.u < 1) :
    (∀ k, k ≤ n / 2 →
      |(node13 (hFl a b n) a k).val - (a.val + (k : ℝ) * (2 * ((b.val - a.val) / n)))|
        ≤ 4 * M.gamma (n / 2 + 6) * max |a.val| |b.val|) ∧
    (∀ k, k < n / 2 →
      |(mid13 (hFl a b n) a k).val
          - (a.val + ((k : ℝ) + 1) * (2 * ((b.val - a.val) / n)) - (b.val - a.val) / n)|
        ≤ 4 * M.gamma (n / 2 + 6) * max |a.val| |b.val|) ∧
    (n % 2 = 1 → ∀ j, j < 4 →
      |(node38 (hFl a b n) b j).val - (b.val - ((3 - j : ℕ) : ℝ) * ((b.val - a.val) / n))|
        ≤ 4 * M.gamma (n / 2 + 6) * max |a.val| |b.val|) := by
  obtain ⟨N13, Nmid, N38⟩ := nodes_near a b n hn hu6
  exact ⟨fun k hk => (N13 k hk).1, fun k hk => (Nmid k hk).1, fun h j hj => (N38 h j hj).1⟩

/-- **Composite Simpson is exact to rounding for degree ≤ 3** — everything rounded: the width, the
running abscissae, the evaluations of the polynomial (`evalSimple`: `powi` and the left-to-right
sum), the weighted sum and the final scaling.  `cs` is the coefficient list of a `SimplePolynomial`
of degree ≤ 3 (`len ≤ 4`), `P` any antiderivative of the polynomial with those coefficients, the
interval is arbitrary (reversed, empty), `n ≥ 2` (even, odd, 3) and `(⌊n/2⌋+len+14)·u < 1`.  With
`X = max(|a|,|b|)`, `D = 4·γ_{⌊n/2⌋+6}·X` (abscissa drift) and `X̂ = X + D`:

`|definite_integral(p, a, b, n) − (P(b) − P(a))|
   ≤ |b−a|·( γ_{⌊n/2⌋+len+14}·Σ_k |c_k|·X̂^k  +  D·Σ_k k·|c_k|·X̂^{k−1} )`. -/
theorem simpson_cubic_rounding (powf : Fl M → Fl M → Fl M) (cs : List (Fl M))
    (var : Option Char) (hlen : cs.length ≤ 4) (P : ℝ[X])
    (hP : derivative P = ofCoeffs (cs.map Fl.val)) (a b : Fl M) (n : ℕ) (hn : 2 ≤ n)
    (hu : ((n / 2 + cs.length + 14 : ℕ) : ℝ) * M.u < 1) :
    ∃ v, definiteIntegralP powf (.simple ⟨cs, var⟩) a b n = .ok v ∧
      |v.val - (P.eval b.val - P.eval a.val)|
        ≤ |b.val - a.val| *
          (M.gamma (n / 2 + cs.length + 14)
              * ∑ k ∈ range cs.length, |(cs.getD k 0).val|
                  * (max |a.val| |b.val| + 4 * M.gamma (n / 2 + 6) * max |a.val| |b.val|) ^ k
            + 4 * M.gamma (n / 2 + 6) * max |a.val| |b.val|
              * ∑ k ∈ range cs.length, (k : ℝ) * |(cs.getD k 0).val|
                  * (max |a.val| |b.val| + 4 * M.gamma (n / 2 + 6) * max |a.val| |b.val|)
                      ^ (k - 1)) := by
  rw [definiteIntegralP_simple]
  obtain ⟨v, hv, hB⟩ := definiteIntegral_simple_rounded cs a b n hn hu
  have hE := simpsonSum_exact_cubic _ P hP (natDegree_ofCoeffs_le _ 3 (by simpa using hlen))
    a.val b.val n hn
  simp only [eval_ofCoeffs_val] at hE
  rw [hE] at hB
  exact ⟨v, hv, hB⟩

/-- The same in one term: `≤ γ_{⌊n/2⌋+len+14}·|b−a|·Σ_k (4k+1)·|c_k|·X̂^k`. -/
theorem simpson_cubic_rounding_clean (powf : Fl M → Fl M → Fl M) (cs : List (Fl M))
    (var : Option Char) (hlen : cs.length ≤ 4) (P : ℝ[X])
    (hP : derivative P = ofCoeffs (cs.map Fl.val)) (a b : Fl M) (n : ℕ) (hn : 2 ≤ n)
    (hu : ((n / 2 + cs.length + 14 : ℕ) : ℝ) * M.u < 1) :
    ∃ v, definiteIntegralP powf (.simple ⟨cs, var⟩) a b n = .ok v ∧
      |v.val - (P.eval b.val - P.eval a.val)|
        ≤ M.gamma (n / 2 + cs.length + 14) * |b.val - a.val| *
          ∑ k ∈ range cs.length, (4 * (k : ℝ) + 1) * |(cs.getD k 0).val|
            * (max |a.val| |b.val| + 4 * M.gamma (n / 2 + 6) * max |a.val| |b.val|) ^ k := by
  obtain ⟨v, hv, hB⟩ := simpson_cubic_rounding powf cs var hlen P hP a b n hn hu
  refine ⟨v, hv, hB.trans ?_⟩
  have hu6 : ((n / 2 + 6 : ℕ) : ℝ) * M.u < 1 := M.hyp_mono (by omega) hu
  have hX0 : 0 ≤ max |a.val| |b.val| := (abs_nonneg _).trans (le_max_left _ _)
  have h4γ : 0 ≤ 4 * M.gamma (n / 2 + 6) := mul_nonneg (by norm_num) (M.gamma_nonneg hu6)
  have hD0 : 0 ≤ drift M n (max |a.val| |b.val|) := mul_nonneg h4γ hX0
  -- `D = 4γ₆X ≤ 4γ_m X̂`
  have hD : drift M n (max |a.val| |b.val|) ≤ 4 * M.gamma (n / 2 + cs.length + 14)
      * (max |a.val| |b.val| + drift M n (max |a.val| |b.val|)) :=
    mul_le_mul (mul_le_mul_of_nonneg_left (M.gamma_mono (by omega) hu) (by norm_num))
      (le_add_of_nonneg_right hD0) hX0 (mul_nonneg (by norm_num) (M.gamma_nonneg hu))
  refine (mul_le_mul_of_nonneg_left
    (B0_add_B1_le (cf cs) cs.length _ _ _ (add_nonneg hX0 hD0) hD) (abs_nonneg _)).trans_eq ?_
  simp only [drift, cf]
  ring

/-- **The oracle's rounding allowance is a theorem.**  If `(⌊n/2⌋+18)·u ≤ 1/64` then, with
`W = |b−a|`, `X = max(|a|,|b|)`, `B = Σ_k (k+1)|c_k|X^k` as in the docstring of
`tools/props/c05.py`: `|definite_integral − ∫| ≤ 32·(n+8)·u·W·B` for every cubic
`SimplePolynomial`, every interval and every `n ≥ 2`. -/
theorem simpson_cubic_oracle_allowance (powf : Fl M → Fl M → Fl M) (cs : List (Fl M))
    (var : Option Char) (hlen : cs.length ≤ 4) (P : ℝ[X])
    (hP : derivative P = ofCoeffs (cs.map Fl.val)) (a b : Fl M) (n : ℕ) (hn : 2 ≤ n)
    (hu : ((n / 2 + 18 : ℕ) : ℝ) * M.u ≤ 1 / 64) :
    ∃ v, definiteIntegralP powf (.simple ⟨cs, var⟩) a b n = .ok v ∧
      |v.val - (P.eval b.val - P.eval a.val)|
        ≤ 32 * ((n : ℝ) + 8) * M.u * |b.val - a.val| *
          ∑ k ∈ range cs.length, ((k : ℝ) + 1) * |(cs.getD k 0).val| * (max |a.val| |b.val|) ^ k := by
  have hu18 : ((n / 2 + 18 : ℕ) : ℝ) * M.u < 1 := hu.trans_lt (by norm_num)
  obtain ⟨v, hv, hB⟩ := simpson_cubic_rounding_clean powf cs var hlen P hP a b n hn
    (M.hyp_mono (by omega) hu18)
  refine ⟨v, hv, hB.trans ?_⟩
  have hX0 : 0 ≤ max |a.val| |b.val| := (abs_nonneg _).trans (le_max_left _ _)
  have h18 := M.gamma_le_two_mul (n := n / 2 + 18) (hu.trans (by norm_num))
  have hgm : M.gamma (n / 2 + cs.length + 14) ≤ 2 * (((n / 2 + 18 : ℕ) : ℝ) * M.u) :=
    (M.gamma_mono (by omega) hu18).trans h18
  have hg6 : M.gamma (n / 2 + 6) ≤ 2 * (((n / 2 + 18 : ℕ) : ℝ) * M.u) :=
    (M.gamma_mono (by omega) hu18).trans h18
  have hg60 := M.gamma_nonneg (M.hyp_mono (by omega : n / 2 + 6 ≤ n / 2 + 18) hu18)
  -- `X̂ = X·r`, `1 ≤ r ≤ 9/8`
  rw [show max |a.val| |b.val| + 4 * M.gamma (n / 2 + 6) * max |a.val| |b.val|
      = max |a.val| |b.val| * (1 + 4 * M.gamma (n / 2 + 6)) by ring]
  have hsum := sum_inflated_le (cf cs) cs.length hlen _ _ hX0
    (by linarith only [hg60] : 1 ≤ 1 + 4 * M.gamma (n / 2 + 6)) (by linarith only [hg6, hu])
  simp only [cf] at hsum
  have hS0 : 0 ≤ ∑ k ∈ range cs.length,
      ((k : ℝ) + 1) * |(cs.getD k 0).val| * (max |a.val| |b.val|) ^ k :=
    Finset.sum_nonneg fun k _ =>
      mul_nonneg (mul_nonneg (by positivity) (abs_nonneg _)) (pow_nonneg hX0 k)
  generalize ∑ k ∈ range cs.length,
    ((k : ℝ) + 1) * |(cs.getD k 0).val| * (max |a.val| |b.val|) ^ k = S at hsum hS0 ⊢
  have hN : ((n / 2 + 18 : ℕ) : ℝ) * (729 / 64) ≤ 32 * ((n : ℝ) + 8) := by
    have e2 : ((n / 2 : ℕ) : ℝ) * 2 ≤ n := by exact_mod_cast (by omega : n / 2 * 2 ≤ n)
    push_cast
    linarith only [e2]
  have hW := abs_nonneg (b.val - a.val)
  have hγW := mul_nonneg
    (M.gamma_nonneg (M.hyp_mono (by omega : n / 2 + cs.length + 14 ≤ n / 2 + 18) hu18)) hW
  have huWS := mul_nonneg (mul_nonneg M.hu.1 hW) hS0
  calc M.gamma (n / 2 + cs.length + 14) * |b.val - a.val| * _
      ≤ M.gamma (n / 2 + cs.length + 14) * |b.val - a.val| * (4 * (729 / 512) * S) :=
        mul_le_mul_of_nonneg_left hsum hγW
    _ ≤ 2 * (((n / 2 + 18 : ℕ) : ℝ) * M.u) * |b.val - a.val| * (4 * (729 / 512) * S) :=
        mul_le_mul_of_nonneg_right (mul_le_mul_of_nonneg_right hgm hW)
          (mul_nonneg (by norm_num) hS0)
    _ = ((n / 2 + 18 : ℕ) : ℝ) * (729 / 64) * (M.u * |b.val - a.val| * S) := by ring
    _ ≤ 32 * ((n : ℝ) + 8) * (M.u * |b.val - a.val| * S) := mul_le_mul_of_nonneg_right hN huWS
    _ = _ := by ring

/-- With exact arithmetic (`u = 0`) the bound collapses to
`SV.Props.C05.simpson_exact_cubic`: the rounding theorem is a genuine extension of it. -/
theorem simpson_cubic_rounding_ideal (powf : Fl FlModel.ideal → Fl FlModel.ideal → Fl FlModel.ideal)
    (cs : List (Fl FlModel.ideal)) (var : Option Char) (hlen : cs.length ≤ 4) (P : ℝ[X])
    (hP : derivative P = ofCoeffs (cs.map Fl.val)) (a b : Fl FlModel.ideal) (n : ℕ)
    (hn : 2 ≤ n) :
    ∃ v, definiteIntegralP powf (.simple ⟨cs, var⟩) a b n = .ok v ∧
      v.val = P.eval b.val - P.eval a.val := by
  obtain ⟨v, hv, hB⟩ := simpson_cubic_oracle_allowance powf cs var hlen P hP a b n hn
    (by simp [FlModel.ideal])
  refine ⟨v, hv, ?_⟩
  have hu0 : FlModel.ideal.u = 0 := rfl
  rw [hu0, mul_zero, zero_mul, zero_mul] at hB
  exact sub_eq_zero.mp (abs_nonpos_iff.mp hB)

/-- **binary64, numerically.**  For round-to-nearest with a 53-bit significand
(`FlModel.binary64`, no exponent limits) and every `2 ≤ n ≤ 2⁴⁰`:
`|definite_integral − ∫| ≤ 32·(n+8)·2⁻⁵³·|b−a|·Σ_k (k+1)|c_k|·max(|a|,|b|)^k` — the allowance of
the oracle. -/
theorem simpson_cubic_oracle_allowance_binary64
    (powf : Fl FlModel.binary64 → Fl FlModel.binary64 → Fl FlModel.binary64)
    (cs : List (Fl FlModel.binary64)) (var : Option Char) (hlen : cs.length ≤ 4) (P : ℝ[X])
    (hP : derivative P = ofCoeffs (cs.map Fl.val)) (a b : Fl FlModel.binary64) (n : ℕ)
    (hn : 2 ≤ n) (hn' : n ≤ 2 ^ 40) :
    ∃ v, definiteIntegralP powf (.simple ⟨cs, var⟩) a b n = .ok v ∧
      |v.val - (P.eval b.val - P.eval a.val)|
        ≤ 32 * ((n : ℝ) + 8) * (2⁻¹ : ℝ) ^ 53 * |b.val - a.val| *
          ∑ k ∈ range cs.length, ((k : ℝ) + 1) * |(cs.getD k 0).val| * (max |a.val| |b.val|) ^ k := by
  have h := simpson_cubic_oracle_allowance powf cs var hlen P hP a b n hn (by
    rw [FlModel.binary64_u]
    have h1 : ((n / 2 + 18 : ℕ) : ℝ) ≤ 2 ^ 40 := by
      have : n / 2 + 18 ≤ 2 ^ 40 := by omega
      exact_mod_cast this
    calc ((n / 2 + 18 : ℕ) : ℝ) * (2⁻¹ : ℝ) ^ 53 ≤ 2 ^ 40 * (2⁻¹ : ℝ) ^ 53 :=
          mul_le_mul_of_nonneg_right h1 (by positivity)
      _ ≤ 1 / 64 := by norm_num)
  rw [FlModel.binary64_u] at h
  exact h

/-- the rule envelope for binary64: `γ_{⌊n/2⌋+13} ≤ (⌊n/2⌋+13)·2⁻⁵²` -/
theorem simpson_rule_rounding_binary64 (f : Fl FlModel.binary64 → Except PErr (Fl FlModel.binary64))
    (g : Fl FlModel.binary64 → Fl FlModel.binary64) (hf : ∀ x, f x = .ok (g x))
    (a b : Fl FlModel.binary64) (n : ℕ) (hn : 2 ≤ n) (hn' : n / 2 + 13 ≤ 2 ^ 52) :
    ∃ v, definiteIntegral f a b n = .ok v ∧
      |v.val - simpsonSum n ((b.val - a.val) / n)
          (fun k => (g (node13 (hFl a b n) a k)).val) (fun k => (g (mid13 (hFl a b n) a k)).val)
          (fun j => (g (node38 (hFl a b n) b j)).val)|
        ≤ ((n / 2 + 13 : ℕ) : ℝ) * (2⁻¹ : ℝ) ^ 52 * simpsonSum n |(b.val - a.val) / n|
          (fun k => |(g (node13 (hFl a b n) a k)).val|)
          (fun k => |(g (mid13 (hFl a b n) a k)).val|)
          (fun j => |(g (node38 (hFl a b n) b j)).val|) := by
  obtain ⟨hu, hg⟩ := FlModel.binary64_gamma_le hn'
  obtain ⟨v, hv, hB⟩ := simpson_rule_rounding f g hf a b n hn hu
  exact ⟨v, hv, hB.trans (mul_le_mul_of_nonneg_right hg
    (simpsonSum_nonneg n hn _ (abs_nonneg _) _ _ _ (fun _ => abs_nonneg _) (fun _ => abs_nonneg _)
      fun _ => abs_nonneg _))⟩

/-- the hypotheses of `simpson_cubic_rounding` are satisfiable in a model with `u > 0` whose rounding
is not the identity (an antiderivative exists: the library's own `indefinite_integral`), and there
the computed integral really differs from the exact one, so the bounds are not `0 ≤ 0`: the
constant `1` over `[0, 2]` with two segments and `rnd t = t·(1 + 1/64)` (`u = 1/32`, `16·u < 1`) -/
example : ∃ (M : FlModel) (powf : Fl M → Fl M → Fl M) (cs : List (Fl M)) (P : ℝ[X]) (v : Fl M),
    0 < M.u ∧ cs.length ≤ 4 ∧ derivative P = ofCoeffs (cs.map Fl.val) ∧
    ((2 / 2 + cs.length + 14 : ℕ) : ℝ) * M.u < 1 ∧
    definiteIntegralP powf (.simple ⟨cs, none⟩) 0 ⟨2⟩ 2 = .ok v ∧
    v.val ≠ P.eval 2 - P.eval 0 := by
  have h32 : (0 : ℝ) ≤ 1 / 32 ∧ (1 / 32 : ℝ) < 1 := by norm_num
  refine ⟨FlModel.skew (1 / 32) h32, fun x _ => x, [1], ofCoeffs (simpleInteg [1]), _,
    by norm_num [FlModel.skew], by simp, derivative_ofCoeffs_simpleInteg _,
    by norm_num [FlModel.skew], rfl, ?_⟩
  simp only [evalSimple_const, Fl.add_val, Fl.mul_val, Fl.sub_val, Fl.div_val, Fl.natCast_val,
    Fl.zero_val, Fl.one_val]
  rw [← evalSimple_eq, ← evalSimple_eq]
  norm_num [evalSimple, evalSimpleFrom, powi, powiLoop, FlModel.skew, simpleInteg, integFrom]

/-- … and with three segments (the 3/8 panel alone) -/
example : ∃ (M : FlModel) (powf : Fl M → Fl M → Fl M) (v : Fl M), 0 < M.u ∧
    ((3 / 2 + [(1 : Fl M)].length + 14 : ℕ) : ℝ) * M.u < 1 ∧
    definiteIntegralP powf (.simple ⟨[1], none⟩) 0 ⟨3⟩ 3 = .ok v ∧ v.val ≠ 3 := by
  have h32 : (0 : ℝ) ≤ 1 / 32 ∧ (1 / 32 : ℝ) < 1 := by norm_num
  refine ⟨FlModel.skew (1 / 32) h32, fun x _ => x, _, by norm_num [FlModel.skew],
    by norm_num [FlModel.skew], rfl, ?_⟩
  simp only [evalSimple_const, Fl.add_val, Fl.mul_val, Fl.sub_val, Fl.div_val, Fl.natCast_val,
    Fl.zero_val, Fl.one_val]
  norm_num [FlModel.skew]

end SV.Props.C05Rounding
