import SV.Lemmas.C17
/-!
# C17 — printed polynomials read back as the same polynomial, at every precision

Property theorems only.  This file: the zero-trimming rule of the precision formatters.  Trimming
acts on the fractional part only — a text without a decimal point is left alone (`"10"` stays `"10"`;
trimming the whole text would make it `"1"`), and a text with a point loses only trailing `0`s and then the point, so the
integer digits are never touched.  The round-trip theorems (`simple_display_roundtrip`, …) are in
`SV.Props.C17Roundtrip`.
-/
namespace SV.Props.C17
open SV SV.C17

/-- Without a decimal point nothing is trimmed. -/
theorem trim_no_point (s : List Char) (h : '.' ∉ s) : trimFraction s = s := by
  unfold trimFraction
  have : s.contains '.' = false := by
    simpa [List.contains_eq_mem] using h
  rw [this]; rfl

/-- With a decimal point, trimming removes only a block of trailing `0`s followed by at most a block
of trailing `.`: the text is `trimmed ++ dots ++ zeros` — no other character is lost, in particular
no integer digit. -/
theorem trim_shape (s : List Char) :
    ∃ j k, s = trimFraction s ++ List.replicate j '.' ++ List.replicate k '0' := by
  unfold trimFraction
  by_cases h : s.contains '.' = true
  · simp only [h, if_true]
    obtain ⟨k, hk⟩ := (trimEnd_spec '0' s).2
    obtain ⟨j, hj⟩ := (trimEnd_spec '.' (trimEnd '0' s)).2
    exact ⟨j, k, by rw [← hj, ← hk]⟩
  · simp only [h]
    exact ⟨0, 0, by simp⟩

example : trimFraction "10".toList = "10".toList := by decide
example : trimFraction "2.50".toList = "2.5".toList := by decide
example : trimFraction "3.000".toList = "3".toList := by decide
example : trimFraction "^-0.50".toList = "^-0.5".toList := by decide

end SV.Props.C17
