import SV.Props.C11
/-!
# C11 — the shape rule admits no data-dependent exception, and the product is bilinear

Companion of `SV.Props.C11`, for every shape and every commutative semiring: unequal inner dimensions
with no 1×1 operand give the shape error whatever the contents (no truncated sum is returned, and the
`*` operator gives the empty array); ok / error, which error and the shape of the result are a
function of the four dimensions only; on conforming shapes the product is additive and homogeneous
in each factor, as equalities of the returned arrays.
-/
namespace SV.Props.C11Laws
open SV SV.C11 SV.Props.C11 Finset

variable {R : Type} [CommSemiring R] [Inhabited R]

def madd (a b : Mat R) : Mat R := Mat.tab a.h a.w fun i j => a.get i j + b.get i j

def mzero (h w : Nat) : Mat R := Mat.tab h w fun _ _ => 0

theorem dot_nonconforming_is_error (a b : Mat R) (hc : a.w ≠ b.h) (ha : ¬(a.h = 1 ∧ a.w = 1))
    (hb : ¬(b.h = 1 ∧ b.w = 1)) :
    dot a b = .error (.invalidDotShape a.w b.h) ∧ mulOp a b = ⟨0, 0, #[]⟩ := by
  have h := (dot_shape_table a b).2.2.2 hc ha hb
  exact ⟨h, by simp [mulOp, h]⟩

/-- `dot_nonconforming_is_error` for a row times a column of different lengths: no sum over the shorter of the two is
returned.  `_har`, `_hbc` only name the case; they are not used. -/
theorem row_times_column_mismatch_is_error (a b : Mat R) (_har : a.h = 1) (_hbc : b.w = 1)
    (hkl : a.w ≠ b.h) (hk : a.w ≠ 1) (hl : b.h ≠ 1) :
    dot a b = .error (.invalidDotShape a.w b.h) ∧ (∀ m, dot a b ≠ .ok m) ∧ mulOp a b = ⟨0, 0, #[]⟩ := by
  obtain ⟨h1, h2⟩ := dot_nonconforming_is_error a b hkl (fun h => hk h.2) (fun h => hl h.1)
  exact ⟨h1, fun m hm => (by rw [h1] at hm; cases hm), h2⟩

theorem dot_outcome_depends_on_shapes_only (a b a' b' : Mat R) (h1 : a.h = a'.h) (h2 : a.w = a'.w)
    (h3 : b.h = b'.h) (h4 : b.w = b'.w) :
    (∀ e, dot a b = .error e ↔ dot a' b' = .error e) ∧
    ((∃ m, dot a b = .ok m) ↔ (∃ m', dot a' b' = .ok m')) ∧
    (∀ m m', dot a b = .ok m → dot a' b' = .ok m' → m.h = m'.h ∧ m.w = m'.w) := by
  -- both pairs fall into the same branch of `dot`; three branches return a tabulated array
  have ok : ∀ {h w h' w' : Nat} (f f' : Nat → Nat → R), h = h' → w = w' →
      (∀ e, (.ok (Mat.tab h w f) : Except DotErr (Mat R)) = .error e ↔
        (.ok (Mat.tab h' w' f') : Except DotErr (Mat R)) = .error e) ∧
      ((∃ m, (.ok (Mat.tab h w f) : Except DotErr (Mat R)) = .ok m) ↔
        (∃ m', (.ok (Mat.tab h' w' f') : Except DotErr (Mat R)) = .ok m')) ∧
      (∀ m m', (.ok (Mat.tab h w f) : Except DotErr (Mat R)) = .ok m →
        (.ok (Mat.tab h' w' f') : Except DotErr (Mat R)) = .ok m' → m.h = m'.h ∧ m.w = m'.w) :=
    fun f f' hh hw => ⟨fun e => ⟨nofun, nofun⟩, ⟨fun _ => ⟨_, rfl⟩, fun _ => ⟨_, rfl⟩⟩,
      fun m m' hm hm' => by cases hm; cases hm'; exact ⟨hh, hw⟩⟩
  by_cases ha : a.h = 1 ∧ a.w = 1
  · rw [dot_left_scalar a b ha, dot_left_scalar a' b' (h1 ▸ h2 ▸ ha)]
    exact ok _ _ h3 h4
  by_cases hb : b.h = 1 ∧ b.w = 1
  · rw [dot_right_scalar a b ha hb, dot_right_scalar a' b' (h1 ▸ h2 ▸ ha) (h3 ▸ h4 ▸ hb)]
    exact ok _ _ h1 h2
  by_cases hc : a.w = b.h
  · rw [dot_general a b ha hb hc,
      dot_general a' b' (h1 ▸ h2 ▸ ha) (h3 ▸ h4 ▸ hb) (h2 ▸ h3 ▸ hc)]
    exact ok _ _ h1 h4
  · rw [dot_mismatch a b ha hb hc,
      dot_mismatch a' b' (h1 ▸ h2 ▸ ha) (h3 ▸ h4 ▸ hb) (h2 ▸ h3 ▸ hc), h2, h3]
    exact ⟨fun _ => Iff.rfl, Iff.rfl, fun m _ hm => nomatch hm⟩

theorem dot_add_left (a₁ a₂ b m m₁ m₂ : Mat R) (hh : a₁.h = a₂.h) (hw : a₁.w = a₂.w) (hc : a₁.w = b.h)
    (hm : dot (madd a₁ a₂) b = .ok m) (hm₁ : dot a₁ b = .ok m₁) (hm₂ : dot a₂ b = .ok m₂) :
    m = madd m₁ m₂ := by
  rw [dot_eq_tab (madd a₁ a₂) b m hc hm, dot_eq_tab a₁ b m₁ hc hm₁, dot_eq_tab a₂ b m₂ (hw ▸ hc) hm₂]
  refine Mat.tab_congr fun i j (hi : i < a₁.h) hj => ?_
  rw [Mat.get_tab _ hi hj, Mat.get_tab _ (hh ▸ hi) hj, ← hw, ← Finset.sum_add_distrib]
  exact Finset.sum_congr rfl fun k hk => by
    rw [madd, Mat.get_tab _ hi (Finset.mem_range.mp hk), add_mul]

theorem dot_add_right (a b₁ b₂ m m₁ m₂ : Mat R) (hh : b₁.h = b₂.h) (hw : b₁.w = b₂.w) (hc : a.w = b₁.h)
    (hm : dot a (madd b₁ b₂) = .ok m) (hm₁ : dot a b₁ = .ok m₁) (hm₂ : dot a b₂ = .ok m₂) :
    m = madd m₁ m₂ := by
  rw [dot_eq_tab a (madd b₁ b₂) m hc hm, dot_eq_tab a b₁ m₁ hc hm₁, dot_eq_tab a b₂ m₂ (hh ▸ hc) hm₂]
  refine Mat.tab_congr fun i j hi (hj : j < b₁.w) => ?_
  rw [Mat.get_tab _ hi hj, Mat.get_tab _ hi (hw ▸ hj), ← Finset.sum_add_distrib]
  exact Finset.sum_congr rfl fun k hk => by
    rw [madd, Mat.get_tab _ (hc ▸ Finset.mem_range.mp hk) hj, mul_add]

theorem dot_smul_left (a b m m₀ : Mat R) (c : R) (hc : a.w = b.h)
    (hm : dot (smul a c) b = .ok m) (hm₀ : dot a b = .ok m₀) : m = smul m₀ c := by
  rw [← mulOp_of_ok hm, ← mulOp_of_ok hm₀, mulOp_smul_left]

theorem dot_smul_right (a b m m₀ : Mat R) (c : R) (hc : a.w = b.h)
    (hm : dot a (smul b c) = .ok m) (hm₀ : dot a b = .ok m₀) : m = smul m₀ c := by
  rw [← mulOp_of_ok hm, ← mulOp_of_ok hm₀, mulOp_smul_right]

/-- Non-vacuity of `dot_add_left`: `madd a₁ a₂` has the shape of `a₁`, so its product with `b` succeeds when `a₁` conforms
(the other two products succeed by `dot_conforming_ok`). -/
theorem dot_add_left_ok (a₁ a₂ b : Mat R) (hc : a₁.w = b.h) : ∃ m, dot (madd a₁ a₂) b = .ok m :=
  dot_conforming_ok (madd a₁ a₂) b hc

theorem dot_zero_left (h : Nat) (b m : Mat R) (hm : dot (mzero h b.h) b = .ok m) : m = mzero h b.w := by
  rw [dot_eq_tab (mzero h b.h) b m rfl hm]
  refine Mat.tab_congr fun i j (hi : i < h) _ => Finset.sum_eq_zero fun k hk => ?_
  rw [mzero, Mat.get_tab _ hi (Finset.mem_range.mp hk : k < b.h), zero_mul]

theorem dot_zero_right (a m : Mat R) (w : Nat) (hm : dot a (mzero a.w w) = .ok m) : m = mzero a.h w := by
  rw [dot_eq_tab a (mzero a.w w) m rfl hm]
  refine Mat.tab_congr fun i j _ (hj : j < w) => Finset.sum_eq_zero fun k hk => ?_
  rw [mzero, Mat.get_tab _ (Finset.mem_range.mp hk) hj, mul_zero]

/-- Non-vacuity (over `ℤ`): a 1×3 row times a 2×1 column is rejected, and the operator form is empty. -/
example : dot (⟨1, 3, #[1, 2, 3]⟩ : Mat Int) ⟨2, 1, #[4, 5]⟩ = .error (.invalidDotShape 3 2) :=
  (row_times_column_mismatch_is_error _ _ rfl rfl (by decide) (by decide) (by decide)).1
example : (mulOp (⟨1, 3, #[1, 2, 3]⟩ : Mat Int) ⟨2, 1, #[4, 5]⟩).a = #[] := by
  rw [(row_times_column_mismatch_is_error _ _ rfl rfl (by decide) (by decide) (by decide)).2.2]
/-- Non-vacuity: the hypotheses of `dot_add_left` are satisfiable (the three products succeed). -/
example : ∃ m m₁ m₂ : Mat Int,
    dot (madd ⟨2, 2, #[1, 2, 3, 4]⟩ ⟨2, 2, #[5, 6, 7, 8]⟩) ⟨2, 1, #[1, 1]⟩ = .ok m ∧
    dot ⟨2, 2, #[1, 2, 3, 4]⟩ ⟨2, 1, #[1, 1]⟩ = .ok m₁ ∧ dot ⟨2, 2, #[5, 6, 7, 8]⟩ ⟨2, 1, #[1, 1]⟩ = .ok m₂ :=
  ⟨_, _, _, rfl, rfl, rfl⟩

end SV.Props.C11Laws
