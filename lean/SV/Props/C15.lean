import SV.Model.C15
import SV.Lemmas.C15
/-!
# C15 — every regressor returns the least-squares optimum and its own fit statistics

The vocabulary of the statements is defined in `SV.Lemmas.C15`.  `K` is any linearly ordered field.
The same `SV.C15.lsFit`, `polyFit`, `gdFit`, `predict` run at `Float` in the driver and are compared
bit for bit with `LeastSquaresRegression::fit`, `PolynomialRegression::fit`,
`GradientDescentRegression::fit` and `LinearModel::predict` on every run of the check.

Reading guide.  Data are two lists `x y`; sums run over `x.zip y` exactly as in the code.
`sse c x y = Σ (yᵢ − p_c(xᵢ))²`, `NormalEqs c x y = ∀ j < c.length, Σ (yᵢ − p_c(xᵢ)) xᵢ^j = 0`,
`p_c = predict c` (`predict_is_eval`: `Σ_k c_k t^k`).  The polynomial fit takes the linear solver as
a parameter; `SolveSound solve` (an answer solves the system) is a hypothesis of the theorems about it
(`SV.Props.C08.gauss_sound` is the statement of that shape about the model of `gaussian_elimination`;
no theorem instantiates `solve` with that model).
`none`/`Outcome.panic` are the model's explicit outcomes for divisions by zero (NaN/±∞ in IEEE
arithmetic) and for the `unwrap` of a refused system.
-/
set_option linter.unusedSectionVars false

namespace SV.Props.C15
open SV SV.C15 SV.C18 Finset

variable {K : Type} [Field K] [LinearOrder K] [IsStrictOrderedRing K] [Inhabited K]

/-- `predict` evaluates exactly the coefficient polynomial -/
theorem predict_is_eval (c : List K) (t : K) :
    predict c t = ∑ k ∈ range c.length, c.getD k 0 * t ^ k :=
  predict_eq_eval c t

/-- the line fit is defined exactly when there is a point and `D = n Σx² − (Σx)² ≠ 0` -/
theorem ls_defined_iff (sqrt : K → K) (x y : List K) :
    lsFit sqrt x y = none ↔ (x.length = 0 ∨ lsD x = 0) := by
  rw [lsFit_eq]
  split_ifs <;> simp [*]

/-- the returned coefficients are the closed forms (intercept first) -/
theorem ls_coeffs (sqrt : K → K) (x y : List K) (f : Fit K) (h : lsFit sqrt x y = some f) :
    x.length ≠ 0 ∧ lsD x ≠ 0 ∧ f.coeffs = [lsIntercept x y, lsSlope x y] := by
  rw [lsFit_eq] at h
  split_ifs at h with h0 hD
  cases h
  exact ⟨h0, hD, rfl⟩

/-- with `D ≠ 0` the closed-form `(intercept, slope)` satisfy `Σ rᵢ = 0 ∧ Σ rᵢ xᵢ = 0` -/
theorem ls_normal_eqs (sqrt : K → K) (x y : List K) (hxy : x.length = y.length) (f : Fit K)
    (h : lsFit sqrt x y = some f) :
    ∃ a b, f.coeffs = [a, b] ∧
      ((x.zip y).map fun p => p.2 - (a + b * p.1)).sum = 0 ∧
      ((x.zip y).map fun p => (p.2 - (a + b * p.1)) * p.1).sum = 0 := by
  obtain ⟨hn, hD, hc⟩ := ls_coeffs sqrt x y f h
  exact ⟨_, _, hc, (normalEqs_pair _ _ x y).mp (normalEqs_ls x y hxy hn hD)⟩

/-- hence the line fit satisfies the normal equations of order 1 -/
theorem ls_fit_normalEqs (sqrt : K → K) (x y : List K) (hxy : x.length = y.length) (f : Fit K)
    (h : lsFit sqrt x y = some f) : NormalEqs f.coeffs x y := by
  obtain ⟨a, b, hc, h01⟩ := ls_normal_eqs sqrt x y hxy f h
  rw [hc]
  exact (normalEqs_pair a b x y).mpr h01

/-- any coefficient list whose residual is orthogonal to `1, x, …, x^m` minimises the sum of squares
over all coefficient lists of that length: `SSE(c') = SSE(c) + Σ (p_c' − p_c)(xᵢ)² ≥ SSE(c)` -/
theorem normal_eqs_optimal (c c' : List K) (x y : List K) (hne : NormalEqs c x y)
    (hlen : c'.length = c.length) :
    sse c' x y = sse c x y + ((x.zip y).map fun p => (predict c' p.1 - predict c p.1) ^ 2).sum ∧
    sse c x y ≤ sse c' x y := by
  have h := sse_decomp c c' x y hne hlen
  refine ⟨h, ?_⟩
  rw [h]
  refine le_add_of_nonneg_right (List.sum_nonneg fun v hv => ?_)
  obtain ⟨p, _, rfl⟩ := List.mem_map.mp hv
  exact sq_nonneg _

/-- the same against every coefficient list that is not longer (lower order): pad with zeros -/
theorem normal_eqs_optimal_le (c c' : List K) (x y : List K) (hne : NormalEqs c x y)
    (hlen : c'.length ≤ c.length) : sse c x y ≤ sse c' x y := by
  have hpad : sse (c' ++ List.replicate (c.length - c'.length) 0) x y = sse c' x y := by
    simp only [sse, predict_append_zeros]
  rw [← hpad]
  apply (normal_eqs_optimal c _ x y hne _).2
  rw [List.length_append, List.length_replicate]
  omega

/-- the fit panics exactly when the solver refuses the moment system (the `unwrap`) -/
theorem poly_fit_panic_iff (sqrt : K → K) (solve : Mat K → List K → Option (List K)) (order : Nat)
    (x y : List K) :
    polyFit sqrt solve order x y = .panic ↔
      solve (momentMatrix order x) (momentRhs order x y) = none := by
  rw [polyFit_eq]
  cases solve (momentMatrix order x) (momentRhs order x y) <;> simp

/-- when the solve succeeds the returned `order + 1` coefficients satisfy the normal equations -/
theorem poly_fit_normal_eqs (sqrt : K → K) (solve : Mat K → List K → Option (List K))
    (hs : SolveSound solve) (order : Nat) (x y : List K) (hxy : x.length = y.length) (f : Fit K)
    (h : polyFit sqrt solve order x y = .ok f) :
    f.coeffs.length = order + 1 ∧ NormalEqs f.coeffs x y := by
  rw [polyFit_eq] at h
  cases hsol : solve (momentMatrix order x) (momentRhs order x y) with
  | none => rw [hsol] at h; cases h
  | some c =>
    rw [hsol] at h
    cases h
    obtain ⟨hl, hrow⟩ := hs _ _ _ hsol
    exact ⟨hl, normalEqs_of_moment_solution order x y c hxy hl hrow⟩

/-- so no coefficient list of that order (or lower) has a smaller sum of squares -/
theorem poly_fit_optimal (sqrt : K → K) (solve : Mat K → List K → Option (List K))
    (hs : SolveSound solve) (order : Nat) (x y : List K) (hxy : x.length = y.length) (f : Fit K)
    (h : polyFit sqrt solve order x y = .ok f) (c' : List K) (hc' : c'.length ≤ order + 1) :
    sse f.coeffs x y ≤ sse c' x y := by
  obtain ⟨hl, hne⟩ := poly_fit_normal_eqs sqrt solve hs order x y hxy f h
  exact normal_eqs_optimal_le f.coeffs c' x y hne (by rw [hl]; exact hc')

/-- and so does the line fit -/
theorem ls_fit_optimal (sqrt : K → K) (x y : List K) (hxy : x.length = y.length) (f : Fit K)
    (h : lsFit sqrt x y = some f) (c' : List K) (hc' : c'.length ≤ 2) :
    sse f.coeffs x y ≤ sse c' x y := by
  have hne := ls_fit_normalEqs sqrt x y hxy f h
  obtain ⟨_, _, hc⟩ := ls_coeffs sqrt x y f h
  exact normal_eqs_optimal_le f.coeffs c' x y hne (by rw [hc]; exact hc')

/-- raising the order never increases the residual -/
theorem higher_order_not_worse (sqrt : K → K) (solve : Mat K → List K → Option (List K))
    (hs : SolveSound solve) (m m' : Nat) (hm : m ≤ m') (x y : List K) (hxy : x.length = y.length)
    (f f' : Fit K) (h : polyFit sqrt solve m x y = .ok f) (h' : polyFit sqrt solve m' x y = .ok f') :
    sse f'.coeffs x y ≤ sse f.coeffs x y := by
  obtain ⟨hl, _⟩ := poly_fit_normal_eqs sqrt solve hs m x y hxy f h
  exact poly_fit_optimal sqrt solve hs m' x y hxy f' h' f.coeffs (by omega)

/-- an order-1 polynomial fit equals the line fit (uniqueness comes from `D ≠ 0`, which the line
fit's being defined provides) -/
theorem order1_eq_line_fit (sqrt : K → K) (solve : Mat K → List K → Option (List K))
    (hs : SolveSound solve) (x y : List K) (hxy : x.length = y.length) (f g : Fit K)
    (hp : polyFit sqrt solve 1 x y = .ok f) (hl : lsFit sqrt x y = some g) :
    f.coeffs = g.coeffs := by
  obtain ⟨hlen, hne⟩ := poly_fit_normal_eqs sqrt solve hs 1 x y hxy f hp
  obtain ⟨hn, hD, hc⟩ := ls_coeffs sqrt x y g hl
  obtain ⟨c0, c1, hf⟩ := List.length_eq_two.mp hlen
  rw [hf] at hne
  obtain ⟨h0, h1⟩ := (normalEqs_line_iff x y hxy hn hD c0 c1).mp hne
  rw [hf, hc, h0, h1]

/-- line fit: `r2`, `std_err` are the textbook functions of the returned coefficients -/
theorem stats_are_functions_of_coeffs_ls (sqrt : K → K) (x y : List K) (hxy : x.length = y.length)
    (f : Fit K) (h : lsFit sqrt x y = some f) :
    f.r2 = r2Spec f.coeffs x y ∧ f.stdErr = stdErrSpec sqrt f.coeffs x y := by
  rw [lsFit_fitOf sqrt x y hxy] at h
  split_ifs at h
  cases h
  exact ⟨rfl, rfl⟩

/-- polynomial fit: the same -/
theorem stats_are_functions_of_coeffs_poly (sqrt : K → K)
    (solve : Mat K → List K → Option (List K)) (order : Nat) (x y : List K) (f : Fit K)
    (h : polyFit sqrt solve order x y = .ok f) :
    f.r2 = r2Spec f.coeffs x y ∧ f.stdErr = stdErrSpec sqrt f.coeffs x y := by
  rw [polyFit_eq] at h
  split at h
  · cases h
  · cases h
    exact ⟨rfl, rfl⟩

/-- gradient descent: the same -/
theorem stats_are_functions_of_coeffs_gd (sqrt : K → K) (steps : Nat) (α : K) (x y : List K)
    (f : Fit K) (h : gdFit sqrt steps α x y = some f) :
    f.r2 = r2Spec f.coeffs x y ∧ f.stdErr = stdErrSpec sqrt f.coeffs x y := by
  rw [gdFit_eq] at h
  split_ifs at h
  cases h
  exact ⟨rfl, rfl⟩

/-- gradient descent is defined exactly for a non-empty response list, starts at `(mean y, 0)` and
returns the weights after `steps` passes of `gdStep` -/
theorem gd_coeffs (sqrt : K → K) (steps : Nat) (α : K) (x y : List K) (f : Fit K)
    (h : gdFit sqrt steps α x y = some f) :
    y.length ≠ 0 ∧
      f.coeffs = [(gdLoop α x y steps (y.sum / (y.length : K), 0)).1,
                  (gdLoop α x y steps (y.sum / (y.length : K), 0)).2] := by
  rw [gdFit_eq] at h
  split_ifs at h with h0
  cases h
  exact ⟨h0, rfl⟩

/-- one gradient step maps the error `e = w − w*` (`w* = (a, b)` any solution of the normal
equations) by `I − αH`, `H = [[1, mean x], [mean x, mean x²]]` -/
theorem gd_step_affine (α : K) (x y : List K) (hxy : x.length = y.length) (hn : y.length ≠ 0)
    (a b : K) (h0 : ((x.zip y).map fun p => p.2 - (a + b * p.1)).sum = 0)
    (h1 : ((x.zip y).map fun p => (p.2 - (a + b * p.1)) * p.1).sum = 0) (w : K × K) :
    ((gdStep α x y w).1 - a, (gdStep α x y w).2 - b)
      = stepErr α (x.sum / (y.length : K)) ((x.map fun xi => xi ^ 2).sum / (y.length : K))
          (w.1 - a, w.2 - b) := by
  have hi : (y.length : K) * (y.length : K)⁻¹ = 1 := mul_inv_cancel₀ (Nat.cast_ne_zero.mpr hn)
  obtain ⟨r0, r1⟩ := res_sums x y hxy a b
  obtain ⟨g0, g1⟩ := grad_sums x y hxy w
  rw [h0] at r0
  rw [h1] at r1
  rw [gdStep_eq, g0, g1, stepErr, Prod.mk.injEq]
  -- `ring` does not cancel `n / n`: `hi` supplies it
  constructor
  · linear_combination (-α * (y.length : K)⁻¹) * r0 - α * (w.1 - a) * hi
  · linear_combination (-α * (y.length : K)⁻¹) * r1

/-- one step contracts the error energy `eᵀHe` by `τ = 1 − αμ(2 − αL)` whenever `μI ≤ H ≤ LI`
(written as the 2×2 determinant conditions, which are decidable in exact arithmetic) and
`0 ≤ α ≤ 2/L` -/
theorem gd_energy_contracts (α mx q L μ : K) (hL : 1 ≤ L) (hLq : q ≤ L)
    (hLdet : mx ^ 2 ≤ (L - 1) * (L - q)) (h0 : 0 ≤ μ) (h1 : μ ≤ 1) (hq : μ ≤ q)
    (hμdet : mx ^ 2 ≤ (1 - μ) * (q - μ)) (hα : 0 ≤ α) (hαL : α * L ≤ 2) (e : K × K) :
    energy mx q (stepErr α mx q e) ≤ (1 - α * μ * (2 - α * L)) * energy mx q e := by
  rw [energy_step]
  exact descent_contracts α L μ _ _ _ (energy_le mx q L hL hLq hLdet _)
    (grad_ge mx q μ h0 h1 hq hμdet e) hα hαL

/-- contraction of the model's loop towards the least-squares optimum, in the energy norm: after
`k` passes `E(w_k − w*) ≤ τ^k E(w_0 − w*)`.  Partial with respect to the property: the rate is
`τ = 1 − αμ(2 − αL) ≥ max(|1 − αμ|, |1 − αL|)²` (the optimal one is not proved), in the energy norm,
with the spectral bounds `μ`, `L` of `H` as hypotheses. -/
theorem gd_contracts_partial (α : K) (x y : List K) (hxy : x.length = y.length)
    (hn : y.length ≠ 0) (a b : K)
    (hne0 : ((x.zip y).map fun p => p.2 - (a + b * p.1)).sum = 0)
    (hne1 : ((x.zip y).map fun p => (p.2 - (a + b * p.1)) * p.1).sum = 0)
    (L μ : K) (hL : 1 ≤ L) (hLq : (x.map fun xi => xi ^ 2).sum / (y.length : K) ≤ L)
    (hLdet : (x.sum / (y.length : K)) ^ 2
      ≤ (L - 1) * (L - (x.map fun xi => xi ^ 2).sum / (y.length : K)))
    (h0 : 0 ≤ μ) (h1 : μ ≤ 1) (hq : μ ≤ (x.map fun xi => xi ^ 2).sum / (y.length : K))
    (hμdet : (x.sum / (y.length : K)) ^ 2
      ≤ (1 - μ) * ((x.map fun xi => xi ^ 2).sum / (y.length : K) - μ))
    (hα : 0 ≤ α) (hαL : α * L ≤ 2) (k : Nat) (w : K × K) :
    energy (x.sum / (y.length : K)) ((x.map fun xi => xi ^ 2).sum / (y.length : K))
        ((gdLoop α x y k w).1 - a, (gdLoop α x y k w).2 - b)
      ≤ (1 - α * μ * (2 - α * L)) ^ k
        * energy (x.sum / (y.length : K)) ((x.map fun xi => xi ^ 2).sum / (y.length : K))
            (w.1 - a, w.2 - b) := by
  refine gdLoop_le_pow α x y
    (fun w => energy (x.sum / (y.length : K)) ((x.map fun xi => xi ^ 2).sum / (y.length : K))
      (w.1 - a, w.2 - b)) _ (tau_nonneg α L μ hL h0 h1 hα hαL) (fun w => ?_) k w
  rw [gd_step_affine α x y hxy hn a b hne0 hne1 w]
  exact gd_energy_contracts α _ _ L μ hL hLq hLdet h0 h1 hq hμdet hα hαL _

/-- the energy is the excess mean squared error over the optimum: `n·E(w − w*) = SSE(w) − SSE(w*)`
— so the contraction above is a statement about the sum of squares the property speaks of -/
theorem gd_energy_is_excess_sse (x y : List K) (hxy : x.length = y.length) (hn : y.length ≠ 0)
    (a b : K) (hne : NormalEqs [a, b] x y) (w : K × K) :
    sse [w.1, w.2] x y - sse [a, b] x y
      = (y.length : K) * energy (x.sum / (y.length : K))
          ((x.map fun xi => xi ^ 2).sum / (y.length : K)) (w.1 - a, w.2 - b) := by
  have hnK : (y.length : K) ≠ 0 := Nat.cast_ne_zero.mpr hn
  rw [(normal_eqs_optimal [a, b] [w.1, w.2] x y hne rfl).1, add_sub_cancel_left,
    sum_zip_moments x y hxy _ ((w.1 - a) ^ 2) (2 * (w.1 - a) * (w.2 - b)) ((w.2 - b) ^ 2) 0 0
      fun p => by rw [predict_pair, predict_pair]; ring]
  unfold energy
  field_simp
  ring

/-- `SolveSound` is satisfiable by a solver that does answer: division for 1×1 systems -/
example : SolveSound (fun (M : Mat ℚ) (r : List ℚ) =>
    if M.h = 1 ∧ M.w = 1 ∧ M.get 0 0 ≠ 0 then some [r.getD 0 0 / M.get 0 0] else none) := by
  intro M r c h
  simp only at h
  by_cases hc : M.h = 1 ∧ M.w = 1 ∧ M.get 0 0 ≠ 0
  · rw [if_pos hc] at h
    cases h
    obtain ⟨hh, hw, h00⟩ := hc
    refine ⟨by simp [hw], ?_⟩
    intro i hi
    have : i = 0 := by omega
    subst this
    rw [hw]
    simp only [Finset.sum_range_one, List.getD_cons_zero]
    field_simp
  · rw [if_neg hc] at h; cases h

/-- the line through (0,1), (1,3), (2,5) is recovered: intercept 1, slope 2, r² = 1, std_err = sqrt 0 -/
example (sqrt : ℚ → ℚ) :
    lsFit sqrt [0, 1, 2] [1, 3, 5]
      = some { coeffs := [1, 2], stdErr := some (sqrt 0), r2 := some 1 } := by
  rw [lsFit_fitOf sqrt [0, 1, 2] [1, 3, 5] rfl]
  norm_num [lsD, lsSlope, lsIntercept, fitOf, stdErrSpec, r2Spec, sse, sst, predict_pair]

/-- repeated abscissae only: `D = 0`, the code divides by zero, the model says undefined -/
example (sqrt : ℚ → ℚ) : lsFit sqrt [2, 2, 2] [1, 3, 5] = none :=
  (ls_defined_iff sqrt _ _).mpr (Or.inr (by norm_num [lsD]))

/-- the normal equations are satisfiable and the optimum is strict against another line -/
example : NormalEqs ([1, 2] : List ℚ) [0, 1, 2] [1, 3, 5] ∧
    sse ([1, 2] : List ℚ) [0, 1, 2] [1, 3, 5] < sse ([0, 2] : List ℚ) [0, 1, 2] [1, 3, 5] := by
  constructor
  · rw [normalEqs_pair]
    norm_num
  · norm_num [sse, predict_pair]

/-- a polynomial fit with a solver that answers: order 0 on constant data, solved by division -/
example (sqrt : ℚ → ℚ) :
    polyFit sqrt (fun M r => some [r.getD 0 0 / M.get 0 0]) 0 [1, 2, 3] [4, 4, 4]
      = .ok { coeffs := [4], stdErr := some (sqrt 0), r2 := none } := by
  rw [polyFit_eq, momentRhs_getD 0 _ _ Nat.one_pos, momentMatrix_get 0 _ Nat.one_pos Nat.one_pos]
  norm_num [fitOf, stdErrSpec, r2Spec, sse, sst, predict_single]

/-- a refused system is the panic of `unwrap` -/
example (sqrt : ℚ → ℚ) : polyFit sqrt (fun _ _ => none) 2 [1, 2, 3] [4, 4, 4] = .panic := rfl

/-- the spectral hypotheses of the contraction theorem are satisfiable with a rate below 1:
`mx = 0`, `q = 1` (`H = I`), `μ = L = 1`, `α = 1`: `τ = 0` -/
example : (1 : ℚ) - 1 * 1 * (2 - 1 * 1) = 0 ∧ (0 : ℚ) ^ 2 ≤ (1 - 1) * (1 - 1) := by norm_num

/-- gradient descent on the data above with `x` centred, one step of size 1: the intercept stays at its
optimum `3 = mean y`, the slope goes from `0` to `4/3` (optimum `2`: the error shrinks by `1 − α·mean x² = 1/3`) -/
example (sqrt : ℚ → ℚ) :
    (gdFit sqrt 1 1 [-1, 0, 1] [1, 3, 5]).map (·.coeffs) = some [3, 4 / 3] := by
  rw [gdFit_eq]
  norm_num [gdLoop, gdStep_eq, fitOf]

end SV.Props.C15
