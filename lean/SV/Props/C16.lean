import SV.Model.C16
import SV.Lemmas.C01
import SV.Lemmas.C02
/-!
# C16 — parsers are total, and acceptance implies fidelity

Property theorems only.  The parser models are total functions into `ok | err` by construction
(`Except PErr _`, no panic constructor: every index the Rust code uses is produced by `find`/`split`
on the same text, and the dense vector's size is bounded — `simple_total` in `SV.Props.C16Simple`).
This file: normalisation never drops or invents a character other than the `+` it inserts before a
`-` (both parsers), so a rejected or accepted text is judged on exactly its non-white-space characters.
The grammar characterisation (`simple_accepts_only_grammar`) is in `SV.Props.C16Simple`.
-/
namespace SV.Props.C16
open SV SV.Text

/-- the characters of a text other than `+` -/
def noPlus (s : List Char) : List Char := s.filter (fun c => c != '+')

@[simp] private theorem noPlus_nil : noPlus [] = [] := rfl
private theorem noPlus_plus (s : List Char) : noPlus ('+' :: s) = noPlus s := by
  simp [noPlus]
private theorem noPlus_cons (c : Char) (s : List Char) (h : c ≠ '+') :
    noPlus (c :: s) = c :: noPlus s := by
  simp [noPlus, h]

/-- Univariate normalisation only inserts `+`: removing every `+` gives the text (white space
removed) with its `+` removed — no character is dropped or altered. -/
theorem simple_normalize_keeps_text (cc : CharClass) (s : List Char) :
    noPlus (C01.normalize cc s) = noPlus (stripWs cc s) := by
  unfold C01.normalize
  generalize stripWs cc s = t
  induction t with
  | nil => rfl
  | cons c cs ih =>
    have hstep : dashToPlusDash (c :: cs) = (if c = '-' then ['+', '-'] else [c]) ++ dashToPlusDash cs := by
      simp [dashToPlusDash]
    rw [hstep]
    by_cases hc : c = '-'
    · subst hc
      simp only [if_true, List.cons_append, List.nil_append]
      rw [noPlus_plus, noPlus_cons _ _ (by decide), noPlus_cons _ _ (by decide), ih]
    · simp only [hc, if_false, List.cons_append, List.nil_append]
      by_cases hp : c = '+'
      · subst hp; rw [noPlus_plus, noPlus_plus, ih]
      · rw [noPlus_cons _ _ hp, noPlus_cons _ _ hp, ih]

/-- The same for the multivariate normalisation (a `-` directly after `^` is kept as it is). -/
theorem inter_normalize_keeps_text (cc : CharClass) (s : List Char) :
    noPlus (C02.normalize cc s) = noPlus (stripWs cc s) := by
  unfold C02.normalize
  generalize stripWs cc s = t
  generalize (none : Option Char) = prev
  induction t generalizing prev with
  | nil => rfl
  | cons c cs ih =>
    unfold C02.protectDash
    by_cases hc : c = '-' ∧ prev ≠ some '^'
    · rw [if_pos hc]
      obtain ⟨rfl, _⟩ := hc
      rw [noPlus_plus, noPlus_cons _ _ (by decide), noPlus_cons _ _ (by decide), ih]
    · rw [if_neg hc]
      by_cases hp : c = '+'
      · subst hp; rw [noPlus_plus, noPlus_plus, ih]
      · rw [noPlus_cons _ _ hp, noPlus_cons _ _ hp, ih]

/-- Both parsers ignore white space completely: texts with the same non-white-space characters
get the same answer. -/
theorem parse_ws_insensitive (cc : CharClass) (cap : Nat) (s s' : List Char)
    (h : stripWs cc s = stripWs cc s') :
    C01.parse cc cap s = C01.parse cc cap s' ∧ C02.parse cc s = C02.parse cc s' :=
  ⟨C01.parse_congr_stripWs h, C02.parse_congr_stripWs h⟩

end SV.Props.C16
