import SV.Model.C01
import SV.Lemmas.Text
import SV.Lemmas.C01
import SV.Props.C01
/-!
# C16 — what follows the variable of a term is checked for EVERY term, whatever its coefficient

In the model of the simple (univariate) parser the term reader `C01.parseTerm` looks at the text after
the variable letter in every part of the normalised text; there is no path on which a term — for
instance one whose coefficient is a spelling of zero (`0`, `00`, `0.0`, `-0`) — is skipped before its
tail has been validated.  A tail that is neither empty nor `^digits` makes the term reader fail, for
every coefficient text, and the failure of one part is the failure of the whole parse.
-/
namespace SV.Props.C16Tail
open SV SV.Poly SV.Text SV.C01 SV.Props.C01

/-- **`0x^`, `3 + 0x^`, `0x#`, `x+0x#3`, `0x(` are rejected** by the model (driver's character classes
and `MAX_POWER`), with the error of the tail — `InvalidExponent` for the empty exponent,
`UnexpectedChar` for the stray character — although the coefficient of the offending term is zero. -/
theorem zero_coeff_bad_tail_instances :
    parse stdClass SV.Gen.simpleMaxPower "0x^".toList = .error .invalidExponent ∧
    parse stdClass SV.Gen.simpleMaxPower "3 + 0x^".toList = .error .invalidExponent ∧
    parse stdClass SV.Gen.simpleMaxPower "0x#".toList = .error .unexpectedChar ∧
    parse stdClass SV.Gen.simpleMaxPower "x+0x#3".toList = .error .unexpectedChar ∧
    parse stdClass SV.Gen.simpleMaxPower "0x(".toList = .error .unexpectedChar := by
  decide +kernel

/-- the other spellings of zero are treated alike: `00x^`, `0.0x#`, `-0x(`, `1 - 0x^` -/
example :
    parse stdClass SV.Gen.simpleMaxPower "00x^".toList = .error .invalidExponent ∧
    parse stdClass SV.Gen.simpleMaxPower "0.0x#".toList = .error .unexpectedChar ∧
    parse stdClass SV.Gen.simpleMaxPower "-0x(".toList = .error .unexpectedChar ∧
    parse stdClass SV.Gen.simpleMaxPower "1 - 0x^".toList = .error .invalidExponent := by
  decide +kernel

/-- a tail (text after the variable letter of a term) that is neither empty nor `^ds` with `ds` a
non-empty string of ASCII digits -/
def BadTail (t : List Char) : Prop :=
  t ≠ [] ∧ ∀ ds, t = '^' :: ds → ¬ (ds ≠ [] ∧ ds.all isAsciiDigit = true)

theorem parseTail_bad (cap : Nat) {t : List Char} (ht : BadTail t) :
    parseTail cap t = .error (if t.head? = some '^' then .invalidExponent else .unexpectedChar) := by
  obtain ⟨hne, hexp⟩ := ht
  cases t with
  | nil => exact absurd rfl hne
  | cons a r =>
    by_cases ha : a = '^'
    · subst ha
      rw [parseTail, parseUsizeCapped, if_neg (hexp r rfl)]
      rfl
    · rw [parseTail_cons_of_ne cap ha, List.head?_cons, if_neg fun h => ha (Option.some.inj h)]

/-- **A term with a bad tail is never read as a term — whatever its coefficient.**  For every
coefficient text `c` (valid or not: `3`, `0`, `00`, `0.0`, `-0`, empty, garbage) not containing the
variable letter `v`, and every tail `t` that is neither empty nor `^digits`, the model's term reader
`parseTerm` returns an error on `c v t`, and the error is one of `InvalidCoefficient` (only if `c` is
not a coefficient), `InvalidExponent`, `UnexpectedChar`.  The coefficient's VALUE plays no role: there
is no early exit for a zero coefficient. -/
theorem term_bad_tail_rejected (cap : Nat) (v : Char) {c t : List Char} (hc : v ∉ c)
    (ht : BadTail t) :
    parseTerm cap (some v) (c ++ v :: t) = .error .invalidCoefficient ∨
    parseTerm cap (some v) (c ++ v :: t) = .error .invalidExponent ∨
    parseTerm cap (some v) (c ++ v :: t) = .error .unexpectedChar := by
  rw [parseTerm_var cap hc, parseTail_bad cap ht]
  cases hk : parseCoef c with
  | error e =>
    obtain rfl := parseCoef_error hk
    exact Or.inl rfl
  | ok k =>
    right
    split_ifs
    · exact Or.inl rfl
    · exact Or.inr rfl

/-- … and when the coefficient text IS a decimal (in particular any spelling of zero), the error is the
error of the tail: `InvalidExponent` after `^`, `UnexpectedChar` otherwise. -/
theorem term_bad_tail_valid_coeff (cap : Nat) (v : Char) {c t : List Char} {d : Dec} (hc : v ∉ c)
    (hd : parseDec c = some d) (ht : BadTail t) :
    parseTerm cap (some v) (c ++ v :: t) =
      .error (if t.head? = some '^' then .invalidExponent else .unexpectedChar) := by
  rw [parseTerm_var cap hc, parseCoef_of_parseDec hd, parseTail_bad cap ht]

/-- **One bad tail anywhere rejects the whole text.**  For every text `s`: if among the parts of the
normalised text (white space dropped, split at `+` / before `-`, exactly as the model splits) there is
one of the form `c v t` with `v` the text's variable letter (its first alphabetic character), `c` any
coefficient text without `v` — zero or not, valid or not — and `t` a bad tail, then `parse` returns an
error.  No position in the text, no coefficient value and no other term changes that. -/
theorem parse_zero_coeff_bad_tail (cc : CharClass) (cap : Nat) {s c t : List Char} {v : Char}
    (hv : (normalize cc s).find? cc.isAlpha = some v)
    (hp : c ++ v :: t ∈ parts (normalize cc s)) (hc : v ∉ c) (ht : BadTail t) :
    ∃ e, parse cc cap s = .error e := by
  obtain ⟨e, he⟩ : ∃ e, parseTerm cap (some v) (c ++ v :: t) = .error e := by
    rcases term_bad_tail_rejected cap v hc ht with h | h | h <;> exact ⟨_, h⟩
  exact parse_error_of_part hp (hv ▸ he)

/-- `x + 0x#3` by the theorem: the part `0x#3` has coefficient text `0` and the bad tail `#3`. -/
example : ∃ e, parse stdClass SV.Gen.simpleMaxPower "x + 0x#3".toList = .error e :=
  parse_zero_coeff_bad_tail stdClass _ (v := 'x') (c := ['0']) (t := ['#', '3']) (by decide +kernel)
    (by decide +kernel) (by decide) ⟨by decide, fun ds h => by simp at h⟩

/-- **The same at the level of the text**: if the normalised text (white space dropped, `-` → `+-`)
reads `… + c v t` up to its end or up to the next `+`, where the part `c v t` contains no `+`, `v` is
the text's variable letter, `v ∉ c` and `t` is a bad tail, then `parse` returns an error — whatever
stands before and after that part, and whatever the coefficient text `c` is (`c` starts with `-` for a
subtracted term). -/
theorem parse_bad_tail_in_text (cc : CharClass) (cap : Nat) {s A c t post : List Char} {v : Char}
    (hv : (normalize cc s).find? cc.isAlpha = some v)
    (hn : normalize cc s = A ++ '+' :: ((c ++ v :: t) ++ post))
    (hplus : '+' ∉ c ++ v :: t) (hpost : post = [] ∨ ∃ B, post = '+' :: B)
    (hc : v ∉ c) (ht : BadTail t) :
    ∃ e, parse cc cap s = .error e := by
  refine parse_zero_coeff_bad_tail cc cap hv ?_ hc ht
  obtain ⟨tl, htl⟩ : ∃ tl, splitOn '+' ((c ++ v :: t) ++ post) = (c ++ v :: t) :: tl := by
    rcases hpost with rfl | ⟨B, rfl⟩
    · exact ⟨[], by rw [List.append_nil]; exact splitOn_of_not_mem hplus⟩
    · exact ⟨_, splitOn_append B hplus⟩
  obtain ⟨x, rest, hA⟩ := List.exists_cons_of_ne_nil (splitOn_ne_nil '+' A)
  refine mem_parts_of_mem_tail (x := x) (rest := rest ++ (c ++ v :: t) :: tl) ?_ (by simp)
  rw [hn, splitOn_append_sep, hA, htl]
  rfl

/-- `3 - 0.0x^ + 2` by the text-level theorem: normalised `3+-0.0x^+2`, part `-0.0x^`. -/
example : ∃ e, parse stdClass SV.Gen.simpleMaxPower "3 - 0.0x^ + 2".toList = .error e :=
  parse_bad_tail_in_text stdClass _ (A := ['3']) (c := "-0.0".toList) (v := 'x') (t := ['^'])
    (post := "+2".toList) (by decide +kernel) (by decide +kernel) (by decide +kernel) (Or.inr ⟨_, rfl⟩)
    (by decide +kernel)
    ⟨by decide, fun ds h => by simp at h; subst h; simp⟩

private theorem sum_drop_zero (ts : List TermSyn) (k : Nat) :
    ((ts.filter fun t => decide (t.pow = k)).map TermSyn.value).sum =
      ((ts.filter fun t => decide (t.pow = k) && decide (t.value ≠ 0)).map TermSyn.value).sum := by
  induction ts with
  | nil => rfl
  | cons t ts ih =>
    simp only [List.filter_cons]
    by_cases h1 : t.pow = k <;> by_cases h2 : t.value = 0 <;> simp [h1, h2, ih]

/-- **Terms with a zero coefficient are ordinary terms.**  For every well-formed term list (zero
coefficients allowed, in any spelling) and every text that renders it: the text is accepted; the vector
has `max power + 1` entries where the maximum is over ALL terms, the zero ones included (so `0x^5 + 1`
has 6 coefficients); and position `k` holds the sum of the NON-zero terms of power `k` — a zero term
contributes 0 to its position. -/
theorem term_zero_coeff_contributes_zero {cc : CharClass} (hcc : cc.Sane) (cap : Nat) {v : Char}
    (hv : cc.isAlpha v = true) (lead : Bool) {ts : List TermSyn} (hwf : WellFormed cap ts)
    {s : List Char} (hs : stripWs cc s = render v lead ts) :
    ∃ p, parse cc cap s = .ok p ∧ p.coeffs.length = maxPow ts + 1 ∧
      ∀ k, (p.coeffs.getD k Num.zero).val =
        ((ts.filter fun t => decide (t.pow = k) && decide (t.value ≠ 0)).map TermSyn.value).sum := by
  obtain ⟨p, hp, _, hlen, hval⟩ := SV.Props.C01.parse_render hcc cap hv lead hwf hs
  exact ⟨p, hp, hlen, fun k => by rw [hval k, sum_drop_zero]⟩

/-- `0x^5 + 1` in the model: six entries, the zero term's `+= 0` at position 5 included (evaluated by
the kernel). -/
theorem zero_term_fixes_length :
    parse stdClass SV.Gen.simpleMaxPower "0x^5 + 1".toList =
      .ok ⟨[.add .zero (.dec ⟨false, 1, 0⟩), .zero, .zero, .zero, .zero,
        .add .zero (.dec ⟨false, 0, 0⟩)], some 'x'⟩ := by decide +kernel

/-- … 6 coefficients with values `[1, 0, 0, 0, 0, 0]`. -/
example : ∃ p, parse stdClass SV.Gen.simpleMaxPower "0x^5 + 1".toList = .ok p ∧ p.coeffs.length = 6 ∧
    p.coeffs.map Num.val = [1, 0, 0, 0, 0, 0] := by
  refine ⟨_, zero_term_fixes_length, rfl, ?_⟩
  norm_num [Num.val, Dec.val, Num.zero]

end SV.Props.C16Tail
