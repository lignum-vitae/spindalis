import SV.Model.C17
import SV.Lemmas.C17
import SV.Lemmas.C17Simple
import SV.Lemmas.C17Model
import SV.Lemmas.C17InterValue
/-!
# C17 — printed polynomials read back as the same polynomial (round-trip theorems)

Property theorems only.  The printers are the models of `SV.Model.C17` (validated text for text against
the Rust `Display` impls and `to_polynomial_string`), the parsers are the models `SV.C01.parse` of
`parse_simple_polynomial` and `SV.C02.parse` of `parse_intermediate_polynomial`.

How one `f64` is spelled is a parameter of the printer models (`Item.text`); the theorems assume of it
what the harness checks on every text Rust produces:

* `IsSpelling t`        the text is a plain decimal spelling `digits[.digits]` with an integer digit
                        (Rust's `{}` and `{:.p}` of a finite `f64` never use an exponent);
* `ItemOK digits it c`  the item describes the number `c`: sign class, unit flag, and the value of the
                        text is `|c|` (default formatting, `digits = none`) resp. within `½·10⁻ᵈ` of
                        `|c|` (`digits = some d`).

Reading of "the value of the text is `|c|`" (DESIGN §3, decimal literals): numbers in the parser models
are the exact rationals of their spellings.  For `{:.d}` the hypothesis holds of the exact value of the
`f64` (Rust rounds the exact binary value correctly to `d` decimals).  For `{}` Rust prints the
shortest decimal that `f64::from_str` maps back to the same `f64`; the theorems then say that this very
spelling arrives, with its sign, at the right position (power, variable) of the parse result — identity
of the `f64`s follows with `from_str(to_string(x)) = x` of Rust's std, which the oracle checks on every
case (exactly, in rationals).

The univariate grammar (`UDec`, `TermSyn`, `render`) and `parse_render` come from C01; the multivariate
grammar (`ITermSyn`, `renderI`) and `parse_renderI` are in `SV.Lemmas.C17Inter`.
-/
namespace SV.Props.C17Roundtrip
open SV SV.Text SV.C01 SV.C17

/-- **Trimming keeps the value and stays readable.**  For every well-formed unsigned decimal spelling
`u` with at least one integer digit (what `{:.p}` prints, for every number `p` of fraction digits —
`p = u.fp.length` is arbitrary), the text left by `trimFraction` (trailing `0`s of the fraction, then a
trailing point) is again a well-formed spelling `u'` with the same integer digits and the SAME value;
all three number readers of the parsers (`parseUDec`; `parseDec` of the univariate parser, with or
without a sign in front; `parseSignedDec` of the multivariate parser) accept it and return that value. -/
theorem trim_preserves_value (u : UDec) (hu : u.WF) (hip : u.ip ≠ []) :
    ∃ u' : UDec, u'.WF ∧ u'.ip = u.ip ∧ trimFraction u.render = u'.render ∧ u'.value = u.value ∧
      parseUDec (trimFraction u.render) = some (u'.mant, u'.fp.length) ∧
      (∀ neg : Bool, ∃ d,
        parseDec ((if neg then ['-'] else []) ++ trimFraction u.render) = some d ∧
        parseSignedDec ((if neg then ['-'] else []) ++ trimFraction u.render) = some d ∧
        d.val = (if neg then -1 else 1) * u.value) := by
  have hwf := trimU_wf hu hip
  refine ⟨trimU u, hwf, trimU_ip u, trimFraction_render hu, trimU_value u, ?_, ?_⟩
  · rw [trimFraction_render hu]; exact parseUDec_render hwf
  · intro neg
    refine ⟨⟨neg, (trimU u).mant, (trimU u).fp.length⟩, ?_, ?_, ?_⟩
    · rw [trimFraction_render hu]; exact parseDec_render hwf neg
    · rw [trimFraction_render hu]; exact C02.parseSignedDec_render (C02.UDec.ofText_wf hwf) neg
    · rw [Dec.val_mk, trimU_value]

/-- the same on texts: a spelling stays a spelling of the same value -/
theorem trim_preserves_value_text {t : List Char} (h : IsSpelling t) :
    IsSpelling (trimFraction t) ∧ textValue (trimFraction t) = textValue t :=
  ⟨h.trim, textValue_trim h⟩

/-- `textValue` is the number the parser's decimal reader returns -/
theorem textValue_is_parsed {t : List Char} (h : IsSpelling t) (neg : Bool) :
    ∃ d, parseDec ((if neg then ['-'] else []) ++ t) = some d ∧
      d.val = (if neg then -1 else 1) * textValue t := parseDec_spelling h neg

/-- the trimming before the repair (D10): trailing `0`s, then a trailing `.`, of the WHOLE text -/
def trimOld (s : List Char) : List Char := trimEnd '.' (trimEnd '0' s)

/-- … does not keep the value: `{:.0}` of 10 is `"10"`, which it turns into `"1"` -/
example : trimOld "10".toList = "1".toList ∧ trimFraction "10".toList = "10".toList := by decide

example : (parseDec (trimOld "10".toList)).map Dec.val ≠ (parseDec "10".toList).map Dec.val := by
  have h1 : parseDec (trimOld "10".toList) = some ⟨false, 1, 0⟩ := by decide
  have h2 : parseDec "10".toList = some ⟨false, 10, 0⟩ := by decide
  rw [h1, h2]
  norm_num [Dec.val]

/-- The hypothesis "at least one integer digit" cannot be dropped (`".0"` would be trimmed to the empty
text); Rust's formatter always prints one (`0.5`, never `.5`). -/
example : trimFraction ".0".toList = [] ∧ parseDec [] = none := by decide

/-- non-vacuity: `"12.500"` is a spelling, is trimmed to `"12.5"`, value 25/2 -/
example : IsSpelling "12.500".toList ∧ trimFraction "12.500".toList = "12.5".toList ∧
    textValue "12.500".toList = 25 / 2 :=
  ⟨by decide +kernel, by decide +kernel, by decide +kernel⟩

/-- **What the parser reads from a printed coefficient vector** (all formatter precisions at once; the
value statement below follows from it).  Let `items` be the coefficients of a vector (position `k` =
power `k`), every non-zero one spelled as a plain decimal.  For every variable letter (`None` prints
`x`), every classification `cc` with the disjointness facts in which the blank is white space, and
both printing modes (`prec = true`: `{:.p}` texts with zero trimming):

* the parser accepts the printed text;
* the variable it reports is the letter iff some item above the constant is non-zero;
* the vector reaches exactly up to the highest non-zero item (one entry for the zero polynomial);
* position `k` reads as `readBack items k`: 0 for a zero or absent item, else sign × (1 if the
  coefficient was elided — unit flag set and `k ≠ 0` —, else the value of the item's text; under a
  precision that is also the value of the *trimmed* text that is actually printed). -/
theorem simple_display_readback {cc : CharClass} (hcc : cc.Sane) (hsp : cc.isWs ' ' = true) (cap : Nat)
    (prec : Bool) (var : Option Char) (hv : cc.isAlpha (var.getD 'x') = true) {items : List Item}
    (hlen : items.length ≤ cap + 1) (h : ItemsSpelled items) :
    ∃ p, parse cc cap (displaySimple prec var items) = .ok p ∧
      (p.var = some (var.getD 'x') ∨ p.var = none) ∧
      (p.var = some (var.getD 'x') ↔ ∃ k it, 1 ≤ k ∧ items[k]? = some it ∧ it.sign ≠ .zero) ∧
      (∀ k it, items[k]? = some it → it.sign ≠ .zero → k < p.coeffs.length) ∧
      (p.coeffs.length = 1 ∨ ∃ it, items[p.coeffs.length - 1]? = some it ∧ it.sign ≠ .zero) ∧
      ∀ k, (p.coeffs.getD k Num.zero).val = readBack items k := by
  obtain ⟨p, hp, hvar, hl, hval⟩ := parse_displaySimple hcc hsp cap prec var hv hlen h
  have hmax := maxPow_simpleTerms prec items
  refine ⟨p, hp, ?_, ?_, ?_, ?_, hval⟩
  · rw [hvar]
    split
    · exact Or.inl rfl
    · exact Or.inr rfl
  · rw [hvar, ← writesVar_simpleTerms prec items]
    split
    · rename_i hw; exact iff_of_true rfl hw
    · rename_i hw; exact iff_of_false (fun e => nomatch e) hw
  · intro k it hk hz
    rw [hl]; exact Nat.lt_succ_of_le (hmax.1 k it hk hz)
  · rw [hl, Nat.add_sub_cancel]
    exact hmax.2.imp (congrArg (· + 1)) id

/-- **The printed coefficient vector reads back as the coefficients**, for both formattings at once
(`Close digits`: equal for `digits = none`, within `½·10⁻ᵈ` for `digits = some d`): if the items describe
the rational coefficient vector `cs`, the printed text is accepted, the result is not longer than `cs`
(one entry for an empty or zero vector), and position `k` reads back as `c_k`. -/
theorem simple_display_close {cc : CharClass} (hcc : cc.Sane) (hsp : cc.isWs ' ' = true) (cap : Nat)
    (prec : Bool) (var : Option Char) (hv : cc.isAlpha (var.getD 'x') = true) {items : List Item}
    {cs : List ℚ} (digits : Option Nat) (hlen : cs.length ≤ cap + 1) (h : ItemsOK digits items cs) :
    ∃ p, parse cc cap (displaySimple prec var items) = .ok p ∧
      p.coeffs.length ≤ max cs.length 1 ∧
      ∀ k, Close digits (p.coeffs.getD k Num.zero).val (cs.getD k 0) := by
  obtain ⟨p, hp, _, hl, hval⟩ := parse_displaySimple hcc hsp cap prec var hv (h.1 ▸ hlen) h.spelled
  refine ⟨p, hp, ?_, fun k => by rw [hval k]; exact readBack_close h k⟩
  rw [hl, ← h.1]
  exact maxPow_lt (termOf_pow prec) fun q hq => (of_mem_pairs (List.mem_reverse.1 hq)).1

/-- **Default formatting: identical coefficients.**  If the items describe the rational coefficient
vector `cs` (`ItemsOK none`: signs, unit flags, and every text is a spelling whose value is `|c_k|` —
Rust's `{}` prints the shortest decimal that reads back to the same `f64`), the printed text is
accepted and position `k` of the result is `c_k`, for every `k` (0 beyond the end).  This covers the
sign and spacing rules, a leading `" - "`, unit-coefficient elision (the parser re-inserts exactly the
1 that was elided), skipped zero coefficients, and the zero polynomial.  (`prec` may be either mode:
trimming does not change a value.) -/
theorem simple_display_roundtrip {cc : CharClass} (hcc : cc.Sane) (hsp : cc.isWs ' ' = true) (cap : Nat)
    (prec : Bool) (var : Option Char) (hv : cc.isAlpha (var.getD 'x') = true) {items : List Item}
    {cs : List ℚ} (hlen : cs.length ≤ cap + 1) (h : ItemsOK none items cs) :
    ∃ p, parse cc cap (displaySimple prec var items) = .ok p ∧
      p.coeffs.length ≤ max cs.length 1 ∧
      ∀ k, (p.coeffs.getD k Num.zero).val = cs.getD k 0 :=
  simple_display_close hcc hsp cap prec var hv none hlen h

/-- **Precision formatting: within half a unit of the last decimal.**  If every text is a spelling
within `½·10⁻ᵈ` of `|c_k|` (`{:.d}` rounds to `d` decimals), the printed text — with its zeros trimmed —
is accepted and position `k` of the result is within `½·10⁻ᵈ` of `c_k`, for every `k`. -/
theorem simple_display_roundtrip_prec {cc : CharClass} (hcc : cc.Sane) (hsp : cc.isWs ' ' = true)
    (cap : Nat) (prec : Bool) (var : Option Char) (hv : cc.isAlpha (var.getD 'x') = true)
    {items : List Item} {cs : List ℚ} (d : Nat) (hlen : cs.length ≤ cap + 1)
    (h : ItemsOK (some d) items cs) :
    ∃ p, parse cc cap (displaySimple prec var items) = .ok p ∧
      p.coeffs.length ≤ max cs.length 1 ∧
      ∀ k, |(p.coeffs.getD k Num.zero).val - cs.getD k 0| ≤ 1 / 2 * (1 / 10 : ℚ) ^ d :=
  simple_display_close hcc hsp cap prec var hv (some d) hlen h

/-- The two statements at the driver's classification and the code's `MAX_POWER` (65536): every
coefficient vector of up to 65537 entries, every alphabetic variable letter. -/
theorem simple_display_roundtrip_std (prec : Bool) (var : Option Char)
    (hv : stdClass.isAlpha (var.getD 'x') = true) {items : List Item} {cs : List ℚ}
    (hlen : cs.length ≤ 65537) :
    (ItemsOK none items cs →
      ∃ p, parse stdClass SV.Gen.simpleMaxPower (displaySimple prec var items) = .ok p ∧
        ∀ k, (p.coeffs.getD k Num.zero).val = cs.getD k 0) ∧
    (∀ d, ItemsOK (some d) items cs →
      ∃ p, parse stdClass SV.Gen.simpleMaxPower (displaySimple prec var items) = .ok p ∧
        ∀ k, |(p.coeffs.getD k Num.zero).val - cs.getD k 0| ≤ 1 / 2 * (1 / 10 : ℚ) ^ d) := by
  constructor
  · intro h
    obtain ⟨p, hp, _, hval⟩ := simple_display_roundtrip stdClass_sane (by decide)
      SV.Gen.simpleMaxPower prec var hv (by simpa [SV.Gen.simpleMaxPower] using hlen) h
    exact ⟨p, hp, hval⟩
  · intro d h
    obtain ⟨p, hp, _, hval⟩ := simple_display_roundtrip_prec stdClass_sane (by decide)
      SV.Gen.simpleMaxPower prec var hv d (by simpa [SV.Gen.simpleMaxPower] using hlen) h
    exact ⟨p, hp, hval⟩

/-- **The zero polynomial** (all coefficients zero, also the empty vector) is printed as `0` and reads
back as the zero polynomial `[0]` without a variable. -/
theorem zero_polynomial_roundtrip {cc : CharClass} (hcc : cc.Sane) (hsp : cc.isWs ' ' = true) (cap : Nat)
    (prec : Bool) (var : Option Char) (hv : cc.isAlpha (var.getD 'x') = true) {items : List Item}
    (hlen : items.length ≤ cap + 1) (hz : ∀ it ∈ items, it.sign = .zero) :
    displaySimple prec var items = ['0'] ∧
      ∃ p, parse cc cap ['0'] = .ok p ∧ p.var = none ∧ p.coeffs.length = 1 ∧
        ∀ k, (p.coeffs.getD k Num.zero).val = 0 := by
  have hd := displaySimple_zero prec var hz
  obtain ⟨p, hp, hv1, hv2, _, hl, hval⟩ := simple_display_readback hcc hsp cap prec var hv hlen
    fun it hit hne => absurd (hz it hit) hne
  have hnone : ∀ (k : Nat) (it : Item), items[k]? = some it → it.sign = .zero := fun k it hk =>
    hz it (List.mem_of_getElem? hk)
  refine ⟨hd, p, hd ▸ hp, ?_, ?_, fun k => ?_⟩
  · exact hv1.resolve_left fun h1 =>
      let ⟨k, it, _, hk, hne⟩ := hv2.1 h1
      hne (hnone k it hk)
  · exact hl.resolve_right fun ⟨it, hk, hne⟩ => hne (hnone _ it hk)
  · rw [hval k]
    unfold readBack readWith
    cases hk : items[k]? with
    | none => rfl
    | some it => simp [rv, hnone k it hk]

/-- the items of the coefficient vector `[1, 0, -2.5, 1]` under default formatting -/
def exItems : List Item :=
  [⟨.pos, true, "1".toList⟩, ⟨.zero, false, "0".toList⟩, ⟨.neg, false, "2.5".toList⟩,
    ⟨.pos, true, "1".toList⟩]

/-- … and under `{:.3}` -/
def exItemsP : List Item :=
  [⟨.pos, true, "1.000".toList⟩, ⟨.zero, false, "0.000".toList⟩, ⟨.neg, false, "2.500".toList⟩,
    ⟨.pos, true, "1.000".toList⟩]

theorem exItems_text : displaySimple false (some 'x') exItems = "x^3 - 2.5x^2 + 1".toList := by
  decide +kernel

/-- both are printed as `x^3 - 2.5x^2 + 1` (the models evaluated by the kernel) -/
example : displaySimple false (some 'x') exItems = "x^3 - 2.5x^2 + 1".toList ∧
    displaySimple true (some 'x') exItemsP = "x^3 - 2.5x^2 + 1".toList :=
  ⟨exItems_text, by decide +kernel⟩

/-- the hypotheses of `simple_display_roundtrip` are satisfiable: the items describe `[1, 0, -5/2, 1]` -/
theorem exItems_ok : ItemsOK none exItems [1, 0, -5 / 2, 1] := .of_forall₂ (by decide +kernel)

/-- … so the printed text `x^3 - 2.5x^2 + 1` reads back as exactly those coefficients -/
example : ∃ p, parse stdClass 65536 "x^3 - 2.5x^2 + 1".toList = .ok p ∧
    ∀ k, (p.coeffs.getD k Num.zero).val = ([1, 0, -5 / 2, 1] : List ℚ).getD k 0 := by
  obtain ⟨p, hp, _, hval⟩ := simple_display_roundtrip stdClass_sane (by decide +kernel) 65536 false (some 'x')
    (by decide +kernel) (by decide +kernel) exItems_ok
  exact ⟨p, exItems_text ▸ hp, hval⟩

/-- the `{:.3}` items are within `½·10⁻³` (here exactly equal), and the trimmed text reads back -/
theorem exItemsP_ok : ItemsOK (some 3) exItemsP [1, 0, -5 / 2, 1] := .of_forall₂ (by decide +kernel)

example : ∃ p, parse stdClass 65536 (displaySimple true (some 'x') exItemsP) = .ok p ∧
    ∀ k, |(p.coeffs.getD k Num.zero).val - ([1, 0, -5 / 2, 1] : List ℚ).getD k 0| ≤
      1 / 2 * (1 / 10 : ℚ) ^ 3 := by
  obtain ⟨p, hp, _, hval⟩ := simple_display_roundtrip_prec stdClass_sane (by decide +kernel) 65536 true
    (some 'x') (by decide +kernel) 3 (by decide +kernel) exItemsP_ok
  exact ⟨p, hp, hval⟩

/-- a leading `" - "` and an explicit unit constant: `[-1, -1]` is printed ` - x - 1` -/
example : displaySimple false none [⟨.neg, true, "1".toList⟩, ⟨.neg, true, "1".toList⟩] =
    " - x - 1".toList := by decide +kernel

/-- **What the parser reads from a model string.**  `items` are the coefficients of a fitted model in
ascending order, every non-zero one spelled as `-`? + plain decimal (`SignedSpelled`: the `-` is there
iff the coefficient is negative).  The text — parts joined by `" + "`, then `"+ -"` rewritten to `"- "` —
is accepted, the result is not longer than the coefficient vector, and position `k` reads as
`readBackM items k`: 0 for a zero or absent item, else sign × (1 if the coefficient was elided — unit
flag set and `k ≠ 0` —, else the value of the text after its sign). -/
theorem model_string_readback {cc : CharClass} (hcc : cc.Sane) (hsp : cc.isWs ' ' = true) (cap : Nat)
    (hx : cc.isAlpha 'x' = true) {items : List Item} (hlen : items.length ≤ cap + 1)
    (h : ItemsSignedSpelled items) :
    ∃ p, parse cc cap (modelString items) = .ok p ∧
      p.coeffs.length ≤ max items.length 1 ∧
      ∀ k, (p.coeffs.getD k Num.zero).val = readBackM items k := by
  obtain ⟨p, hp, _, hl, hval⟩ := parse_render_spec hcc (VarOK.of_alpha hcc hx)
    (modelTerms_wf hlen h) (fun _ => hx) (stripWs_modelString hcc hsp hx hlen h)
  refine ⟨p, hp, ?_, fun k => by rw [hval k, modelTerms_sum hlen h k]⟩
  rw [hl]
  exact maxPow_lt (f := mtermOf) (fun q => termOf_pow false _) fun q hq => (of_mem_pairs hq).1

/-- **The model string reads back within half a unit of the last printed decimal** (the code prints
`{:.5}`, so `d = 5`; the statement holds for every `d`): if every non-zero coefficient `c_k` is printed
as a signed spelling within `½·10⁻ᵈ` of it, unit coefficients (`±1`) being elided above the constant,
then the parser accepts `to_polynomial_string()` and position `k` of the result is within `½·10⁻ᵈ` of
`c_k`, for every `k`.  Covers the ascending order, skipped zero coefficients, the all-zero model (`0`),
a negative first part, and the `"+ -" → "- "` rewrite. -/
theorem model_string_roundtrip {cc : CharClass} (hcc : cc.Sane) (hsp : cc.isWs ' ' = true) (cap : Nat)
    (hx : cc.isAlpha 'x' = true) {items : List Item} {cs : List ℚ} (d : Nat)
    (hlen : cs.length ≤ cap + 1) (h : MItemsOK d items cs) :
    ∃ p, parse cc cap (modelString items) = .ok p ∧
      p.coeffs.length ≤ max cs.length 1 ∧
      ∀ k, |(p.coeffs.getD k Num.zero).val - cs.getD k 0| ≤ 1 / 2 * (1 / 10 : ℚ) ^ d := by
  obtain ⟨p, hp, hl, hval⟩ := model_string_readback hcc hsp cap hx (h.1 ▸ hlen) h.spelled
  exact ⟨p, hp, h.1 ▸ hl, fun k => by rw [hval k]; exact readBackM_close h k⟩

/-- The rewrite step in isolation, for every well-formed term list (not only those a model produces):
the parts of the terms joined by `" + "`, rewritten, are — up to white space — the rendering of the
terms; so the rewrite never changes what is read. -/
theorem plus_minus_rewrite_is_render {cc : CharClass} (hcc : cc.Sane) (hsp : cc.isWs ' ' = true)
    {cap : Nat} {v : Char} (hv : cc.isAlpha v = true) (t : TermSyn) (ts : List TermSyn)
    (hts : WellFormed cap (t :: ts)) :
    stripWs cc (replacePlusMinus (" + ".toList.intercalate ((t :: ts).map (TermSyn.renderPart v)))) =
      render v false (t :: ts) := stripWs_joined hcc hsp hv t ts hts

/-- the items of the coefficients `[1.5, -2, 1, 0, -1]` (`{:.5}` texts of the signed values) -/
def exModel : List Item :=
  [⟨.pos, false, "1.50000".toList⟩, ⟨.neg, false, "-2.00000".toList⟩, ⟨.pos, true, "1.00000".toList⟩,
    ⟨.zero, false, "0.00000".toList⟩, ⟨.neg, true, "-1.00000".toList⟩]

theorem exModel_text : modelString exModel = "1.50000 - 2.00000x + x^2 - x^4".toList := by
  decide +kernel

example : modelString exModel = "1.50000 - 2.00000x + x^2 - x^4".toList := exModel_text

theorem exModel_ok : MItemsOK 5 exModel [3 / 2, -2, 1, 0, -1] := .of_forall₂ (by decide +kernel)

example : ∃ p, parse stdClass 65536 "1.50000 - 2.00000x + x^2 - x^4".toList = .ok p ∧
    ∀ k, |(p.coeffs.getD k Num.zero).val - ([3 / 2, -2, 1, 0, -1] : List ℚ).getD k 0| ≤
      1 / 2 * (1 / 10 : ℚ) ^ 5 := by
  obtain ⟨p, hp, _, hval⟩ := model_string_roundtrip stdClass_sane (by decide +kernel) 65536 (by decide +kernel) 5
    (by decide +kernel) exModel_ok
  exact ⟨p, exModel_text ▸ hp, hval⟩

/-! ## (4) `Display for IntermediatePolynomial` and `Display for Term` read back

Parser: the model `SV.C02.parse` of `parse_intermediate_polynomial`.  The grammar of what the printers
produce (`ITermSyn`, `VarSyn`, `renderI`: plain-decimal coefficients, single ASCII letters, optional
signed plain-decimal exponents) is defined in `SV.Lemmas.C17Inter`. -/

/-- **Every text of the printers' grammar is accepted by the multivariate parser and read as written**
(any spacing): the terms in order, coefficient `±1` where omitted, exponent 1 where omitted, exponents
of a repeated letter added, variables of a term sorted by name; the variable list is the sorted set of
letters.  `NumSane` adds to `Sane` that ASCII digits are numeric and ASCII letters are neither numeric
nor white space (proved for the driver's classification: `std_class_numSane`). -/
theorem inter_parse_render {cc : CharClass} (hn : NumSane cc) {ts : List ITermSyn}
    (hts : IWellFormed ts) {s : List Char} (hs : stripWs cc s = renderI ts) :
    C02.parse cc s = .ok ⟨ts.map ITermSyn.read, namesOf (ts.map ITermSyn.read)⟩ :=
  parse_renderI hn hts hs

theorem std_class_numSane : NumSane stdClass := stdClass_numSane

/-- **What the parser reads from a printed multivariate polynomial**, as an equation, for both printing
modes.  Hypothesis per term (`InterItemOK`): a printed coefficient is a plain decimal spelling (of the
magnitude), every variable name is one ASCII letter, every printed exponent is `-`? + spelling.  No
hypothesis on order or repetition of variables: the result says what the parser makes of them
(`ITermSyn.read`: merge, then sort).  The empty polynomial is printed `0` and read as the single
constant term 0. -/
theorem inter_display_readback {cc : CharClass} (hcc : cc.Sane) (hn : NumSane cc)
    (hsp : cc.isWs ' ' = true) (prec : Bool) (terms : List ITermItems)
    (h : ∀ t ∈ terms, InterItemOK t) :
    C02.parse cc (displayInter prec terms) =
      .ok ⟨(interSyns prec terms).map ITermSyn.read,
        namesOf ((interSyns prec terms).map ITermSyn.read)⟩ :=
  parse_renderI hn (interSyns_wf prec h) (stripWs_displayInter hcc hn hsp prec terms h)

/-- **`Display for IntermediatePolynomial` reads back as the same polynomial.**  Let the printed terms
describe the rational terms `qs` (`InterTermOK digits`: sign, unit flag, coefficient text a spelling of
`|c|`, each variable an ASCII letter with exponent 1 if elided and else a signed spelling of the
exponent, letters of a term strictly ascending — the form the parser itself produces; "spelling of"
means equal for `digits = none` (default formatting) and within `½·10⁻ᵈ` for `digits = some d`).  Then
the printed text (either mode; under a precision with the zeros trimmed) is accepted and the parsed
terms are, one by one and in order, the terms `qs`: the same letters, coefficients and exponents equal
resp. within `½·10⁻ᵈ`.  Covers the leading `-`, `" + "`/`" - "`, unit-coefficient elision, exponent
elision, negative and fractional exponents. -/
theorem inter_display_roundtrip {cc : CharClass} (hcc : cc.Sane) (hn : NumSane cc)
    (hsp : cc.isWs ' ' = true) (prec : Bool) (digits : Option Nat) {terms : List ITermItems}
    {qs : List QTerm} (hne : terms ≠ []) (h : List.Forall₂ (InterTermOK digits) terms qs) :
    ∃ p, C02.parse cc (displayInter prec terms) = .ok p ∧
      List.Forall₂ (TermReads digits) p.terms qs ∧ p.variables = namesOf p.terms := by
  have hok : ∀ t ∈ terms, InterItemOK t := by
    intro t ht
    induction h with
    | nil => simp at ht
    | cons hab _ ih =>
      rcases List.mem_cons.1 ht with rfl | ht
      · exact hab.itemOK
      · exact ih (by
          intro e; subst e; simp at ht) ht
  refine ⟨_, inter_display_readback hcc hn hsp prec terms hok, ?_, rfl⟩
  simp only [interSyns, if_neg hne, List.map_map]
  rw [List.forall₂_map_left_iff]
  exact h.imp fun t q htq => htq.reads prec

/-- the empty polynomial: printed `0`, read as the constant term 0 with no variables -/
theorem inter_zero_roundtrip {cc : CharClass} (hcc : cc.Sane) (hn : NumSane cc)
    (hsp : cc.isWs ' ' = true) (prec : Bool) :
    displayInter prec [] = ['0'] ∧
      ∃ p, C02.parse cc ['0'] = .ok p ∧ p.variables = [] ∧
        ∃ c, p.terms = [⟨c, []⟩] ∧ c.val = 0 := by
  have hread : zeroI.read = ⟨zeroI.num, []⟩ := by
    have : readVars zeroI.vars = [] := by
      rw [readVars_sorted _ (by simp [zeroI])]; simp [zeroI]
    simp only [ITermSyn.read, this]
  refine ⟨rfl, _, inter_display_readback hcc hn hsp prec [] (fun t ht => by simp at ht), ?_,
    zeroI.num, ?_, ?_⟩
  · simp [interSyns, hread, namesOf]
  · simp [interSyns, hread]
  · simp [zeroI, ITermSyn.num, Dec.val, UDec.mant, digitsVal, digitVal]

/-- **`Display for Term` reads back as the same term** (parsed as a one-term polynomial): if the items
describe the rational term `q` (`TermTermOK`: the coefficient text is `-`? + spelling of `c`, elided
only if `c = 1` and there are variables; variables as above), the parser accepts the text and returns
exactly one term, which is `q`. -/
theorem term_display_roundtrip {cc : CharClass} (hcc : cc.Sane) (hn : NumSane cc)
    (digits : Option Nat) {t : ITermItems} {q : QTerm} (h : TermTermOK digits t q) :
    ∃ p, C02.parse cc (displayTerm t) = .ok p ∧ List.Forall₂ (TermReads digits) p.terms [q] := by
  have hwf : IWellFormed [termSyn t] := by
    intro t' ht'
    simp only [List.mem_cons, List.not_mem_nil, or_false] at ht'
    subst ht'
    exact interSyn_wf false h.itemOK.abs
  have hs : stripWs cc (displayTerm t) = renderI [termSyn t] := by
    rw [displayTerm_eq h.itemOK]
    exact stripWs_renderI hcc hn hwf
  refine ⟨_, parse_renderI hn hwf hs, ?_⟩
  simp only [List.map_cons, List.map_nil]
  exact .cons h.reads .nil

/-- the items of `−2.5·x²·y^(−0.5) + z` -/
def exInter : List ITermItems :=
  [⟨⟨.neg, false, "2.5".toList⟩, [("x", ⟨.pos, false, "2".toList⟩), ("y", ⟨.neg, false, "-0.5".toList⟩)]⟩,
    ⟨⟨.pos, true, "1".toList⟩, [("z", ⟨.pos, true, "1".toList⟩)]⟩]

theorem exInter_text : displayInter false exInter = "-2.5x^2y^-0.5 + z".toList := by decide +kernel

example : displayInter false exInter = "-2.5x^2y^-0.5 + z".toList := exInter_text

/-- … describe the rational terms `−5/2·x²·y^(−1/2)` and `z` -/
def exInterQ : List QTerm := [⟨-5 / 2, [('x', 2), ('y', -1 / 2)]⟩, ⟨1, [('z', 1)]⟩]

theorem exInter_ok : List.Forall₂ (InterTermOK none) exInter exInterQ :=
  .cons ⟨by decide +kernel, by decide +kernel, by simp⟩
    (.cons ⟨by decide +kernel, by decide +kernel, by simp⟩ .nil)

/-- … so `-2.5x^2y^-0.5 + z` is accepted and read as exactly those two terms -/
example : ∃ p, C02.parse stdClass "-2.5x^2y^-0.5 + z".toList = .ok p ∧
    List.Forall₂ (TermReads none) p.terms exInterQ := by
  obtain ⟨p, hp, hterms, _⟩ := inter_display_roundtrip stdClass_sane stdClass_numSane (by decide +kernel)
    false none (List.cons_ne_nil _ _) exInter_ok
  exact ⟨p, exInter_text ▸ hp, hterms⟩

/-- a `Term`: `−x^0.5` is printed `-1x^0.5` (the unit test is `== 1.0`) and read back as `−x^(1/2)` -/
def exTerm : ITermItems := ⟨⟨.neg, false, "-1".toList⟩, [("x", ⟨.pos, false, "0.5".toList⟩)]⟩

theorem exTerm_text : displayTerm exTerm = "-1x^0.5".toList := by decide +kernel

example : displayTerm exTerm = "-1x^0.5".toList := exTerm_text

theorem exTerm_ok : TermTermOK none exTerm ⟨-1, [('x', 1 / 2)]⟩ :=
  ⟨by decide +kernel, by decide +kernel, by decide +kernel, by decide +kernel, by simp⟩

example : ∃ p, C02.parse stdClass "-1x^0.5".toList = .ok p ∧
    List.Forall₂ (TermReads none) p.terms [⟨-1, [('x', 1 / 2)]⟩] :=
  exTerm_text ▸ term_display_roundtrip stdClass_sane stdClass_numSane none exTerm_ok

end SV.Props.C17Roundtrip
