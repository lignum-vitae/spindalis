import SV.Props.C03
import SV.Lemmas.C04Nat
/-!
# C03 on the natural domain — natural exponents, every real point

`SV.Props.C03.inter_deriv_correct` assumes `DerivDomain` (`x ≠ 0`, or power `≥ 1`), the set where
*every* real power is differentiable.  When the powers of the differentiation variable are natural
numbers the source is differentiable on the whole line, and the property's "all evaluation points in the
domain" means every real point.  The theorems here are stated on `DerivDomainExt` (`x ≠ 0`, or power
`≥ 1`, **or power `= 0`**), which natural powers satisfy at every point.  `powf := Real.rpow`; on natural
exponents `Real.rpow x n = x ^ n` for `x` of either sign (`SV.Props.C04Natural.evalUni_natural`).

## The point `x = 0` with power `0` (DESIGN.md §12 row C03, "excluded")

For a term `c·v^0·…` `partial_derivative` returns `(c·0)·v^(-1)·…` (`deriv_power_zero_model`: the
multiplier is the power, `0`; the new power `-1` is not `0`, so the variable is kept).  In exact
arithmetic that term is `0` for **every** value the factor `v^(-1)` may have (`deriv_power_zero_value`
is stated for an arbitrary `powf`), and `0` is the true derivative of the constant `c·v^0·… = c·…`
(`t^0 = 1` for every real `t`, `0` included).  So the theorems below hold at `x = 0` too, and not
because of Mathlib's convention `Real.rpow 0 (-1) = 0`: only `0 · y = 0` is used.  That law is what
IEEE arithmetic lacks: `powf(0.0, -1.0) = +inf` and `0.0 * inf = NaN`, so the `Float` instance (and
the Rust code) returns `NaN` at this single combination, where the true derivative is `0`.  This is
the documented exclusion — a statement about the `Float` instance at `v = 0` with a literal `v^0`
cannot be derived from these theorems (measured on the model at `Float`: `partialDeriv [5·x^0] "x"`
is `[0·x^(-1)]` and `evalUni Float.pow` of it at `0.0` is `NaN`).  On natural exponents it is the only
such point: a natural power `≥ 1` is reduced to a natural power, and `0^n` is finite.
-/
namespace SV.Props.C03Natural
open SV SV.Poly SV.C03 SV.C04Nat SV.Props.C03

/-- `DerivDomain` plus the case "power `0`": every power `p` that `v` carries is differentiated away
from `0`, or `p ≥ 1`, or `p = 0`.  What remains excluded is `x = 0` with a power `p < 1`, `p ≠ 0`:
for `0 < p < 1` the function is not differentiable there, for `p < 0` it is not defined there
(`Real.rpow 0 p` is a convention). -/
def DerivDomainExt (ts : List (Term ℝ)) (v : String) (x : ℝ) : Prop :=
  ∀ t ∈ ts, ∀ p, (v, p) ∈ t.vars → x ≠ 0 ∨ 1 ≤ p ∨ p = 0

theorem derivDomainExt_of_derivDomain {ts : List (Term ℝ)} {v : String} {x : ℝ}
    (h : DerivDomain ts v x) : DerivDomainExt ts v x :=
  fun t ht p hp => (h t ht p hp).elim Or.inl (fun h1 => Or.inr (Or.inl h1))

/-- **`partial_derivative` / `derivate_multivariate` is the partial derivative on the extended
domain.**  Same statement as `SV.Props.C03.inter_deriv_correct` (well-formed terms, any variable name,
bindings of the other variables, evaluation through the model of `eval_intermediate_polynomial`), with
`DerivDomainExt` in place of `DerivDomain`: a literal `v^0` is admitted at `x = 0`. -/
theorem inter_deriv_correct_ext (p : IPoly ℝ) (hwf : TermsWF p.terms) (v : String)
    (bs : List (String × ℝ)) (hb : ∀ w ∈ termNames p.terms, w ≠ v → (lookup bs w).isSome)
    (x : ℝ) (hdom : DerivDomainExt p.terms v x) :
    ∃ (f : ℝ → ℝ) (d : ℝ),
      (∀ t, evalTerms Real.rpow p.terms (bs ++ [(v, t)]) = .ok (f t)) ∧
      evalTerms Real.rpow (partialDeriv p.terms v).terms (bs ++ [(v, x)]) = .ok d ∧
      HasDerivAt f d x :=
  ⟨_, _, evalTerms_update Real.rpow p.terms bs v hb,
    evalTerms_update Real.rpow _ bs v (fun w hw => hb w (partialDeriv_names p.terms v w hw)) x,
    hasDerivAt_partialDeriv (valuation bs) v x p.terms hwf hdom⟩

/-- **Natural exponents ⇒ the derivative is the derivative at every real point**:
`SV.Props.C03.inter_deriv_correct` without the domain hypothesis, when every power of the
differentiation variable `v` is a natural number (the other variables may carry any real powers). -/
theorem inter_deriv_correct_natural (p : IPoly ℝ) (hwf : TermsWF p.terms) (v : String)
    (hnat : ∀ t ∈ p.terms, ∀ q, (v, q) ∈ t.vars → ∃ n : ℕ, q = n)
    (bs : List (String × ℝ)) (hb : ∀ w ∈ termNames p.terms, w ≠ v → (lookup bs w).isSome)
    (x : ℝ) :
    ∃ (f : ℝ → ℝ) (d : ℝ),
      (∀ t, evalTerms Real.rpow p.terms (bs ++ [(v, t)]) = .ok (f t)) ∧
      evalTerms Real.rpow (partialDeriv p.terms v).terms (bs ++ [(v, x)]) = .ok d ∧
      HasDerivAt f d x :=
  inter_deriv_correct_ext p hwf v bs hb x (natIn_dom (natIn_iff.2 hnat) x)

/-- … with one function `f'` for all points: `f` is differentiable on the whole line and the code's
derivative is its derivative. -/
theorem inter_deriv_correct_natural_everywhere (p : IPoly ℝ) (hwf : TermsWF p.terms) (v : String)
    (hnat : ∀ t ∈ p.terms, ∀ q, (v, q) ∈ t.vars → ∃ n : ℕ, q = n)
    (bs : List (String × ℝ)) (hb : ∀ w ∈ termNames p.terms, w ≠ v → (lookup bs w).isSome) :
    ∃ (f f' : ℝ → ℝ),
      (∀ t, evalTerms Real.rpow p.terms (bs ++ [(v, t)]) = .ok (f t)) ∧
      (∀ x, evalTerms Real.rpow (partialDeriv p.terms v).terms (bs ++ [(v, x)]) = .ok (f' x)) ∧
      ∀ x, HasDerivAt f (f' x) x :=
  ⟨_, _, evalTerms_update Real.rpow p.terms bs v hb,
    evalTerms_update Real.rpow _ bs v (fun w hw => hb w (partialDeriv_names p.terms v w hw)),
    fun x => hasDerivAt_partialDeriv (valuation bs) v x p.terms hwf (natIn_dom (natIn_iff.2 hnat) x)⟩

/-- **`derivate_univariate`, natural exponents, every real point**: `SV.Props.C03.deriv_uni_correct`
without the domain hypothesis (constants included). -/
theorem deriv_uni_correct_natural (p : IPoly ℝ) (h : UniOK p)
    (hnat : ∀ t ∈ p.terms, ∀ w q, (w, q) ∈ t.vars → ∃ n : ℕ, q = n) :
    ∃ (q : IPoly ℝ) (f f' : ℝ → ℝ), derivUni p = .ok q ∧
      (∀ t, evalUni Real.rpow p t = .ok (f t)) ∧ (∀ x, evalUni Real.rpow q x = .ok (f' x)) ∧
      ∀ x, HasDerivAt f (f' x) x := by
  obtain ⟨hu, h1⟩ := h
  have hv := eq_uniVar hu h1
  exact ⟨_, _, _, derivUni_eq p h1, evalUni_eq Real.rpow p hu h1 _ hv,
    evalUni_eq Real.rpow _ (partialDeriv_usable hu _) h1 _
      (fun w hw => hv w (partialDeriv_names _ _ w hw)),
    fun x => hasDerivAt_partialDeriv _ _ x p.terms hu.1
      (natIn_dom ((natAll_iff.2 hnat).natIn _) x)⟩

/-- **What `partial_derivative` does with a literal `v^0`** (any ordered field): in a `NodupVars`
term containing `(v, 0)` the multiplier is `0` and the variable is *kept* at power `-1`; the other
variables are untouched.  (A power-1 variable, by contrast, is removed: `inter_deriv_term`.) -/
theorem deriv_power_zero_model {K : Type} [Field K] [LinearOrder K] (vs : List (String × K))
    (hnd : strictSorted (names vs) = true) (v : String) (h0 : (v, (0 : K)) ∈ vs) :
    ∃ vs', derivVars v vs = some (0, vs') ∧ (v, -1) ∈ vs' ∧
      (∀ q, (v, q) ∈ vs' → q = -1) ∧ ∀ w q, w ≠ v → ((w, q) ∈ vs' ↔ (w, q) ∈ vs) := by
  obtain ⟨pre, post, rfl, hpre, hpost⟩ := exists_split (strictSorted_nodup hnd) h0
  exact ⟨_, derivVars_append_zero hpre, (mem_split_self hpre hpost).2 rfl,
    fun q => (mem_split_self hpre hpost).1, fun w q hw => by rw [mem_split_other hw, mem_split_other hw]⟩

/-- **… and the value of that term is `0` under every power function** (exact arithmetic): the
derivative term `(c·0)·Π powf(σ w, q)` of a term with a literal `v^0` vanishes whatever
`powf (σ v) (-1)` is — in particular at `σ v = 0`, where the statement does not depend on Mathlib's
convention `Real.rpow 0 (-1) = 0`.  It uses `0 · y = 0`, which fails in IEEE arithmetic exactly for
`y = ±inf, NaN`: `powf(0.0, -1.0) = +inf`, so the Rust code and the `Float` instance of the model
return `NaN` there (DESIGN.md §12 row C03: "point x = 0 with power 0 excluded"). -/
theorem deriv_power_zero_value {K : Type} [Field K] [LinearOrder K] (powf : K → K → K)
    (σ : String → K) (t : Term K) (hnd : strictSorted (names t.vars) = true) (v : String)
    (h0 : (v, (0 : K)) ∈ t.vars) :
    ∃ t', derivTerms v [t] = [t'] ∧ t'.coef = 0 ∧ termVal powf σ t' = 0 ∧
      polyVal powf σ (partialDeriv [t] v).terms = 0 := by
  obtain ⟨pre, post, hvs, hpre, _⟩ := exists_split (strictSorted_nodup hnd) h0
  have hdt : derivTerms v [t] = [⟨t.coef * 0, pre ++ (v, -1) :: post⟩] :=
    derivTerms_cons_some [] (hvs ▸ derivVars_append_zero hpre)
  refine ⟨_, hdt, mul_zero _, by simp only [termVal, mul_zero, zero_mul], ?_⟩
  rw [partialDeriv, polyVal_sortVars, hdt]
  simp only [polyVal_cons, polyVal_nil, termVal, mul_zero, zero_mul, add_zero]

/-- the hypotheses of `deriv_uni_correct_natural` are satisfiable: `3x^2 - x + 2`
(`SV.C04Nat.quad`, as `IntermediatePolynomial::parse` returns it), differentiable at
every real point — `0` and `-1` in particular — with the code's derivative as its derivative -/
example : ∃ (q : IPoly ℝ) (f f' : ℝ → ℝ), derivUni quad = .ok q ∧
    (∀ t, evalUni Real.rpow quad t = .ok (f t)) ∧ (∀ x, evalUni Real.rpow q x = .ok (f' x)) ∧
    HasDerivAt f (f' 0) 0 ∧ HasDerivAt f (f' (-1)) (-1) := by
  obtain ⟨q, f, f', h1, h2, h3, h4⟩ := deriv_uni_correct_natural quad quad_usable quad_natural
  exact ⟨q, f, f', h1, h2, h3, h4 0, h4 (-1)⟩

/-- a literal `x^0` at the point `0` is covered by the by-name theorem: `5·x^0·y^(-1)` in `x` at
`x = 0`, `y = 2` (the exponent of the *other* variable need not be natural) -/
example : ∃ (f : ℝ → ℝ) (d : ℝ),
    (∀ t, evalTerms Real.rpow [⟨5, [("x", 0), ("y", -1)]⟩] ([("y", 2)] ++ [("x", t)]) = .ok (f t)) ∧
    evalTerms Real.rpow (partialDeriv [(⟨5, [("x", 0), ("y", -1)]⟩ : Term ℝ)] "x").terms
      ([("y", 2)] ++ [("x", 0)]) = .ok d ∧ HasDerivAt f d 0 := by
  refine inter_deriv_correct_natural ⟨[⟨5, [("x", 0), ("y", -1)]⟩], ["x", "y"]⟩ (by decide) "x" ?_
    [("y", 2)] (by decide) 0
  · intro t ht q hq
    simp only [List.mem_singleton] at ht
    subst ht
    simp only [List.mem_cons, Prod.mk.injEq, List.not_mem_nil, or_false] at hq
    rcases hq with ⟨_, rfl⟩ | ⟨h, _⟩
    · exact ⟨0, by simp⟩
    · exact absurd h (by decide)

end SV.Props.C03Natural
