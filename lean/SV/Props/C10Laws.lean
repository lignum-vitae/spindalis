import SV.Props.C10
import SV.Props.C11
import SV.Lemmas.C10Laws
/-!
# C10 — algebraic laws of the model's `inverse`, for every size

A two-sided inverse is unique, so the returned matrix cannot depend on anything but the matrix `A`
denotes (not on the pivoting permutation of the run, nor on the threshold).  Each matrix law is the
corresponding law of Mathlib's `⁻¹` read through `SV.C10.inverse_inv`; each `_mat` form adds that two
well-formed arrays of one shape denoting the same matrix are equal (`SV.eq_of_toMatrix`).  Scaling is
stated *when both runs are accepted*: acceptance itself is not scale invariant
(`smul_acceptance_not_invariant`, the open finding F-C10-abs-scale).
-/
namespace SV.Props.C10Laws
open SV SV.C09 SV.C10 SV.C11 SV.Props.C10 SV.Props.C11 Finset

variable {K : Type} [Field K] [LinearOrder K] [IsStrictOrderedRing K] [Inhabited K]

theorem inverse_unique_right {eps : K} (heps : 0 < eps) {A B : Mat K} (h : inverse eps A = .ok B)
    (X : Matrix (Fin A.h) (Fin A.h) K) (hX : A.toMatrix A.h A.h * X = 1) :
    X = B.toMatrix A.h A.h := by
  rw [inverse_eq_inv heps h]
  exact (Matrix.inv_eq_right_inv hX).symm

theorem inverse_unique_left {eps : K} (heps : 0 < eps) {A B : Mat K} (h : inverse eps A = .ok B)
    (X : Matrix (Fin A.h) (Fin A.h) K) (hX : X * A.toMatrix A.h A.h = 1) :
    X = B.toMatrix A.h A.h := by
  rw [inverse_eq_inv heps h]
  exact (Matrix.inv_eq_left_inv hX).symm

theorem inverse_unique_mat {eps : K} (heps : 0 < eps) {A B X : Mat K} (h : inverse eps A = .ok B)
    (hX : X.WF) (hXh : X.h = A.h) (hXw : X.w = A.h)
    (hprod : dot A X = .ok (Mat.ident A.h) ∨ dot X A = .ok (Mat.ident A.h)) : X = B := by
  obtain ⟨hsq, hB⟩ := inverse_shape h
  apply eq_of_toMatrix ⟨hXh, hXw, hX⟩ hB
  rcases hprod with hp | hp
  · have := (dot_denotes ⟨rfl, hsq.symm⟩ ⟨hXh, hXw⟩ hp).2
    rw [toMatrix_ident] at this
    exact inverse_unique_right heps h _ this.symm
  · have := (dot_denotes ⟨hXh, hXw⟩ ⟨rfl, hsq.symm⟩ hp).2
    rw [toMatrix_ident] at this
    exact inverse_unique_left heps h _ this.symm

theorem inverse_threshold_irrelevant {eps eps' : K} (heps : 0 < eps) (heps' : 0 < eps')
    {A B B' : Mat K} (h : inverse eps A = .ok B) (h' : inverse eps' A = .ok B') : B' = B :=
  eq_of_toMatrix (inverse_shape h').2 (inverse_shape h).2
    ((inverse_eq_inv heps' h').trans (inverse_eq_inv heps h).symm)

theorem inverse_transpose {eps eps' : K} (heps : 0 < eps) (heps' : 0 < eps') {A B C : Mat K}
    (h : inverse eps A = .ok B) (h' : inverse eps' A.transpose = .ok C) :
    C.toMatrix A.h A.h = (B.toMatrix A.h A.h).transpose := by
  obtain ⟨hsq, _⟩ := inverse_shape h
  rw [inverse_inv heps' h' hsq.symm, toMatrix_transpose A hsq.le le_rfl,
    ← Matrix.transpose_nonsing_inv, ← inverse_eq_inv heps h]

theorem inverse_transpose_mat {eps eps' : K} (heps : 0 < eps) (heps' : 0 < eps') {A B C : Mat K}
    (h : inverse eps A = .ok B) (h' : inverse eps' A.transpose = .ok C) : C = B.transpose := by
  obtain ⟨hsq, hBh, hBw, _⟩ := inverse_shape h
  obtain ⟨_, hCh, hCw, hC⟩ := inverse_shape h'
  apply eq_of_toMatrix (h := A.h) (w := A.h) ⟨hCh.trans hsq.symm, hCw.trans hsq.symm, hC⟩
    ⟨hBw, hBh, B.transpose_WF⟩
  rw [inverse_transpose heps heps' h h', toMatrix_transpose B hBw.ge hBh.ge]

theorem inverse_mul {e1 e2 e3 : K} (h1 : 0 < e1) (h2 : 0 < e2) (h3 : 0 < e3)
    {A B A' B' AB C : Mat K} (hn : B.h = A.h)
    (hA : inverse e1 A = .ok A') (hB : inverse e2 B = .ok B')
    (hAB : dot A B = .ok AB) (hC : inverse e3 AB = .ok C) :
    C.toMatrix A.h A.h = B'.toMatrix A.h A.h * A'.toMatrix A.h A.h := by
  obtain ⟨hsqA, _⟩ := inverse_shape hA
  obtain ⟨hsqB, _⟩ := inverse_shape hB
  obtain ⟨hAB', hmat⟩ := dot_denotes ⟨rfl, hsqA.symm⟩ ⟨hn, hsqB.symm.trans hn⟩ hAB
  rw [inverse_inv h3 hC hAB'.1, hmat, Matrix.mul_inv_rev, ← inverse_inv h2 hB hn,
    ← inverse_eq_inv h1 hA]

theorem inverse_mul_mat {e1 e2 e3 : K} (h1 : 0 < e1) (h2 : 0 < e2) (h3 : 0 < e3)
    {A B A' B' C : Mat K} (hn : B.h = A.h)
    (hA : inverse e1 A = .ok A') (hB : inverse e2 B = .ok B')
    (hC : inverse e3 (mulOp A B) = .ok C) : C = mulOp B' A' := by
  obtain ⟨hsqA, hA'h, hA'w, _⟩ := inverse_shape hA
  obtain ⟨hsqB, hB'h, hB'w, _⟩ := inverse_shape hB
  have hA2 : A.h = A.h ∧ A.w = A.h := ⟨rfl, hsqA.symm⟩
  have hB2 : B.h = A.h ∧ B.w = A.h := ⟨hn, hsqB.symm.trans hn⟩
  obtain ⟨AB, hAB⟩ := dot_conforming_ok A B (hA2.2.trans hB2.1.symm)
  obtain ⟨D, hD⟩ := dot_conforming_ok B' A' ((hB'w.trans hn).trans hA'h.symm)
  rw [mulOp_agrees A B AB hAB] at hC
  rw [mulOp_agrees B' A' D hD]
  obtain ⟨hDsq, hDmat⟩ := dot_denotes ⟨hB'h.trans hn, hB'w.trans hn⟩ ⟨hA'h, hA'w⟩ hD
  obtain ⟨_, hCh, hCw, hCwf⟩ := inverse_shape hC
  obtain ⟨hABh, _⟩ := (dot_denotes hA2 hB2 hAB).1
  apply eq_of_toMatrix ⟨hCh.trans hABh, hCw.trans hABh, hCwf⟩ hDsq
  rw [hDmat, inverse_mul h1 h2 h3 hn hA hB hAB hC]

/-- Both runs are assumed to succeed: the second need not when the first does
(`smul_acceptance_not_invariant`). -/
theorem inverse_smul_of_ok {eps eps' : K} (heps : 0 < eps) (heps' : 0 < eps') {A B C : Mat K}
    {c : K} (hc : c ≠ 0) (h : inverse eps A = .ok B) (h' : inverse eps' (smul A c) = .ok C) :
    C.toMatrix A.h A.h = c⁻¹ • B.toMatrix A.h A.h := by
  obtain ⟨hsq, _⟩ := inverse_shape h
  rw [inverse_inv (n := A.h) heps' h' rfl, toMatrix_smul A c le_rfl hsq.le]
  -- `(c A) (c⁻¹ B) = (c c⁻¹) (A B) = 1`
  apply Matrix.inv_eq_right_inv
  rw [smul_mul_smul_comm, mul_inv_cancel₀ hc, one_smul, inverse_right heps h]

theorem inverse_smul_of_ok_mat {eps eps' : K} (heps : 0 < eps) (heps' : 0 < eps') {A B C : Mat K}
    {c : K} (hc : c ≠ 0) (h : inverse eps A = .ok B) (h' : inverse eps' (smul A c) = .ok C) :
    C = smul B c⁻¹ := by
  obtain ⟨_, hBh, hBw, _⟩ := inverse_shape h
  apply eq_of_toMatrix (h := A.h) (w := A.h) (N := smul B c⁻¹) (inverse_shape h').2
    ⟨hBh, hBw, smul_WF B c⁻¹⟩
  rw [inverse_smul_of_ok heps heps' hc h h', toMatrix_smul B c⁻¹ hBh.ge hBw.ge]

theorem inverse_identity_unique {eps : K} (heps : 0 < eps) (n : Nat) {B : Mat K}
    (h : inverse eps (Mat.ident n) = .ok B) : B = Mat.ident n := by
  apply eq_of_toMatrix (h := n) (w := n) (inverse_shape h).2 (ident_square n)
  rw [inverse_inv (n := n) heps h rfl, toMatrix_ident, inv_one]

/-- `eps ≤ 1` (true of `f64::EPSILON`) lets every pass accept the pivot 1; the factorisation then stays
at its fixed point (`plu_ident`), and the result is the identity by `inverse_identity_unique`. -/
theorem inverse_identity {eps : K} (heps : 0 < eps) (hle : eps ≤ 1) (n : Nat) :
    inverse eps (Mat.ident n : Mat K) = .ok (Mat.ident n) := by
  have hB := inverse_of_plu (plu_ident hle n)
  rw [hB, inverse_identity_unique heps n hB]

theorem inverse_det_inv {eps : K} (heps : 0 < eps) {A B : Mat K} (h : inverse eps A = .ok B) :
    (B.toMatrix A.h A.h).det * (A.toMatrix A.h A.h).det = 1 ∧
    (B.toMatrix A.h A.h).det = ((A.toMatrix A.h A.h).det)⁻¹ := by
  have h1 := inverse_det heps h
  rw [mul_comm] at h1
  exact ⟨h1, eq_inv_of_mul_eq_one_left h1⟩

/-! ### acceptance is *not* scale invariant (F-C10-abs-scale), and non-vacuity over `ℚ`

(`decide +kernel` evaluates the model inside the kernel; no axiom is involved.) -/

section examples

/-- the 2×2 exchange matrix: regular, condition number 1 -/
def swapQ : Mat ℚ := ⟨2, 2, #[0, 1, 1, 0]⟩

/-- **`inverse_smul_of_ok` cannot be strengthened to "`c·A` is accepted whenever `A` is"**: with
`eps = f64::EPSILON` the model inverts the exchange matrix (to itself) and refuses its copy scaled by
`c = 2⁻⁵³` as `SingularMatrix`, because the pivot threshold is absolute (the open finding
F-C10-abs-scale, which `SV.Props.C10Findings` shows on the same scaled matrix). -/
theorem smul_acceptance_not_invariant :
    arrayOf (inverse epsQ swapQ) = some (2, 2, swapQ.a) ∧
    (match inverse epsQ (smul swapQ (1 / 9007199254740992)) with
      | .err .singular => true | _ => false) = true := by
  constructor <;> decide +kernel

private theorem ok_of_isSome {r : Outcome InvErr (Mat ℚ)} (h : (arrayOf r).isSome = true) :
    ∃ B, r = .ok B := by
  cases r with
  | ok v => exact ⟨v, rfl⟩
  | err e => simp [arrayOf] at h
  | panic => simp [arrayOf] at h

/-- the hypotheses of `inverse_transpose` are met (`A3` has the 3-cycle as pivoting permutation, its
transpose pivots differently), and the second run returns the transposed array -/
example : arrayOf (inverse epsQ A3.transpose) =
    some (3, 3, #[1/2, 1/2, -1/4, 1/4, 3/4, 3/8, 1/4, -1/4, -1/8]) := by decide +kernel
example : ∃ B C, inverse epsQ A3 = .ok B ∧ inverse epsQ A3.transpose = .ok C ∧ C = B.transpose := by
  obtain ⟨B, hB⟩ := inverse_ok_example
  obtain ⟨C, hC⟩ := ok_of_isSome (r := inverse epsQ A3.transpose) (by decide +kernel)
  exact ⟨B, C, hB, hC, inverse_transpose_mat epsQ_pos epsQ_pos hB hC⟩

/-- the hypotheses of `inverse_mul_mat` are met by `A3`, `swap ⊕ 1` and their product -/
example : ∃ A' B' C, inverse epsQ A3 = .ok A' ∧
    inverse epsQ ⟨3, 3, #[0, 1, 0, 1, 0, 0, 0, 0, 2]⟩ = .ok B' ∧
    inverse epsQ (mulOp A3 ⟨3, 3, #[0, 1, 0, 1, 0, 0, 0, 0, 2]⟩) = .ok C ∧ C = mulOp B' A' := by
  obtain ⟨A', hA⟩ := inverse_ok_example
  obtain ⟨B', hB⟩ := ok_of_isSome
    (r := inverse epsQ ⟨3, 3, #[0, 1, 0, 1, 0, 0, 0, 0, 2]⟩) (by decide +kernel)
  obtain ⟨C, hC⟩ := ok_of_isSome
    (r := inverse epsQ (mulOp A3 ⟨3, 3, #[0, 1, 0, 1, 0, 0, 0, 0, 2]⟩)) (by decide +kernel)
  exact ⟨A', B', C, hA, hB, hC,
    inverse_mul_mat (A := A3) (B := ⟨3, 3, #[0, 1, 0, 1, 0, 0, 0, 0, 2]⟩) epsQ_pos epsQ_pos epsQ_pos
      (by decide) hA hB hC⟩

/-- the hypotheses of `inverse_smul_of_ok_mat` are met by `A3` and `A3 * (-4)` -/
example : ∃ B C, inverse epsQ A3 = .ok B ∧ inverse epsQ (smul A3 (-4)) = .ok C ∧
    C = smul B (-4)⁻¹ := by
  obtain ⟨B, hB⟩ := inverse_ok_example
  obtain ⟨C, hC⟩ := ok_of_isSome (r := inverse epsQ (smul A3 (-4))) (by decide +kernel)
  exact ⟨B, C, hB, hC, inverse_smul_of_ok_mat epsQ_pos epsQ_pos (by norm_num) hB hC⟩

/-- `inverse_identity` at the code's threshold, and the same run evaluated by the kernel -/
example (n : Nat) : inverse epsQ (Mat.ident n : Mat ℚ) = .ok (Mat.ident n) :=
  inverse_identity epsQ_pos (by norm_num [epsQ]) n
example : arrayOf (inverse epsQ (Mat.ident 3 : Mat ℚ)) = some (3, 3, #[1, 0, 0, 0, 1, 0, 0, 0, 1]) := by
  decide +kernel

/-- the hypothesis of `inverse_unique_mat` is satisfiable: `A3 · X` is the identity array for the
array `X` of `SV.Props.C10`'s example -/
example : (dot A3 ⟨3, 3, #[1/2, 1/4, 1/4, 1/2, 3/4, -1/4, -1/4, 3/8, -1/8]⟩).toOption.map
    (fun m => (m.h, m.w, m.a)) = some (3, 3, (Mat.ident 3 : Mat ℚ).a) := by
  decide +kernel

end examples

end SV.Props.C10Laws
