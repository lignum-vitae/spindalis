import SV.Props.C01
/-!
# C16 (univariate parser) — total, and acceptance implies fidelity

Property theorems about the model `SV.C01.parse` of `parse_simple_polynomial`
(spindalis_core/src/polynomials/simple.rs) on **arbitrary** text:

* `simple_total`                 the parser returns a value or an error, and the vector it allocates has
                                 at most `max cap 1 + 1` entries (`cap` = MAX_POWER): the exponent
                                 guard is what keeps `vec![0.0; max_power + 1]` from a capacity abort
* `simple_accepts_only_grammar`  whatever is accepted is, after removal of white space, *exactly* the
                                 rendering of a well-formed term list of the documented grammar — no
                                 character is dropped, nothing outside the grammar is accepted
* `simple_accepts_means`         … and (with `C01.parse_render`/`parse_means`) the returned polynomial is
                                 the meaning of that reading: variable, length, every coefficient, and
                                 the value at every point
* `simple_accepted_chars`, `simple_no_dangling_operator`   consequences named in the property: a text
                                 with `*`, `/`, parentheses, `#`, a second letter, a non-ASCII digit … is
                                 rejected, and so is a text that ends in `+`, `-` or `^`

The grammar (`TermSyn`, `render`, `WellFormed`) is the one of C01, defined in `SV.Lemmas.C01`.
The only accepted text without terms is the empty one (white space only), read as the zero
polynomial `[0]` — see `simple_accepts_empty`.
-/
namespace SV.Props.C16Simple
open SV SV.Poly SV.Text SV.C01

/-- **Totality with the allocation bound.**  On every character list the parser answers `error` or
`ok p`, and in the second case the dense vector has at most `max cap 1 + 1` entries (the model has no
other outcome: every Rust operation that could panic — slicing, `unwrap`, the `vec!` allocation — is
guarded, the last one by this bound). -/
theorem simple_total (cc : CharClass) (cap : Nat) (s : List Char) :
    (∃ e, parse cc cap s = .error e) ∨
      (∃ p, parse cc cap s = .ok p ∧ 1 ≤ p.coeffs.length ∧ p.coeffs.length ≤ max cap 1 + 1) := by
  rcases h : parse cc cap s with e | p
  · exact Or.inl ⟨e, rfl⟩
  · exact Or.inr ⟨p, rfl, parse_length_le h⟩

/-- the bound for the constant in the source (`MAX_POWER = 1 << 16`, extracted into `SV.Gen`) -/
theorem simple_total_repo (cc : CharClass) (s : List Char) (p : SParsed)
    (h : parse cc SV.Gen.simpleMaxPower s = .ok p) :
    p.coeffs.length ≤ SV.Gen.simpleMaxPower + 1 :=
  (parse_length_le h).2

/-- **Nothing outside the grammar is accepted and no character is dropped.**  If the parser accepts
`s`, the white-space-free text is character for character the rendering of a well-formed term list
(the empty list only for the empty text), with a variable letter that is alphabetic whenever it is
written. -/
theorem simple_accepts_only_grammar {cc : CharClass} (hcc : cc.Sane) {cap : Nat} {s : List Char}
    {p : SParsed} (h : parse cc cap s = .ok p) :
    ∃ (v : Char) (lead : Bool) (ts : List TermSyn),
      WellFormed cap ts ∧ stripWs cc s = render v lead ts ∧
      (writesVar ts = true → cc.isAlpha v = true) ∧ (ts = [] ↔ stripWs cc s = []) := by
  obtain ⟨v, lead, ts, -, hva, hts, hs, -⟩ := parse_ok_inv hcc h
  refine ⟨v, lead, ts, hts, hs, hva, ?_⟩
  rw [hs]
  constructor
  · rintro rfl; rfl
  · intro hnil
    cases ts with
    | nil => rfl
    | cons t ts =>
      exfalso
      obtain ⟨init, c, h1, _⟩ := render_snoc (v := v) lead hts (by simp)
      rw [h1] at hnil
      simp at hnil

/-- **Acceptance implies fidelity.**  If the parser accepts `s` and returns `p`, there is a reading of
the text in the grammar (`stripWs cc s = render v lead ts`, `ts` well-formed) and `p` is the meaning
of that reading: the variable is the letter iff it is written, the vector has `max power + 1`
entries, position `k` is the sum of the signed coefficients of the terms of power `k`, and at every
point the polynomial takes the value `Σ_t value(t)·x^(pow t)`. -/
theorem simple_accepts_means {cc : CharClass} (hcc : cc.Sane) {cap : Nat} {s : List Char}
    {p : SParsed} (h : parse cc cap s = .ok p) :
    ∃ (v : Char) (lead : Bool) (ts : List TermSyn),
      WellFormed cap ts ∧ stripWs cc s = render v lead ts ∧
      p.var = (if writesVar ts then some v else none) ∧
      p.coeffs.length = maxPow ts + 1 ∧
      (∀ k, (p.coeffs.getD k Num.zero).val =
        ((ts.filter fun t => decide (t.pow = k)).map TermSyn.value).sum) ∧
      ∀ x : ℚ, evalSimple (p.coeffs.map Num.val) x = (ts.map fun t => t.value * x ^ t.pow).sum := by
  obtain ⟨v, lead, ts, -, -, hts, hs, rfl⟩ := parse_ok_inv hcc h
  exact ⟨v, lead, ts, hts, hs, rfl, (dense_terms_spec ts).1, (dense_terms_spec ts).2,
    fun x => (SV.Props.C01.eval_eq_sum _ x).trans (dense_terms_eval ts x)⟩

/-- Every character of an accepted text (white space aside) is an ASCII digit, one of `. ^ + -`, or
the returned variable: `*`, `/`, parentheses, `#`, non-ASCII digits, a second letter … make the parser
answer an error instead of being skipped. -/
theorem simple_accepted_chars {cc : CharClass} (hcc : cc.Sane) {cap : Nat} {s : List Char}
    {p : SParsed} (h : parse cc cap s = .ok p) :
    ∀ c ∈ stripWs cc s, isAsciiDigit c = true ∨ c = '.' ∨ c = '^' ∨ c = '+' ∨ c = '-' ∨
      p.var = some c := by
  obtain ⟨v, lead, ts, hv, -, hts, hs, rfl⟩ := parse_ok_inv hcc h
  intro c hc
  rw [hs] at hc
  rcases mem_render hts hc with rfl | rfl | hpl
  · exact Or.inr (Or.inr (Or.inr (Or.inl rfl)))
  · exact Or.inr (Or.inr (Or.inr (Or.inr (Or.inl rfl))))
  · rcases hpl with hd | rfl | rfl | rfl
    · exact Or.inl hd
    · exact Or.inr (Or.inl rfl)
    · exact Or.inr (Or.inr (Or.inl rfl))
    · rw [writesVar_of_mem hv hts hc]
      simp

/-- A text that ends (white space aside) in `+`, `-` or `^` is never accepted: the last character of
an accepted non-empty text is a digit, `.` or the variable. -/
theorem simple_no_dangling_operator {cc : CharClass} (hcc : cc.Sane) {cap : Nat} {s : List Char}
    {p : SParsed} (h : parse cc cap s = .ok p) (c : Char)
    (hc : (stripWs cc s).getLast? = some c) : c ≠ '+' ∧ c ≠ '-' ∧ c ≠ '^' := by
  obtain ⟨v, lead, ts, hv, -, hts, hs, -⟩ := parse_ok_inv hcc h
  rw [hs] at hc
  cases ts with
  | nil => simp [render] at hc
  | cons t ts =>
    obtain ⟨init, c', h1, h2⟩ := render_snoc (v := v) lead hts (by simp)
    rw [h1] at hc
    simp only [List.getLast?_append, List.getLast?_singleton, Option.some_or,
      Option.some.injEq] at hc
    subst hc
    rcases h2 with h2 | rfl | rfl
    · exact ⟨digit_ne_plus h2, digit_ne_dash h2, digit_ne_caret h2⟩
    · decide
    · exact ⟨hv.2.2.1, hv.2.2.2.1, hv.2.2.2.2⟩

/-- The one accepted text without any term: nothing but white space, read as the zero polynomial
(`parts` is empty after the leading empty piece is dropped, so the term loop does not run and
`max_power` defaults to 0). -/
theorem simple_accepts_empty (cc : CharClass) (cap : Nat) {s : List Char} (hs : stripWs cc s = []) :
    parse cc cap s = .ok ⟨[Num.zero], none⟩ := by
  simp [parse, normalize, hs, dashToPlusDash, parts, splitOn, parseTerms, dense]

/-! ### non-vacuity: near-miss texts are rejected by the model, grammatical ones accepted -/

example : ∃ e, parse stdClass 65536 "2*x".toList = .error e := ⟨.invalidCoefficient, by decide +kernel⟩
example : ∃ e, parse stdClass 65536 "(x+1)".toList = .error e := ⟨.invalidCoefficient, by decide +kernel⟩
example : ∃ e, parse stdClass 65536 "x^2 - -4".toList = .error e := ⟨.syntaxError, by decide +kernel⟩
example : ∃ e, parse stdClass 65536 "x^2 + +".toList = .error e := ⟨.syntaxError, by decide +kernel⟩
example : ∃ e, parse stdClass 65536 "2x^".toList = .error e := ⟨.invalidExponent, by decide +kernel⟩
example : ∃ e, parse stdClass 65536 "2x^a".toList = .error e := ⟨.invalidExponent, by decide +kernel⟩
example : ∃ e, parse stdClass 65536 "2x3".toList = .error e := ⟨.unexpectedChar, by decide +kernel⟩
example : ∃ e, parse stdClass 65536 "xy".toList = .error e := ⟨.unexpectedChar, by decide +kernel⟩
example : ∃ e, parse stdClass 65536 "x + y".toList = .error e := ⟨.invalidConstant, by decide +kernel⟩
example : ∃ e, parse stdClass 65536 "3 + 2x#".toList = .error e := ⟨.unexpectedChar, by decide +kernel⟩
example : ∃ e, parse stdClass 65536 "x^65537".toList = .error e := ⟨.invalidExponent, by decide +kernel⟩
example : ∃ e, parse stdClass 65536 "1e3x".toList = .error e := ⟨.unexpectedChar, by decide +kernel⟩
example : ∃ p, parse stdClass 65536 "+ 3. - x^02".toList = .ok p ∧ p.var = some 'x' ∧
    p.coeffs.length = 3 :=
  ⟨⟨[.add .zero (.dec ⟨false, 3, 0⟩), .zero, .add .zero .negOne], some 'x'⟩, by decide +kernel, rfl, rfl⟩

end SV.Props.C16Simple
