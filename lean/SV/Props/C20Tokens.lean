import SV.Props.C20
/-!
# C20, the token printer made explicit

`SV.Props.C20` proves *macro = runtime parser* for every token printer `tp` that changes only what
the parser's character class calls white space (`stripWs cc (tp s) = stripWs cc s`).  What `rustc`'s
printer really guarantees is weaker and about a *different* class: the text a procedural macro
receives differs from the source only in **tokenizer** white space (Unicode `Pattern_White_Space`),
whereas the runtime parsers drop `char::is_whitespace` (Unicode `White_Space`).  This file states the
printer's contract (`PrinterSpec`), derives the hypothesis of `SV.Props.C20` from it whenever every
tokenizer white-space character is parser white space, shows that the two Unicode classes differ on
exactly U+200E and U+200F inside the tokenizer's set, and exhibits the resulting counterexample of the
*unrestricted* statement on the model (known finding `F-C20-lrm`, replayed on the implementation by
`corpus/C20.txt`).  A parser whose white-space filter were ASCII only would show the same phenomenon
for U+000B, U+0085, U+2028, U+2029 — `ascii_filter_counterexample`.
-/
namespace SV.Props.C20Tokens
open SV SV.Text SV.C20

/-- Unicode `Pattern_White_Space`: what the Rust tokenizer skips between tokens -/
def rustWs (c : Char) : Bool :=
  c = '\t' || c = '\n' || c = '\x0B' || c = '\x0C' || c = '\r' || c = ' ' || c = '\u0085' ||
  c = '\u200e' || c = '\u200f' || c = '\u2028' || c = '\u2029'

/-- Unicode `White_Space` = `char::is_whitespace` -/
def whiteSpace (c : Char) : Bool :=
  ('\t' ≤ c && c ≤ '\r') || c = ' ' || c = '\u0085' || c = '\u00a0' || c = '\u1680' ||
  ('\u2000' ≤ c && c ≤ '\u200a') || c = '\u2028' || c = '\u2029' || c = '\u202f' || c = '\u205f' ||
  c = '\u3000'

/-- the contract of the token printer: the text handed to the macro differs from the source text only
in tokenizer white space (inserted, removed or replaced) -/
def PrinterSpec (tp : List Char → List Char) : Prop :=
  ∀ s, (tp s).filter (fun c => !rustWs c) = s.filter (fun c => !rustWs c)

theorem strip_factor (cc : CharClass) {s : List Char}
    (hsub : ∀ c ∈ s, rustWs c = true → cc.isWs c = true) :
    stripWs cc s = stripWs cc (s.filter fun c => !rustWs c) := by
  unfold stripWs
  rw [List.filter_filter]
  apply List.filter_congr
  intro c hc
  cases h : rustWs c with
  | false => simp
  | true => simp [hsub c hc h]

/-- **From the printer's contract to the hypothesis of `SV.Props.C20`**: if every tokenizer
white-space character is white space to the parser, any printer obeying `PrinterSpec` is invisible to
the parsers. -/
theorem strip_of_printerSpec (cc : CharClass) (hsub : ∀ c, rustWs c = true → cc.isWs c = true)
    (tp : List Char → List Char) (h : PrinterSpec tp) (s : List Char) :
    stripWs cc (tp s) = stripWs cc s := by
  rw [strip_factor cc (s := tp s) fun c _ => hsub c, strip_factor cc (s := s) fun c _ => hsub c, h s]

/-- macro = runtime parser for every printer obeying the contract, under the class inclusion -/
theorem macro_eq_runtime_of_contract (cc : CharClass)
    (hsub : ∀ c, rustWs c = true → cc.isWs c = true) (cap : Nat)
    (tp : List Char → List Char) (h : PrinterSpec tp) (s : List Char) :
    macroSimple cc cap tp s = C01.parse cc cap s ∧ macroInter cc tp s = C02.parse cc s :=
  ⟨SV.Props.C20.macro_simple_eq_runtime cc cap tp (strip_of_printerSpec cc hsub tp h) s,
   SV.Props.C20.macro_inter_eq_runtime cc tp (strip_of_printerSpec cc hsub tp h) s⟩

/-- the same without the class inclusion, for source texts (and printed texts) free of the characters
on which the classes disagree: `bad` is any set of characters containing every tokenizer white-space
character that the parser does not drop -/
theorem macro_eq_runtime_avoiding (cc : CharClass) (bad : Char → Bool)
    (hsub : ∀ c, rustWs c = true → bad c = false → cc.isWs c = true) (cap : Nat)
    (tp : List Char → List Char) (h : PrinterSpec tp) (s : List Char)
    (hs : ∀ c ∈ s, bad c = false) (hts : ∀ c ∈ tp s, bad c = false) :
    macroSimple cc cap tp s = C01.parse cc cap s ∧ macroInter cc tp s = C02.parse cc s := by
  have key : stripWs cc (tp s) = stripWs cc s := by
    rw [strip_factor cc (s := tp s) fun c hc hr => hsub c hr (hts c hc),
      strip_factor cc (s := s) fun c hc hr => hsub c hr (hs c hc), h s]
  exact ⟨C01.parse_congr_stripWs key, C02.parse_congr_stripWs key⟩

/-- **Where the two Unicode classes disagree** inside the tokenizer's set: exactly the two
directional marks. -/
theorem rustWs_gap (c : Char) (h : rustWs c = true) :
    whiteSpace c = true ∨ c = '\u200e' ∨ c = '\u200f' := by
  unfold rustWs at h
  simp only [Bool.or_eq_true, decide_eq_true_eq] at h
  rcases h with ((((((((((h | h) | h) | h) | h) | h) | h) | h) | h) | h) | h) <;> subst h <;> decide

theorem marks_not_whiteSpace : whiteSpace '\u200e' = false ∧ whiteSpace '\u200f' = false := by
  constructor <;> decide

/-- a printer that obeys the contract and really does what `rustc`'s does to exotic white space:
every tokenizer white-space character becomes a plain space -/
def spacePrinter (s : List Char) : List Char := s.map fun c => if rustWs c then ' ' else c

theorem spacePrinter_spec : PrinterSpec spacePrinter := by
  intro s
  unfold spacePrinter
  induction s with
  | nil => rfl
  | cons c cs ih =>
    cases h : rustWs c with
    | true =>
      have : rustWs ' ' = true := by decide
      simp [h, this] at ih ⊢
      exact ih
    | false =>
      simp [h] at ih ⊢
      exact ih

/-- the parser class of the real code on the characters that matter here: `char::is_whitespace` -/
def realClass : CharClass := { stdClass with isWs := whiteSpace }

/-- **Known finding F-C20-lrm on the model** (the unrestricted statement of C20 is false of the
code): the source text `2x<U+200E>+ 1` tokenizes, the macro receives `2x + 1` and expands to a
polynomial, while the runtime parser rejects the same source text. -/
theorem lrm_counterexample :
    (match macroSimple realClass 65536 spacePrinter ['2', 'x', '\u200e', '+', ' ', '1'] with
      | .ok _ => true | .error _ => false) = true ∧
    (match C01.parse realClass 65536 ['2', 'x', '\u200e', '+', ' ', '1'] with
      | .ok _ => false | .error _ => true) = true ∧
    (match macroInter realClass spacePrinter ['2', 'x', '\u200f', '+', ' ', '1'] with
      | .ok _ => true | .error _ => false) = true ∧
    (match C02.parse realClass ['2', 'x', '\u200f', '+', ' ', '1'] with
      | .ok _ => false | .error _ => true) = true := by
  refine ⟨?_, ?_, ?_, ?_⟩ <;> decide +kernel

/-- a class whose white space is ASCII only (without U+000B) -/
def asciiClass : CharClass := { stdClass with isWs := fun c => c = ' ' || c = '\t' || c = '\n' || c = '\x0C' || c = '\r' }

/-- With an ASCII-only filter the same happens for U+2028 (and U+000B, U+0085, U+2029): macro
accepts, runtime parser rejects. -/
theorem ascii_filter_counterexample :
    (match macroSimple asciiClass 65536 spacePrinter ['x', '^', '2', '\u2028', '+', '1'] with
      | .ok _ => true | .error _ => false) = true ∧
    (match C01.parse asciiClass 65536 ['x', '^', '2', '\u2028', '+', '1'] with
      | .ok _ => false | .error _ => true) = true := by
  refine ⟨?_, ?_⟩ <;> decide +kernel

/-- and for the real class macro and runtime parser agree on that text, as `macro_eq_runtime_of_contract` predicts on
texts free of the two marks -/
example :
    macroSimple realClass 65536 spacePrinter ['x', '^', '2', '\u2028', '+', '1'] =
      C01.parse realClass 65536 ['x', '^', '2', '\u2028', '+', '1'] :=
  (macro_eq_runtime_avoiding realClass (fun c => c = '\u200e' || c = '\u200f')
    (by
      intro c hc hb
      rcases rustWs_gap c hc with h | h | h
      · exact h
      · subst h; simp at hb
      · subst h; simp at hb)
    65536 spacePrinter spacePrinter_spec _ (by decide +kernel) (by decide +kernel)).1

end SV.Props.C20Tokens
