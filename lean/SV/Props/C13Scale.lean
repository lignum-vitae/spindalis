import SV.Model.C13
import SV.Lemmas.C13
import Mathlib.Algebra.Order.Field.Basic
import Mathlib.Tactic.Ring
import Mathlib.Tactic.NormNum
/-!
# C13 — the power method is scale-equivariant

Scaling the matrix by a positive constant `c` scales the returned eigenvalue by `c` and leaves the
eigenvector, the error outcome, the panic outcome and the number of passes unchanged:

  `powerCap cap (smul A c) es = (powerCap cap A es).map (λ, v, n ↦ (c·λ, v, n))`

for every linearly ordered field, every matrix (no well-formedness or shape hypothesis: the
non-square and the empty cases are covered, and so are the 1×1 scalar shortcuts of `Arr2D::dot`),
every tolerance and every cap.  `smul` is `SV.C11.smul`, the model of the code's own
`&Arr2D * scalar`.

Consequence: no ABSOLUTE threshold (`largest > f64::EPSILON`, an absolute floor on the change of the
eigenvalue, …) can be part of this algorithm — such a test is not invariant under `A ↦ c·A`, while
every test the algorithm makes (`> 0`, `== 0`, the *relative* change `|(λ' − λ)/λ'| < es`) is.
-/
set_option linter.unusedSectionVars false

namespace SV.Props.C13Scale
open SV SV.C11 SV.C13 Finset

def mapOk {ε α β : Type} (f : α → β) : Outcome ε α → Outcome ε β
  | .ok v => .ok (f v)
  | .err e => .err e
  | .panic => .panic

variable {K : Type} [Field K] [LinearOrder K] [IsStrictOrderedRing K] [Inhabited K]

/-- what scaling the matrix by `c` does to a result of `power_method`: the eigenvalue is scaled,
the eigenvector and the number of passes are unchanged -/
def scaleRes (c : K) : K × Mat K × Nat → K × Mat K × Nat := fun r => (c * r.1, r.2.1, r.2.2)

private theorem asScalar_smul (m : Mat K) (c : K) (hm : m.WF) :
    asScalar (smul m c) = (asScalar m).map (· * c) := by
  unfold asScalar
  rw [smul_a m c hm, Array.getElem?_map]

private theorem pickMax_mul (a b c : K) (hc : 0 < c) :
    pickMax (a * c) (b * c) = pickMax a b * c := by
  unfold pickMax
  by_cases h : a > b
  · rw [if_pos h, if_pos (mul_lt_mul_of_pos_right h hc)]
  · rw [if_neg h, if_neg (not_lt.mpr (mul_le_mul_of_nonneg_right (not_lt.mp h) hc.le))]

private theorem pickMin_mul (a b c : K) (hc : 0 < c) :
    pickMin (a * c) (b * c) = pickMin a b * c := by
  unfold pickMin
  by_cases h : a < b
  · rw [if_pos h, if_pos (mul_lt_mul_of_pos_right h hc)]
  · rw [if_neg h, if_neg (not_lt.mpr (mul_le_mul_of_nonneg_right (not_lt.mp h) hc.le))]

private theorem reduce_smul (f : K → K → K) (m : Mat K) (c : K)
    (hf : ∀ a b, f (a * c) (b * c) = f a b * c) (hm : m.WF) :
    reduce f (smul m c) = (reduce f m).map (· * c) := by
  unfold reduce
  rw [smul_h, smul_w]
  by_cases hz : m.h = 0 ∨ m.w = 0
  · rw [if_pos hz, if_pos hz]
    rfl
  rw [if_neg hz, if_neg hz, smul_a m c hm, Array.toList_map]
  cases m.a.toList with
  | nil => rfl
  | cons x xs =>
    exact congrArg some (List.foldl_map.trans (List.foldl_hom (· * c) fun a b => hf a b))

theorem maxOf_smul (m : Mat K) (c : K) (hc : 0 < c) (hm : m.WF) :
    maxOf (smul m c) = (maxOf m).map (· * c) :=
  reduce_smul pickMax m c (fun a b => pickMax_mul a b c hc) hm

theorem minOf_smul (m : Mat K) (c : K) (hc : 0 < c) (hm : m.WF) :
    minOf (smul m c) = (minOf m).map (· * c) :=
  reduce_smul pickMin m c (fun a b => pickMin_mul a b c hc) hm

/-- the helper `normaliser` of a positively scaled array (its test is `> 0.0`: scale-invariant) -/
theorem normaliser_smul (m : Mat K) (c : K) (hc : 0 < c) (hm : m.WF) :
    normaliser (smul m c) = (normaliser m).map (· * c) := by
  unfold normaliser
  rw [maxOf_smul m c hc hm, minOf_smul m c hc hm]
  cases maxOf m with
  | none => rfl
  | some l =>
    simp only [Option.map_some]
    by_cases hl : l > 0
    · rw [if_pos hl, if_pos (mul_pos hl hc)]; rfl
    · rw [if_neg hl, if_neg (not_lt.mpr (mul_nonpos_of_nonpos_of_nonneg (not_lt.mp hl) hc.le))]

theorem divS_smul (m : Mat K) (c s : K) (hc : c ≠ 0) :
    divS (smul m c) (s * c) = divS m s := by
  unfold divS
  rw [smul_h, smul_w]
  apply Mat.tab_congr
  intro i j hi hj
  rw [get_smul m c hi hj, mul_div_mul_right _ _ hc]

/-- the Rayleigh quotient is linear in the matrix -/
theorem rayleigh_smul (A x : Mat K) (c : K) :
    rayleigh (smul A c) x = (rayleigh A x).map (· * c) := by
  unfold rayleigh
  simp only
  rw [mulOp_smul_left, mulOp_smul_right, asScalar_smul _ _ (mulOp_WF _ _)]
  cases asScalar (mulOp x.transpose (mulOp A x)) with
  | none => rfl
  | some a =>
    cases asScalar (mulOp x.transpose x) with
    | none => rfl
    | some b =>
      simp only [Option.map_some]
      rw [div_mul_eq_mul_div]

/-- what scaling does to the quantities of one pass: the normalisation value and the new
eigenvalue are scaled, the normalised vector and the relative change `ea` are unchanged -/
def scalePass (c : K) (p : Pass K) : Pass K := ⟨p.c * c, p.nv, p.next * c, p.ea⟩

theorem pass_smul (A ev : Mat K) (lam c : K) (hc : 0 < c) :
    pass (smul A c) ev (lam * c) = (pass A ev lam).map (scalePass c) := by
  unfold pass
  simp only
  rw [mulOp_smul_left, normaliser_smul _ c hc (mulOp_WF _ _)]
  cases normaliser (mulOp A ev) with
  | none => rfl
  | some s =>
    simp only [Option.map_some]
    rw [divS_smul _ _ _ hc.ne', rayleigh_smul]
    cases rayleigh A (divS (mulOp A ev) s) with
    | none => rfl
    | some nx =>
      simp only [Option.map_some, scalePass]
      rw [← sub_mul, mul_div_mul_right _ _ hc.ne']

/-- the model's `== 0` tests do not see a non-zero factor -/
private theorem beq_mul_zero (a c : K) (hc : c ≠ 0) : (a * c == 0) = (a == 0) := by
  rw [Bool.eq_iff_iff, beq_iff_eq, beq_iff_eq, mul_eq_zero, or_iff_left hc]

theorem loop_smul (A : Mat K) (c : K) (hc : 0 < c) (es : K) :
    ∀ fuel done (ev : Mat K) (lam : K),
      loop (smul A c) es fuel done ev (c * lam) = mapOk (scaleRes c) (loop A es fuel done ev lam) := by
  intro fuel
  induction fuel with
  | zero => intro done ev lam; rfl
  | succ fuel ih =>
    intro done ev lam
    have hps := pass_smul A ev lam c hc
    rw [mul_comm] at hps
    cases hp : pass A ev lam with
    | none =>
      rw [hp] at hps
      rw [loop_panic hp, loop_panic hps]
      rfl
    | some p =>
      rw [hp] at hps
      have hz : ((scalePass c p).c == 0) = (p.c == 0) := beq_mul_zero p.c c hc.ne'
      have hst : Stops es done (scalePass c p) ↔ Stops es done p := by
        unfold Stops
        rw [show ((scalePass c p).next == 0) = (p.next == 0) from beq_mul_zero p.next c hc.ne']
        rfl
      by_cases hc0 : (p.c == 0) = true
      · rw [loop_zero_normaliser hp hc0, loop_zero_normaliser hps (hz.trans hc0)]
        rfl
      by_cases hs : Stops es done p
      · rw [loop_stop hp hc0 hs, loop_stop hps (hz ▸ hc0) (hst.mpr hs)]
        rw [show (scalePass c p).nv = p.nv from rfl]
        cases maxOf p.nv with
        | none => rfl
        | some largest => simp only [mapOk, scaleRes, scalePass, mul_comm c]
      · rw [loop_continue hp hc0 hs, loop_continue hps (hz ▸ hc0) (mt hst.mp hs)]
        exact (congrArg _ (mul_comm _ _)).trans (ih (done + 1) p.nv p.next)

/-- **Scale equivariance of the power method.**  For every linearly ordered field, every matrix
`A` (any shape, well-formed or not), every `c > 0`, every tolerance `es` and every cap: running the
method on `A·c` (`SV.C11.smul`, the code's `&Arr2D * scalar`: every entry multiplied by `c`) gives
the outcome of running it on `A`, with the eigenvalue multiplied by `c` and the same eigenvector, the
same number of passes, the same error, the same (unreachable) panic. -/
theorem powerCap_smul (cap : Nat) (A : Mat K) (c : K) (hc : 0 < c) (es : K) :
    powerCap cap (smul A c) es = mapOk (scaleRes c) (powerCap cap A es) := by
  unfold powerCap
  rw [smul_h, smul_w]
  by_cases hb : A.h ≠ A.w ∨ A.h = 0 ∨ A.w = 0
  · rw [if_pos hb, if_pos hb]; rfl
  rw [if_neg hb, if_neg hb]
  simp only
  rw [mulOp_smul_left, normaliser_smul _ c hc (mulOp_WF _ _)]
  cases normaliser (mulOp A (ones A.h)) with
  | none => rfl
  | some lam0 =>
    simp only [Option.map_some]
    rw [beq_mul_zero lam0 c hc.ne']
    by_cases hz : (lam0 == 0) = true
    · rw [if_pos hz, if_pos hz]; rfl
    rw [if_neg hz, if_neg hz, divS_smul _ _ _ hc.ne', mul_comm lam0 c]
    exact loop_smul A c hc es cap 0 _ lam0

/-- the same for `power_method` itself (the cap the source declares, `MAX_ITERATIONS`) -/
theorem power_smul (A : Mat K) (c : K) (hc : 0 < c) (es : K) :
    power (smul A c) es = mapOk (scaleRes c) (power A es) :=
  powerCap_smul SV.Gen.powerMethodCap A c hc es

theorem power_smul_ok (A : Mat K) (c : K) (hc : 0 < c) (es lam : K) (v : Mat K) (n : Nat)
    (h : power A es = .ok (lam, v, n)) : power (smul A c) es = .ok (c * lam, v, n) := by
  rw [power_smul A c hc, h]; rfl

theorem power_smul_ok_iff (A : Mat K) (c : K) (hc : 0 < c) (es lam : K) (v : Mat K) (n : Nat) :
    power (smul A c) es = .ok (c * lam, v, n) ↔ power A es = .ok (lam, v, n) := by
  refine ⟨fun h => ?_, power_smul_ok A c hc es lam v n⟩
  rw [power_smul A c hc] at h
  cases hp : power A es with
  | ok r =>
    rw [hp] at h
    obtain ⟨l, w, m⟩ := r
    simp only [mapOk, scaleRes, Outcome.ok.injEq, Prod.mk.injEq] at h
    obtain ⟨h1, h2, h3⟩ := h
    rw [mul_left_cancel₀ hc.ne' h1, h2, h3]
  | err e => rw [hp] at h; cases h
  | panic => rw [hp] at h; cases h

/-- an error (`NoConvergence` in particular) is kept by every positive rescaling of the input -/
theorem power_smul_err (A : Mat K) (c : K) (hc : 0 < c) (es : K) (e : PErr)
    (h : power A es = .err e) : power (smul A c) es = .err e := by
  rw [power_smul A c hc, h]; rfl

/-- **No absolute threshold is compatible with the algorithm.**  If the method returns on `A`,
then for every `θ > 0` there is a positive rescaling of `A` on which it returns the same
eigenvector after the same number of passes, with an eigenvalue of magnitude below `θ` (so a test
such as `largest > f64::EPSILON`, or an absolute floor on the eigenvalue or on its change, would
reject an input the algorithm handles exactly as it handles `A`). -/
theorem power_smul_below_any_threshold (A : Mat K) (es lam : K) (v : Mat K) (n : Nat)
    (h : power A es = .ok (lam, v, n)) (θ : K) (hθ : 0 < θ) :
    ∃ c : K, 0 < c ∧ ∃ lam', power (smul A c) es = .ok (lam', v, n) ∧ |lam'| < θ := by
  obtain ⟨c, hc, hlt⟩ := exists_pos_mul_lt hθ |lam|
  exact ⟨c, hc, c * lam, power_smul_ok A c hc es lam v n h, by
    rwa [abs_mul, abs_of_pos hc, mul_comm]⟩

/-- a 2×2 matrix on which the method returns (pass 2, eigenvalue estimate `129/65`) -/
example : (match powerCap 50 (⟨2, 2, #[2, 0, 0, 1]⟩ : Mat Rat) (1 / 10) with
    | .ok (lam, v, p) => lam == 129 / 65 && v.a == #[1, 1 / 8] && p == 2 | _ => false) = true := by
  decide +kernel

/-- … and the same matrix scaled by 3: eigenvalue `3 · 129/65`, same vector, same pass -/
example : (match powerCap 50 (smul (⟨2, 2, #[2, 0, 0, 1]⟩ : Mat Rat) 3) (1 / 10) with
    | .ok (lam, v, p) => lam == 3 * (129 / 65) && v.a == #[1, 1 / 8] && p == 2 | _ => false) = true := by
  decide +kernel

/-- the theorem instantiated at `ℚ` -/
example : powerCap 50 (smul (⟨2, 2, #[2, 0, 0, 1]⟩ : Mat Rat) 3) (1 / 10)
    = mapOk (scaleRes 3) (powerCap 50 (⟨2, 2, #[2, 0, 0, 1]⟩ : Mat Rat) (1 / 10)) :=
  powerCap_smul 50 _ 3 (by norm_num) _

end SV.Props.C13Scale

