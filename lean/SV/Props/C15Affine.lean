import SV.Model.C15
import SV.Lemmas.C15
import SV.Props.C15
import Mathlib.Algebra.Order.Field.Basic
import Mathlib.Tactic.Ring
import Mathlib.Tactic.FieldSimp
/-!
# C15 — the line fits are equivariant under affine maps of the data

Replacing every response `yᵢ` by `c·yᵢ + t` (a change of unit and of origin of the measured quantity) maps the fitted
line `a + b·x` to `(c·a + t) + (c·b)·x`, leaves `r²` unchanged (`c ≠ 0`) and scales the standard error by `|c|`;
"undefined" (`none`) is mapped to "undefined".  The coefficient parts hold for `c = 0` too, and gradient descent is
equivariant pass by pass without any hypothesis on the lengths of the two lists.  Of the `sqrt` parameter only the
instance `sqrt (c² v) = |c| sqrt v` of its homogeneity is assumed.  The same is done for `x ↦ s·x + u` and for a
reordering of the data points.

Consequence: no ABSOLUTE threshold on a response, a residual, a gradient, a coefficient or a sum of squares (an "is the
slope / the gradient / SST practically zero" test against a constant) can be part of these algorithms: such a test is
not invariant under `y ↦ c·y + t`, while every test the algorithms make (`n = 0`, `D = 0` — a function of `x` alone —,
`SST = 0`, `n = 2`) is.
-/
set_option linter.unusedSectionVars false

namespace SV.Props.C15Affine
open SV SV.C15 SV.C18 Finset

variable {K : Type} [Field K]

/-- the responses after the affine change `v ↦ c·v + t` -/
def affY (c t : K) (y : List K) : List K := y.map fun v => c * v + t

/-- what the change does to a coefficient list (constant term first): the polynomial `p` becomes `c·p + t` -/
def affCoeffs (c t : K) : List K → List K
  | [] => []
  | a :: bs => (c * a + t) :: bs.map fun b => c * b

/-- what the change `x ↦ s·x + u` of the abscissae does to the coefficients of a line: `a + b·x = a' + b'·(s·x + u)`
with `b' = b/s`, `a' = a − b·u/s` (other lists are left alone; the line fit returns pairs only) -/
def reparam (s u : K) : List K → List K
  | [a, b] => [a - b * u / s, b / s]
  | cs => cs

private theorem length_affY (c t : K) (y : List K) : (affY c t y).length = y.length :=
  List.length_map _

private theorem zip_aff_map {γ : Type} (c t : K) (x y : List K) (g : K × K → γ) :
    (x.zip (affY c t y)).map g = (x.zip y).map fun p => g (p.1, c * p.2 + t) := by
  rw [affY, List.zip_map_right, List.map_map]
  rfl

private theorem zip_affx_map {γ : Type} (s u : K) (x y : List K) (g : K × K → γ) :
    ((affY s u x).zip y).map g = (x.zip y).map fun p => g (s * p.1 + u, p.2) := by
  rw [affY, List.zip_map_left, List.map_map]
  rfl

private theorem sum_affY (c t : K) (y : List K) : (affY c t y).sum = c * y.sum + (y.length : K) * t := by
  rw [affY, List.sum_map_add, List.sum_map_mul_left, List.map_id', List.map_const', List.sum_replicate,
    nsmul_eq_mul]

/-- `affCoeffs c t` is the coefficient list of the polynomial `c·p + t`: `LinearModel::predict` with the transformed
coefficients is `c·(old prediction) + t` at every point, for every (non-empty) coefficient list -/
theorem predict_affCoeffs (c t a : K) (bs : List K) (q : K) :
    predict (affCoeffs c t (a :: bs)) q = c * predict (a :: bs) q + t := by
  rw [affCoeffs, predict_cons, predict_map_mul, predict_cons]
  ring

private theorem length_affCoeffs (c t : K) (cs : List K) : (affCoeffs c t cs).length = cs.length := by
  cases cs with
  | nil => rfl
  | cons a bs => simp [affCoeffs]

theorem sse_affCoeffs (c t a : K) (bs : List K) (x y : List K) :
    sse (affCoeffs c t (a :: bs)) x (affY c t y) = c ^ 2 * sse (a :: bs) x y := by
  rw [sse, zip_aff_map]
  refine sum_map_eq_mul _ _ _ _ fun p => ?_
  rw [predict_affCoeffs]
  ring

private theorem affY_inv (c t : K) (hc : c ≠ 0) (y : List K) : affY c⁻¹ (-(t / c)) (affY c t y) = y := by
  rw [affY, affY, List.map_map]
  refine (List.map_congr_left fun v _ => ?_).trans (List.map_id y)
  rw [Function.comp, id]
  field_simp
  ring

/-- the determinant `D = n Σx² − (Σx)²` of the transformed abscissae is `s²·D`: shifting does not change it, scaling
scales it quadratically — so `D = 0` is the only test on `D` that is invariant -/
theorem lsD_affx (s u : K) (x : List K) : lsD (affY s u x) = s ^ 2 * lsD x := by
  rw [lsD, sum_affY, length_affY, affY, List.map_map,
    sum_map_quadratic x (fun a => a) _ (u ^ 2) (2 * s * u) (s ^ 2) fun a => by
      show (s * a + u) ^ 2 = _
      ring,
    List.map_id', lsD]
  ring

/-- `reparam s u` writes the same line in the new abscissa -/
theorem predict_reparam (s u a b t : K) (hs : s ≠ 0) :
    predict [a - b * u / s, b / s] (s * t + u) = predict [a, b] t := by
  rw [predict_pair, predict_pair]
  field_simp
  ring

theorem sse_affx (s u a b : K) (hs : s ≠ 0) (x y : List K) :
    sse [a - b * u / s, b / s] (affY s u x) y = sse [a, b] x y := by
  rw [sse, zip_affx_map]
  simp only [sse, predict_reparam s u a b _ hs]

/-- the residuals are those of the old line at the old abscissae, and `Σ r·(s·x + u) = s·Σ r·x + u·Σ r` -/
theorem normalEqs_reparam (s u a b : K) (hs : s ≠ 0) (x y : List K) (h : NormalEqs [a, b] x y) :
    NormalEqs [a - b * u / s, b / s] (affY s u x) y := by
  obtain ⟨h0, h1⟩ := (normalEqs_pair a b x y).mp h
  refine (normalEqs_pair _ _ _ y).mpr ?_
  simp only [← predict_pair, zip_affx_map, predict_reparam s u a b _ hs]
  simp only [predict_pair]
  refine ⟨h0, ?_⟩
  simp only [mul_add, ← mul_assoc]
  rw [List.sum_map_add, sum_map_mul_right', h0, zero_mul, add_zero,
    sum_map_eq_mul _ _ (fun p => (p.2 - (a + b * p.1)) * p.1) s fun p => by ring, h1, mul_zero]

private theorem perm_sum {γ : Type} (g : γ → K) {l l' : List γ} (h : l.Perm l') :
    (l.map g).sum = (l'.map g).sum := (h.map g).sum_eq

private theorem zip_fst_snd {α β : Type} (l : List (α × β)) : (l.map Prod.fst).zip (l.map Prod.snd) = l :=
  (List.zip_of_prod rfl rfl).symm

/- With the data given as a list `l` of pairs, everything the fits compute from it is a sum over `l`
(`perm_sum`) or its length, and these do not see the order. -/
section perm
variable {l l' : List (K × K)} (h : l.Perm l')
include h

private theorem lsD_perm : lsD (l.map Prod.fst) = lsD (l'.map Prod.fst) := by
  rw [lsD, lsD, List.map_map, List.map_map, List.length_map, List.length_map, h.length_eq,
    perm_sum _ h, perm_sum _ h]

private theorem normalEqs_perm {c : List K} (hc : NormalEqs c (l.map Prod.fst) (l.map Prod.snd)) :
    NormalEqs c (l'.map Prod.fst) (l'.map Prod.snd) := by
  intro j hj
  rw [zip_fst_snd, ← perm_sum _ h, ← zip_fst_snd l]
  exact hc j hj

private theorem sse_perm (c : List K) :
    sse c (l.map Prod.fst) (l.map Prod.snd) = sse c (l'.map Prod.fst) (l'.map Prod.snd) := by
  rw [sse, sse, zip_fst_snd, zip_fst_snd, perm_sum _ h]

private theorem sst_perm : sst (l.map Prod.snd) = sst (l'.map Prod.snd) := by
  rw [sst, sst, List.map_map, List.map_map, List.length_map, List.length_map, h.length_eq,
    perm_sum Prod.snd h, perm_sum _ h]

end perm

theorem gdStep_perm (α : K) (l l' : List (K × K)) (h : l.Perm l') (w : K × K) :
    gdStep α (l.map Prod.fst) (l.map Prod.snd) w = gdStep α (l'.map Prod.fst) (l'.map Prod.snd) w := by
  rw [gdStep_eq, gdStep_eq, zip_fst_snd, zip_fst_snd, List.length_map, List.length_map, h.length_eq,
    perm_sum _ h, perm_sum _ h]

variable [LinearOrder K] [IsStrictOrderedRing K]

/-- what the change does to a fit: coefficients as above, standard error times `|c|`, `r²` unchanged -/
def affFit (c t : K) (f : Fit K) : Fit K :=
  { coeffs := affCoeffs c t f.coeffs, stdErr := f.stdErr.map fun s => |c| * s, r2 := f.r2 }

theorem sst_aff (c t : K) (y : List K) : sst (affY c t y) = c ^ 2 * sst y := by
  have h : affY c t y = (y.map fun v => c * v).map fun v => v + t := by
    rw [List.map_map]
    rfl
  rw [h]
  exact (ssd_translate _ t).trans (ssd_scale y c)

private theorem r2Spec_of_sse (c t : K) (hc : c ≠ 0) (cs cs' : List K) (x y : List K)
    (h : sse cs' x (affY c t y) = c ^ 2 * sse cs x y) :
    r2Spec cs' x (affY c t y) = r2Spec cs x y := by
  have hc2 : c ^ 2 ≠ 0 := pow_ne_zero 2 hc
  -- `SST` and `SSE` both carry the factor `c²`: it cancels in the quotient and does not move the test `SST = 0`
  have hq : (c ^ 2 * sst y - c ^ 2 * sse cs x y) / (c ^ 2 * sst y) = (sst y - sse cs x y) / sst y := by
    rw [← mul_sub, mul_div_mul_left _ _ hc2]
  have h0 : c ^ 2 * sst y = 0 ↔ sst y = 0 := by rw [mul_eq_zero, or_iff_right hc2]
  simp only [r2Spec, h, sst_aff, hq, h0]

private theorem stdErrSpec_of_sse (sqrt : K → K) (c t : K) (hs : ∀ v, sqrt (c ^ 2 * v) = |c| * sqrt v)
    (cs cs' : List K) (x y : List K) (h : sse cs' x (affY c t y) = c ^ 2 * sse cs x y) :
    stdErrSpec sqrt cs' x (affY c t y) = (stdErrSpec sqrt cs x y).map fun s => |c| * s := by
  rw [stdErrSpec, stdErrSpec, h, length_affY, mul_div_assoc, hs]
  split_ifs <;> rfl

private theorem fitOf_perm {l l' : List (K × K)} (h : l.Perm l') (sqrt : K → K) (c : List K) :
    fitOf sqrt c (l.map Prod.fst) (l.map Prod.snd) = fitOf sqrt c (l'.map Prod.fst) (l'.map Prod.snd) := by
  rw [fitOf, fitOf, stdErrSpec, stdErrSpec, r2Spec, r2Spec, sse_perm h, sst_perm h, List.length_map,
    List.length_map, h.length_eq]

variable [Inhabited K]

/-- **the normal equations are equivariant**: if the coefficient list `p` (any order) solves the normal equations of
`(x, y)`, then `c·p + t` solves those of `(x, c·y + t)` — what a correct `PolynomialRegression::fit` (any solver that
solves the moment system) must therefore return on the transformed responses, up to the uniqueness of the solution -/
theorem normalEqs_affCoeffs (c t a : K) (bs : List K) (x y : List K) (h : NormalEqs (a :: bs) x y) :
    NormalEqs (affCoeffs c t (a :: bs)) x (affY c t y) := by
  intro j hj
  rw [length_affCoeffs] at hj
  rw [zip_aff_map, sum_map_eq_mul _ _ (fun p => (p.2 - predict (a :: bs) p.1) * p.1 ^ j) c
    fun p => by rw [predict_affCoeffs]; ring, h j hj, mul_zero]

theorem r2Spec_affCoeffs (c t a : K) (bs : List K) (hc : c ≠ 0) (x y : List K) :
    r2Spec (affCoeffs c t (a :: bs)) x (affY c t y) = r2Spec (a :: bs) x y :=
  r2Spec_of_sse c t hc _ _ x y (sse_affCoeffs c t a bs x y)

theorem stdErrSpec_affCoeffs (sqrt : K → K) (c t a : K) (bs : List K)
    (hs : ∀ v, sqrt (c ^ 2 * v) = |c| * sqrt v) (x y : List K) :
    stdErrSpec sqrt (affCoeffs c t (a :: bs)) x (affY c t y)
      = (stdErrSpec sqrt (a :: bs) x y).map fun s => |c| * s :=
  stdErrSpec_of_sse sqrt c t hs _ _ x y (sse_affCoeffs c t a bs x y)

/-- `c = 0` (all responses replaced by the constant `t`): `SST = 0`, so `r²` is undefined whatever the coefficients -/
theorem r2Spec_const (t : K) (cs : List K) (x y : List K) : r2Spec cs x (affY 0 t y) = none := by
  rw [r2Spec, sst_aff, if_pos (by ring)]

private theorem fitOf_affCoeffs (sqrt : K → K) (c t : K) (hc : c ≠ 0) (hs : ∀ v, sqrt (c ^ 2 * v) = |c| * sqrt v)
    (a : K) (bs x y : List K) :
    fitOf sqrt (affCoeffs c t (a :: bs)) x (affY c t y) = affFit c t (fitOf sqrt (a :: bs) x y) := by
  rw [fitOf, stdErrSpec_affCoeffs sqrt c t a bs hs, r2Spec_affCoeffs c t a bs hc]
  rfl

/-- where the line fit of `(x, y)` is defined, that of `(x, c·y + t)` is the fit statistics of `[c·a + t, c·b]`:
these solve the transformed normal equations -/
private theorem lsFit_aff (sqrt : K → K) (c t : K) (x y : List K) (hxy : x.length = y.length)
    (hn : x.length ≠ 0) (hD : lsD x ≠ 0) :
    lsFit sqrt x (affY c t y)
      = some (fitOf sqrt (affCoeffs c t [lsIntercept x y, lsSlope x y]) x (affY c t y)) :=
  lsFit_of_normalEqs sqrt x _ (by rw [length_affY, hxy]) hn hD
    (normalEqs_affCoeffs c t _ [_] x y (normalEqs_ls x y hxy hn hD))

/-- **the line fit is undefined on the transformed responses exactly when it is on the original ones** — for every
`c` and `t`, whatever the lengths: definedness (`n ≠ 0`, `D ≠ 0`) is a function of `x` alone -/
theorem ls_affine_none_iff (sqrt : K → K) (c t : K) (x y : List K) :
    lsFit sqrt x (affY c t y) = none ↔ lsFit sqrt x y = none := by
  rw [SV.Props.C15.ls_defined_iff, SV.Props.C15.ls_defined_iff]

/-- **coefficients of `LeastSquaresRegression::fit` under `y ↦ c·y + t`**, every `c` (also `c = 0`): if the fit of
`(x, y)` is defined, so is the fit of `(x, c·y + t)`, the original coefficients are a pair `[a, b]` and the new ones
are `[c·a + t, c·b]` -/
theorem ls_affine_coeffs (sqrt : K → K) (c t : K) (x y : List K) (hxy : x.length = y.length) (f : Fit K)
    (h : lsFit sqrt x y = some f) :
    ∃ f' a b, lsFit sqrt x (affY c t y) = some f' ∧ f.coeffs = [a, b] ∧ f'.coeffs = [c * a + t, c * b] := by
  obtain ⟨h0, hD, hco⟩ := SV.Props.C15.ls_coeffs sqrt x y f h
  exact ⟨_, _, _, lsFit_aff sqrt c t x y hxy h0 hD, hco, rfl⟩

/-- the same in the words of `LinearModel::intercept` / `LinearModel::slope`: the reported intercept becomes
`c·a + t`, the reported slope `c·b` (every `c`) -/
theorem ls_affine_intercept_slope (sqrt : K → K) (c t : K) (x y : List K) (hxy : x.length = y.length) (f : Fit K)
    (h : lsFit sqrt x y = some f) :
    ∃ f', lsFit sqrt x (affY c t y) = some f' ∧
      intercept f'.coeffs = (intercept f.coeffs).map (fun a => c * a + t) ∧
      slope f'.coeffs = (slope f.coeffs).map (fun b => c * b) ∧
      (intercept f.coeffs).isSome ∧ (slope f.coeffs).isSome := by
  obtain ⟨f', a, b, h', hf, hf'⟩ := ls_affine_coeffs sqrt c t x y hxy f h
  refine ⟨f', h', ?_⟩
  rw [hf, hf']
  exact ⟨rfl, rfl, rfl, rfl⟩

/-- **`LeastSquaresRegression::fit` is equivariant under `y ↦ c·y + t`, `c ≠ 0`** (`c = 0` fails for `r²` only:
`r2Spec_const`; the coefficients are `ls_affine_coeffs`) -/
theorem ls_affine (sqrt : K → K) (c t : K) (hc : c ≠ 0) (hs : ∀ v, sqrt (c ^ 2 * v) = |c| * sqrt v)
    (x y : List K) (hxy : x.length = y.length) :
    lsFit sqrt x (affY c t y) = (lsFit sqrt x y).map (affFit c t) := by
  rw [lsFit_fitOf sqrt x y hxy]
  split_ifs with h0 hD
  · exact (SV.Props.C15.ls_defined_iff sqrt x _).mpr (Or.inl h0)
  · exact (SV.Props.C15.ls_defined_iff sqrt x _).mpr (Or.inr hD)
  · rw [Option.map_some, ← fitOf_affCoeffs sqrt c t hc hs]
    exact lsFit_aff sqrt c t x y hxy h0 hD

/-- **one pass of the descent loop is equivariant**: on the responses `c·y + t`, from the weights
`(c·w₁ + t, c·w₂)`, the pass gives `(c·w₁' + t, c·w₂')` where `(w₁', w₂')` is the pass on `y` from `(w₁, w₂)` — every
`c`, `t`, step size, and every pair of lists (no hypothesis on the lengths, the empty lists included) -/
theorem gdStep_affine (α c t : K) (x y : List K) (w : K × K) :
    gdStep α x (affY c t y) (c * w.1 + t, c * w.2)
      = (c * (gdStep α x y w).1 + t, c * (gdStep α x y w).2) := by
  rw [gdStep_eq, gdStep_eq, length_affY, zip_aff_map, zip_aff_map, Prod.mk.injEq]
  constructor
  · rw [sum_map_eq_mul _ _ (fun p => w.1 + w.2 * p.1 - p.2) c fun p => by ring]
    ring
  · rw [sum_map_eq_mul _ _ (fun p => (w.1 + w.2 * p.1 - p.2) * p.1) c fun p => by ring]
    ring

theorem gdLoop_affine (α c t : K) (x y : List K) (k : Nat) (w : K × K) :
    gdLoop α x (affY c t y) k (c * w.1 + t, c * w.2)
      = (c * (gdLoop α x y k w).1 + t, c * (gdLoop α x y k w).2) := by
  rw [gdLoop_eq_iterate, gdLoop_eq_iterate]
  exact (Function.Semiconj.iterate_right (f := fun w : K × K => (c * w.1 + t, c * w.2))
    (fun w => (gdStep_affine α c t x y w).symm) k w).symm

/-- **coefficients of `GradientDescentRegression::fit` under `y ↦ c·y + t`**, every `c` (also `c = 0`), every step
size and number of passes: the code's starting point `(mean y, 0)` is mapped to the starting point of the transformed
problem, so the returned weights `(w₁, w₂)` become `(c·w₁ + t, c·w₂)` -/
theorem gd_affine_coeffs (α c t : K) (x y : List K) (hn : y.length ≠ 0) (steps : Nat) :
    gdLoop α x (affY c t y) steps ((affY c t y).sum / ((affY c t y).length : K), 0)
      = (c * (gdLoop α x y steps (y.sum / (y.length : K), 0)).1 + t,
         c * (gdLoop α x y steps (y.sum / (y.length : K), 0)).2) := by
  have hnK : (y.length : K) ≠ 0 := Nat.cast_ne_zero.mpr hn
  rw [← gdLoop_affine, sum_affY, length_affY, mul_zero, add_div, mul_div_cancel_left₀ _ hnK,
    mul_div_assoc]

/-- **`GradientDescentRegression::fit` is equivariant under `y ↦ c·y + t`, `c ≠ 0`** — every step size, every
number of passes, no hypothesis on the lengths -/
theorem gd_affine (sqrt : K → K) (c t : K) (hc : c ≠ 0) (hs : ∀ v, sqrt (c ^ 2 * v) = |c| * sqrt v)
    (steps : Nat) (α : K) (x y : List K) :
    gdFit sqrt steps α x (affY c t y) = (gdFit sqrt steps α x y).map (affFit c t) := by
  rw [gdFit_eq, gdFit_eq]
  split_ifs with h0 h0' h0'
  · rfl
  · exact absurd (length_affY c t y ▸ h0) h0'
  · exact absurd (length_affY c t y ▸ h0') h0
  · rw [Option.map_some, ← fitOf_affCoeffs sqrt c t hc hs, gd_affine_coeffs α c t x y h0' steps]
    rfl

/-- **the polynomial fit of every order, with any solver that solves the moment system** (the hypothesis
`SolveSound`), under `y ↦ c·y + t`, `c ≠ 0`: whenever both fits succeed, the residual sum of squares of
the returned coefficients is multiplied by exactly `c²`, the reported `r²` is unchanged and the reported standard error
is multiplied by `|c|` — with no uniqueness assumption on the least-squares solution (the *minimum* is equivariant even
where the minimiser is not unique) -/
theorem poly_affine_stats (sqrt : K → K) (solve : Mat K → List K → Option (List K)) (hsol : SolveSound solve)
    (c t : K) (hc : c ≠ 0) (hs : ∀ v, sqrt (c ^ 2 * v) = |c| * sqrt v)
    (order : Nat) (x y : List K) (hxy : x.length = y.length) (f f' : Fit K)
    (h : polyFit sqrt solve order x y = .ok f) (h' : polyFit sqrt solve order x (affY c t y) = .ok f') :
    sse f'.coeffs x (affY c t y) = c ^ 2 * sse f.coeffs x y ∧
      f'.r2 = f.r2 ∧ f'.stdErr = f.stdErr.map fun s => |c| * s := by
  have hxy' : x.length = (affY c t y).length := by rw [length_affY, hxy]
  obtain ⟨hl, _⟩ := SV.Props.C15.poly_fit_normal_eqs sqrt solve hsol order x y hxy f h
  obtain ⟨hl', _⟩ := SV.Props.C15.poly_fit_normal_eqs sqrt solve hsol order x _ hxy' f' h'
  obtain ⟨a, bs, hf⟩ := List.exists_cons_of_length_eq_add_one hl
  obtain ⟨a', bs', hf'⟩ := List.exists_cons_of_length_eq_add_one hl'
  -- the transformed old coefficients compete on the new data
  have le1 : sse f'.coeffs x (affY c t y) ≤ c ^ 2 * sse f.coeffs x y := by
    have := SV.Props.C15.poly_fit_optimal sqrt solve hsol order x _ hxy' f' h' (affCoeffs c t f.coeffs)
      (by rw [length_affCoeffs, hl])
    rwa [hf, sse_affCoeffs, ← hf] at this
  -- the back-transformed new coefficients compete on the old data
  have le2 : sse f.coeffs x y ≤ (c⁻¹) ^ 2 * sse f'.coeffs x (affY c t y) := by
    have := SV.Props.C15.poly_fit_optimal sqrt solve hsol order x y hxy f h (affCoeffs c⁻¹ (-(t / c)) f'.coeffs)
      (by rw [length_affCoeffs, hl'])
    have e := sse_affCoeffs c⁻¹ (-(t / c)) a' bs' x (affY c t y)
    rw [affY_inv c t hc] at e
    rwa [hf', e, ← hf'] at this
  have hsse : sse f'.coeffs x (affY c t y) = c ^ 2 * sse f.coeffs x y := by
    refine le_antisymm le1 ?_
    have := mul_le_mul_of_nonneg_left le2 (sq_nonneg c)
    rwa [← mul_assoc, ← mul_pow, mul_inv_cancel₀ hc, one_pow, one_mul] at this
  obtain ⟨r, se⟩ := SV.Props.C15.stats_are_functions_of_coeffs_poly sqrt solve order x y f h
  obtain ⟨r', se'⟩ := SV.Props.C15.stats_are_functions_of_coeffs_poly sqrt solve order x _ f' h'
  exact ⟨hsse, by rw [r, r', r2Spec_of_sse c t hc _ _ x y hsse],
    by rw [se, se', stdErrSpec_of_sse sqrt c t hs _ _ x y hsse]⟩

/-- order 1 with a sound solver, where the line fit is defined (`n ≠ 0`, `D ≠ 0`, which makes the solution unique):
the coefficients returned by `PolynomialRegression::fit` on `c·y + t` are `[c·a + t, c·b]`, every `c` -/
theorem poly1_affine_coeffs (sqrt : K → K) (solve : Mat K → List K → Option (List K)) (hsol : SolveSound solve)
    (c t : K) (x y : List K) (hxy : x.length = y.length) (hn : x.length ≠ 0) (hD : lsD x ≠ 0) (f f' : Fit K)
    (h : polyFit sqrt solve 1 x y = .ok f) (h' : polyFit sqrt solve 1 x (affY c t y) = .ok f') :
    f'.coeffs = affCoeffs c t f.coeffs := by
  rw [SV.Props.C15.order1_eq_line_fit sqrt solve hsol x y hxy f _ h
      (lsFit_of_normalEqs sqrt x y hxy hn hD (normalEqs_ls x y hxy hn hD)),
    SV.Props.C15.order1_eq_line_fit sqrt solve hsol x _ (by rw [length_affY, hxy]) f' _ h'
      (lsFit_aff sqrt c t x y hxy hn hD)]
  rfl

/-- **`LeastSquaresRegression::fit` under an affine change `x ↦ s·x + u` of the abscissae, `s ≠ 0`**: undefined stays
undefined (`D` becomes `s²·D`), the fitted line is the same line written in the new abscissa (slope `b/s`, intercept
`a − b·u/s`), and `r²` and the standard error are unchanged.  No absolute threshold on `D`, on the spread of `x` or on
the slope can therefore be part of the algorithm. -/
theorem ls_affine_x (sqrt : K → K) (s u : K) (hs : s ≠ 0) (x y : List K) (hxy : x.length = y.length) :
    lsFit sqrt (affY s u x) y
      = (lsFit sqrt x y).map fun f => { f with coeffs := reparam s u f.coeffs } := by
  rw [lsFit_fitOf sqrt x y hxy]
  split_ifs with h0 hD
  · exact (SV.Props.C15.ls_defined_iff sqrt _ y).mpr (Or.inl (by rwa [length_affY]))
  · exact (SV.Props.C15.ls_defined_iff sqrt _ y).mpr (Or.inr (by rw [lsD_affx, hD, mul_zero]))
  · rw [lsFit_of_normalEqs sqrt _ y (by rw [length_affY, hxy]) (by rwa [length_affY])
      (by rw [lsD_affx]; exact mul_ne_zero (pow_ne_zero 2 hs) hD)
      (normalEqs_reparam s u _ _ hs x y (normalEqs_ls x y hxy h0 hD))]
    simp only [Option.map_some, fitOf, stdErrSpec, r2Spec, sse_affx s u _ _ hs, reparam]

/-- **the closed-form fit depends on the multiset of data points only**: listing the pairs `(xᵢ, yᵢ)` in another order
gives the same outcome of `LeastSquaresRegression::fit` — same definedness, coefficients, `r²` and standard error -/
theorem ls_perm (sqrt : K → K) (l l' : List (K × K)) (h : l.Perm l') :
    lsFit sqrt (l.map Prod.fst) (l.map Prod.snd) = lsFit sqrt (l'.map Prod.fst) (l'.map Prod.snd) := by
  have hl (l : List (K × K)) : (l.map Prod.fst).length = (l.map Prod.snd).length := by
    rw [List.length_map, List.length_map]
  rw [lsFit_fitOf sqrt _ _ (hl l)]
  split_ifs with h0 hD
  · exact ((SV.Props.C15.ls_defined_iff sqrt _ _).mpr (Or.inl (by
      rwa [List.length_map, ← h.length_eq, ← List.length_map (f := Prod.fst)]))).symm
  · exact ((SV.Props.C15.ls_defined_iff sqrt _ _).mpr (Or.inr (by rwa [← lsD_perm h]))).symm
  · rw [fitOf_perm h]
    exact (lsFit_of_normalEqs sqrt _ _ (hl l')
      (by rwa [List.length_map, ← h.length_eq, ← List.length_map (f := Prod.fst)])
      (by rwa [← lsD_perm h]) (normalEqs_perm h (normalEqs_ls _ _ (hl l) h0 hD))).symm

/-- **gradient descent depends on the multiset of data points only**: listing the pairs `(xᵢ, yᵢ)` in another order
gives the same outcome of `GradientDescentRegression::fit`, for every step size and number of passes -/
theorem gd_perm (sqrt : K → K) (steps : Nat) (α : K) (l l' : List (K × K)) (h : l.Perm l') :
    gdFit sqrt steps α (l.map Prod.fst) (l.map Prod.snd)
      = gdFit sqrt steps α (l'.map Prod.fst) (l'.map Prod.snd) := by
  rw [gdFit_eq, gdFit_eq, List.length_map, List.length_map, h.length_eq, perm_sum Prod.snd h]
  simp only [gdLoop_eq_iterate, funext (gdStep_perm α l l' h), fitOf_perm h]

/-- the fit of `x = [0,1,2,3]`, `y = [1,3,4,8]` is defined, with coefficients `[7/10, 11/5]` … -/
example : (lsFit (fun _ : ℚ => 0) [0, 1, 2, 3] [1, 3, 4, 8]).map (·.coeffs) = some [7 / 10, 11 / 5] := by
  decide +kernel

/-- … and the fit of `y ↦ -3·y + 5` has coefficients `[-3·(7/10) + 5, -3·(11/5)]`, as `ls_affine_coeffs` says -/
example : (lsFit (fun _ : ℚ => 0) [0, 1, 2, 3] (affY (-3) 5 [1, 3, 4, 8])).map (·.coeffs)
    = some [-3 * (7 / 10) + 5, -3 * (11 / 5)] := by
  decide +kernel

/-- an instance of `ls_affine` (the hypothesis on `sqrt` is satisfiable: here by the zero function) -/
example : lsFit (fun _ : ℚ => 0) [0, 1, 2, 3] (affY (-3) 5 [1, 3, 4, 8])
    = (lsFit (fun _ : ℚ => 0) [0, 1, 2, 3] [1, 3, 4, 8]).map (affFit (-3) 5) :=
  ls_affine _ (-3) 5 (by norm_num) (fun _ => by simp) _ _ rfl

/-- two passes of gradient descent on the same data move the weights (the loop equivariance is not about a constant) -/
example : gdLoop (1 / 10 : ℚ) [0, 1, 2, 3] [1, 3, 4, 8] 2 (4, 0) ≠ (4, 0) := by
  decide +kernel

/-- an instance of `ls_affine_x`: abscissae `x ↦ 2·x − 7` -/
example : (lsFit (fun _ : ℚ => 0) (affY 2 (-7) [0, 1, 2, 3]) [1, 3, 4, 8]).map (·.coeffs)
    = some [7 / 10 - 11 / 5 * (-7) / 2, 11 / 5 / 2] := by
  decide +kernel

end SV.Props.C15Affine
