import SV.Model.C11
import SV.Lemmas.Mat
import SV.Lemmas.C11
/-!
# C11 — matrix, vector and scalar products follow the algebraic definition, any shape

`R` is any commutative semiring, so `ℤ` ("exactly, for integer elements"), `ℚ`, `ℝ` are instances; the same `SV.C11.dot` runs at
`Int` and `Float` in the driver and is compared with `Arr2D::dot` on every run of the check.
-/
namespace SV.Props.C11
open SV SV.C11 Finset

variable {R : Type} [CommSemiring R] [Inhabited R]

/-- The outcome of the checked product as a function of the four dimensions: exactly the table
of the statement.  (`Except` has no panic constructor: every read of the model is at `i < h`, `j < w`
of its operand, hence inside the buffer of a well-formed operand (`Mat.WF`, which `Arr2D` maintains);
no theorem here assumes `WF` of the operands, an ill-formed one is read as `default`.) -/
theorem dot_shape_table (a b : Mat R) :
    (a.w = b.h → ∃ m, dot a b = .ok m ∧ m.h = a.h ∧ m.w = b.w ∧ m.WF) ∧
    (a.w ≠ b.h → (a.h = 1 ∧ a.w = 1) → ∃ m, dot a b = .ok m ∧ m.h = b.h ∧ m.w = b.w ∧ m.WF) ∧
    (a.w ≠ b.h → ¬(a.h = 1 ∧ a.w = 1) → (b.h = 1 ∧ b.w = 1) →
        ∃ m, dot a b = .ok m ∧ m.h = a.h ∧ m.w = a.w ∧ m.WF) ∧
    (a.w ≠ b.h → ¬(a.h = 1 ∧ a.w = 1) → ¬(b.h = 1 ∧ b.w = 1) →
        dot a b = .error (.invalidDotShape a.w b.h)) := by
  refine ⟨fun hc => ?_, fun _ ha => ?_, fun _ ha hb => ?_, fun hc ha hb => dot_mismatch a b ha hb hc⟩
  · obtain ⟨m, hm⟩ := dot_conforming_ok a b hc
    refine ⟨m, hm, ?_⟩
    rw [dot_eq_tab a b m hc hm]
    exact ⟨rfl, rfl, Mat.tab_WF _ _ _⟩
  · exact ⟨_, dot_left_scalar a b ha, rfl, rfl, Mat.tab_WF _ _ _⟩
  · exact ⟨_, dot_right_scalar a b ha hb, rfl, rfl, Mat.tab_WF _ _ _⟩

/-- Conforming shapes: every entry is the row-by-column sum (including when a 1×1 factor makes
the code take its scalar shortcut). -/
theorem dot_entry (a b m : Mat R) (hc : a.w = b.h) (hm : dot a b = .ok m) :
    ∀ i j, i < a.h → j < b.w → m.get i j = ∑ k ∈ range a.w, a.get i k * b.get k j := by
  intro i j hi hj
  rw [dot_eq_tab a b m hc hm, Mat.get_tab _ hi hj]

theorem dot_toMatrix (a b m : Mat R) (hc : a.w = b.h) (hm : dot a b = .ok m) :
    m.toMatrix a.h b.w = a.toMatrix a.h a.w * b.toMatrix a.w b.w :=
  (dot_denotes ⟨rfl, rfl⟩ ⟨hc.symm, rfl⟩ hm).2

theorem dot_scalar_left (a b m : Mat R) (ha : a.h = 1 ∧ a.w = 1) (hm : dot a b = .ok m) :
    m.h = b.h ∧ m.w = b.w ∧ ∀ i j, i < b.h → j < b.w → m.get i j = a.get 0 0 * b.get i j := by
  rw [dot_left_scalar a b ha, Except.ok.injEq] at hm
  subst hm
  exact ⟨rfl, rfl, fun i j hi hj => Mat.get_tab _ hi hj⟩

/-- A 1×1 right operand (left one not 1×1) acts as a scalar as well — the code's choice. -/
theorem dot_scalar_right (a b m : Mat R) (ha : ¬(a.h = 1 ∧ a.w = 1)) (hb : b.h = 1 ∧ b.w = 1)
    (hm : dot a b = .ok m) :
    m.h = a.h ∧ m.w = a.w ∧ ∀ i j, i < a.h → j < a.w → m.get i j = a.get i j * b.get 0 0 := by
  rw [dot_right_scalar a b ha hb, Except.ok.injEq] at hm
  subst hm
  exact ⟨rfl, rfl, fun i j hi hj => by rw [Mat.get_tab _ hi hj, mul_comm]⟩

/-- Each of the three laws below is the law of Mathlib's matrix product, read through `dot_denotes`;
two well-formed arrays of one shape that denote the same matrix are equal (`eq_of_toMatrix`). -/
theorem dot_assoc (a b c ab bc l r : Mat R) (h1 : a.w = b.h) (h2 : b.w = c.h)
    (hab : dot a b = .ok ab) (hl : dot ab c = .ok l) (hbc : dot b c = .ok bc)
    (hr : dot a bc = .ok r) : l = r := by
  obtain ⟨sab, eab⟩ := dot_denotes ⟨rfl, h1⟩ ⟨rfl, h2⟩ hab
  obtain ⟨sbc, ebc⟩ := dot_denotes ⟨rfl, h2⟩ ⟨rfl, rfl⟩ hbc
  obtain ⟨sl, el⟩ := dot_denotes ⟨sab.1, sab.2.1⟩ ⟨rfl, rfl⟩ hl
  obtain ⟨sr, er⟩ := dot_denotes ⟨rfl, h1⟩ ⟨sbc.1, sbc.2.1⟩ hr
  exact eq_of_toMatrix sl sr (by rw [el, er, eab, ebc, Matrix.mul_assoc])

theorem dot_transpose (a b ab r : Mat R) (h1 : a.w = b.h) (hab : dot a b = .ok ab)
    (hr : dot b.transpose a.transpose = .ok r) : ab.transpose = r := by
  obtain ⟨sab, eab⟩ := dot_denotes ⟨rfl, h1⟩ ⟨rfl, rfl⟩ hab
  obtain ⟨sr, er⟩ := dot_denotes (a := b.transpose) (b := a.transpose) (h := b.w) (k := b.h)
    (w := a.h) ⟨rfl, rfl⟩ ⟨h1, rfl⟩ hr
  refine eq_of_toMatrix ⟨sab.2.1, sab.1, ab.transpose_WF⟩ sr ?_
  rw [toMatrix_transpose ab sab.2.1.ge sab.1.ge, eab, er, Matrix.transpose_mul,
    toMatrix_transpose b le_rfl le_rfl, toMatrix_transpose a h1.ge le_rfl]

theorem dot_ident (a m : Mat R) (ha : a.WF) :
    (dot (Mat.ident a.h) a = .ok m → m = a) ∧ (dot a (Mat.ident a.w) = .ok m → m = a) := by
  constructor
  · intro hm
    obtain ⟨s, e⟩ := dot_denotes (a := Mat.ident a.h) (h := a.h) (k := a.h) ⟨rfl, rfl⟩ ⟨rfl, rfl⟩ hm
    exact eq_of_toMatrix s ⟨rfl, rfl, ha⟩ (by rw [e, toMatrix_ident, Matrix.one_mul])
  · intro hm
    obtain ⟨s, e⟩ := dot_denotes (b := Mat.ident a.w) (k := a.w) (w := a.w) ⟨rfl, rfl⟩ ⟨rfl, rfl⟩ hm
    exact eq_of_toMatrix s ⟨rfl, rfl, ha⟩ (by rw [e, toMatrix_ident, Matrix.mul_one])

/-- The `*` operator returns exactly what the checked product returns when it succeeds (all four
ownership forms call the same `dot`; that they do is what the correspondence run checks). -/
theorem mulOp_agrees (a b m : Mat R) (hm : dot a b = .ok m) : mulOp a b = m :=
  mulOp_of_ok hm

theorem smul_entry (a : Mat R) (s : R) :
    (smul a s).h = a.h ∧ (smul a s).w = a.w ∧
      ∀ i j, i < a.h → j < a.w → (smul a s).get i j = a.get i j * s :=
  ⟨rfl, rfl, fun _ _ hi hj => get_smul a s hi hj⟩

/-- Only for a returned array: the model answers `none` (the panic) exactly when `dv` is undefined on
the first entry, which is right for a `dv` whose definedness depends on the divisor alone (division
by zero).  Each entry is then the quotient wherever `dv` defines it. -/
theorem sdiv_entry (dv : R → R → Option R) (a m : Mat R) (s : R) (hm : sdiv dv a s = some m) :
    m.h = a.h ∧ m.w = a.w ∧
      ∀ i j, i < a.h → j < a.w → ∀ q, dv (a.get i j) s = some q → m.get i j = q := by
  unfold sdiv at hm
  by_cases h0 : a.h * a.w = 0
  · simp only [h0, if_true, Option.some.injEq] at hm
    subst hm
    refine ⟨rfl, rfl, ?_⟩
    intro i j hi hj
    have := idx_lt hi hj
    omega
  · simp only [h0, if_false] at hm
    split at hm
    · cases hm
    · simp only [Option.some.injEq] at hm
      subst hm
      refine ⟨rfl, rfl, ?_⟩
      intro i j hi hj q hq
      rw [Mat.get_tab _ hi hj, hq]; rfl

/-- Non-vacuity: a concrete outer product and a concrete rejected pair (over `ℤ`). -/
example : (dot (⟨2, 1, #[1, 2]⟩ : Mat Int) ⟨1, 2, #[3, 4]⟩).toOption.map (·.a) = some #[3, 4, 6, 8] := by
  decide
example : (match dot (⟨2, 2, #[1, 2, 3, 4]⟩ : Mat Int) ⟨1, 2, #[3, 4]⟩ with
    | .error (.invalidDotShape 2 1) => true | _ => false) = true := by
  decide

end SV.Props.C11
