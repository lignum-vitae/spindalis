import SV.Lemmas.C19
import SV.Lemmas.C19Lex
/-!
# C19 — totality of the lexer and of the Pratt parser

The model recurses on fuel; the Rust code recurses without any bound.  The fuel the model gives itself
(`tokens + 1`, `characters + 1`) is never what stops it: any larger amount gives the same answer, result
*or* error, and both are those of the fuel-free semantics `R` / `E` (`SV.Lemmas.C19`), `Lexed` / `LexErr`
(`SV.Lemmas.C19Lex`).  The model's fuel-exhaustion branch returns `PolynomialSyntaxError`; in `E` that
error has a single source, `parse_expr` called on an empty token stream (`E.empty`).

That `lex` and `parseTokens` return either a value or an error — never anything else — is their type
(`Except PErr _`); `result_or_error` records it.  The Rust counterpart (no panic on any input) is what
the totality requests of the correspondence check exercise.
-/
namespace SV.Props.C19Total
open SV SV.Text SV.C19

variable {N : Type}

/-- Fuel never stops the parser: with at least `tokens + 1` units of fuel the answer of `parse_expr`
(and of its operator loop) does not depend on the fuel. -/
theorem parser_total (ts : List (Tok N)) (minBp fuel : Nat) (h : ts.length + 1 ≤ fuel) :
    parseExpr fuel ts minBp = parseExpr (ts.length + 1) ts minBp ∧
    ∀ l : Expr N, binLoop fuel l ts minBp = binLoop (ts.length + 1) l ts minBp :=
  ⟨parseExpr_fuel_irrelevant ts minBp h, fun l => binLoop_fuel_irrelevant l ts minBp h⟩

theorem parser_spec (ts : List (Tok N)) (e : Expr N) :
    parseTokens ts = .ok e ↔ R .full (impliedMul ts) 0 e [] :=
  parseTokens_iff_R ts e

/-- Every error of `parseTokens` is an error of the fuel-free semantics: either `parse_expr` fails
(`E`), or it succeeds and tokens are left over (`UnexpectedToken`).  In particular the model's
fuel-exhaustion branch is never the reason. -/
theorem parser_error_spec (ts : List (Tok N)) (x : PErr) (h : parseTokens ts = .error x) :
    E .full (impliedMul ts) 0 x ∨
    (x = .unexpectedToken ∧ ∃ e t r, R .full (impliedMul ts) 0 e (t :: r)) := by
  unfold parseTokens at h
  simp only at h
  split at h
  · rename_i x' hx
    cases h
    exact Or.inl ((parseExpr_iff_E _ _ _).mp hx)
  · cases h
  · rename_i e t r he
    cases h
    exact Or.inr ⟨rfl, e, t, r, (parseExpr_iff_R _ _ _ _).mp he⟩

/-- `PolynomialSyntaxError` comes from an empty remaining input only: the token list is empty or
ends with an operator or an opening parenthesis. -/
theorem syntaxErr_source (ts : List (Tok N)) (h : parseTokens ts = .error .syntaxErr) :
    ts = [] ∨ ∃ p t, ts = p ++ [t] ∧ (t = .lp ∨ ∃ o, t = .op o) := by
  rcases parser_error_spec ts _ h with h | ⟨h, -⟩
  · rcases E_syntaxErr h rfl with h0 | h0
    · exact Or.inl ((impliedMul_nil_iff ts).mp h0)
    · exact Or.inr ((openEnd_impliedMul ts).mp h0)
  · cases h

/-- An accepted token list was consumed entirely: `parse_expr` at power 0 returns the tree and no
remaining token, with the model's fuel and with any larger one. -/
theorem parse_consumes_all (ts : List (Tok N)) (e : Expr N) (h : parseTokens ts = .ok e) :
    ∀ fuel, (impliedMul ts).length + 1 ≤ fuel → parseExpr fuel (impliedMul ts) 0 = .ok (e, []) := by
  intro fuel hf
  rw [parseExpr_fuel_irrelevant _ _ hf]
  exact (parseExpr_iff_R _ _ _ _).mpr ((parser_spec ts e).mp h)

theorem lex_total (s : List Char) (acc : List (Tok Dec)) (fuel : Nat) (h : s.length + 1 ≤ fuel) :
    lexGo fuel s acc = lexGo (s.length + 1) s acc :=
  lexGo_fuel_irrelevant s acc h

/-- `lex` computes the fuel-free pass-by-pass semantics: all characters are consumed on success, and
an error is the error of some pass (`InvalidNumber` or `UnexpectedChar`, see `lexStep`). -/
theorem lex_spec (s : List Char) :
    (∀ out, lex s = .ok out ↔ Lexed (s.filter (· ≠ ' ')) out) ∧
    (∀ x, lex s = .error x ↔ LexErr (s.filter (· ≠ ' ')) x) :=
  ⟨lex_ok_iff s, lex_error_iff s⟩

theorem lex_error_kinds (s : List Char) (x : PErr) (h : lex s = .error x) :
    x = .invalidNumber ∨ x = .unexpectedChar := by
  have h2 := (lex_error_iff s x).mp h
  clear h
  generalize s.filter (· ≠ ' ') = t at h2
  induction h2 with
  | here h =>
    rcases lexStep_cases h with h | h | ⟨_, _, _, h⟩ | ⟨_, h⟩ | ⟨_, _, h⟩
    · cases h; exact .inl rfl
    · cases h; exact .inr rfl
    · cases h
    · cases h
    · cases h
  | later _ _ ih => exact ih

theorem result_or_error (s : List Char) (ts : List (Tok N)) :
    ((∃ out, lex s = .ok out) ∨ ∃ x, lex s = .error x) ∧
    ((∃ e, parseTokens ts = .ok e) ∨ ∃ x, parseTokens ts = .error x) := by
  constructor
  · cases lex s with
    | ok out => exact Or.inl ⟨out, rfl⟩
    | error x => exact Or.inr ⟨x, rfl⟩
  · cases parseTokens ts with
    | ok e => exact Or.inl ⟨e, rfl⟩
    | error x => exact Or.inr ⟨x, rfl⟩

example : parseTokens [Tok.num (2 : Nat), .op .add] = .error .syntaxErr := by rfl
example : parseTokens [Tok.num (2 : Nat), .var "x", .op .caret, .num 2] =
    .ok (.bin .mul (.num 2) (.bin .caret (.var "x") (.num 2) false) false) := by rfl
example : parseTokens ([] : List (Tok Nat)) = .error .syntaxErr := by rfl
example : lex "2x".toList = .ok [.num ⟨false, 2, 0⟩, .var "x"] := by rfl
example : lex "2#".toList = .error .unexpectedChar := by rfl
example : lex "1.2.3".toList = .error .invalidNumber := by rfl

end SV.Props.C19Total
