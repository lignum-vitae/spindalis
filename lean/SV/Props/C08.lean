import SV.Model.C08
import SV.Lemmas.Subst
import SV.Lemmas.Gauss
import Mathlib.LinearAlgebra.Matrix.ToLinearEquiv
/-!
# C08 — linear solve: returned solutions solve the system; singular systems are refused

`K` is any linearly ordered field (ℚ, ℝ, …): "up to rounding" clauses are proved with rounding error 0, i.e. the
algorithm is the right algorithm on every input of every size.  The same definitions
(`SV.C08.gaussSolve`, `SV.Subst.backSubst`, `SV.Subst.forwardSubst`) run at `Float` in the driver and
are compared bit for bit with the Rust code on every run of the check.

Reading guide: a system is `(A : Mat K, b : Array K)`; `A.get i j` is `a[i][j]`, `vget b i` is `b[i]`;
`∑ j ∈ range n, A.get i j * vget x j = vget b i` is row `i` of `A x = b`.
-/

set_option linter.unusedSectionVars false

namespace SV.Props.C08
open SV SV.C08 SV.Subst SV.Gauss Finset

section anyScalar
variable {S : Type} [Inhabited S] [Add S] [Sub S] [Mul S] [Div S] [Neg S] [OfNat S 0]
  [LT S] [DecidableRel (α := S) (· < ·)] [BEq S]

/-- Non-square ⇒ `NonSquareMatrix`; right-hand side of another length ⇒ `NumArgumentsMismatch`;
the empty system ⇒ an error; and no input whatever — any shape, any entries, any tolerance, at any
scalar type — makes the model panic. -/
theorem gauss_shape_errors (A : Mat S) (b : Array S) (tol : S) :
    (A.h ≠ A.w → gaussSolve A b tol = .err .nonSquare) ∧
    (A.h = A.w → A.h ≠ b.size → gaussSolve A b tol = .err (.numArgs A.h b.size)) ∧
    (A.h = A.w → A.h = b.size → A.h = 0 → gaussSolve A b tol = .err (.numArgs 0 0)) ∧
    gaussSolve A b tol ≠ .panic := by
  refine ⟨gaussSolve_nonSquare A b tol, gaussSolve_numArgs A b tol, gaussSolve_empty A b tol, ?_⟩
  rcases gaussSolve_shape A b tol with ⟨h1, h2, h3⟩ | ⟨e, he, _⟩
  · rcases gaussSolve_cases A b tol h1 h2 h3 with h | ⟨x, h⟩ <;> rw [h] <;> exact nofun
  · rw [he]; exact nofun

/-- A square, matching, non-empty system is either answered with a vector of the right length or
refused as singular: no other error, no panic. -/
theorem gauss_outcomes (A : Mat S) (b : Array S) (tol : S)
    (h1 : A.h = A.w) (h2 : A.h = b.size) (h3 : A.h ≠ 0) :
    gaussSolve A b tol = .err .singular ∨ ∃ x, gaussSolve A b tol = .ok x :=
  gaussSolve_cases A b tol h1 h2 h3

/-- The substitution routines panic exactly outside their preconditions: `back_substitution` needs
`1 ≤ size` (it computes `size - 1`), both need the matrix and the two slices to reach `size`. -/
theorem subst_panic_iff (U : Mat S) (n : Nat) (b sol : Array S) :
    (backSubst U n b sol = .panic ↔ n = 0 ∨ U.h < n ∨ U.w < n ∨ b.size < n ∨ sol.size < n) ∧
    (forwardSubst U n b sol = .panic ↔ U.h < n ∨ U.w < n ∨ b.size < n ∨ sol.size < n) := by
  unfold backSubst forwardSubst
  constructor <;> split <;> simp [*]

end anyScalar

variable {K : Type} [Field K] [LinearOrder K] [IsStrictOrderedRing K] [Inhabited K]

omit [LinearOrder K] [IsStrictOrderedRing K] in
/-- `back_substitution` solves every row of the upper-triangular part of the matrix it is given,
whatever the strictly lower part holds (it never reads it), keeps the length of the solution slice
and leaves the entries beyond `size` alone. -/
theorem backSubst_upper_part (U : Mat K) (n : ℕ) (b sol x : Array K)
    (hx : backSubst U n b sol = .ok x) (hd : ∀ i, i < n → U.get i i ≠ 0) :
    x.size = sol.size ∧
    (∀ i, i < n →
      U.get i i * vget x i + ∑ j ∈ Ico (i + 1) n, U.get i j * vget x j = vget b i) ∧
    (∀ j, n ≤ j → vget x j = vget sol j) := by
  obtain ⟨⟨h0, _, _, _, h4⟩, rfl⟩ := (backSubst_ok_iff U n b sol x).mp hx
  exact backCore_rows U n b sol h0 h4 hd

/-- An upper-triangular system with non-zero diagonal: the vector `back_substitution` returns
satisfies every row equation — for every size. -/
theorem backSubst_sound (U : Mat K) (n : ℕ) (b sol x : Array K)
    (hx : backSubst U n b sol = .ok x) (hd : ∀ i, i < n → U.get i i ≠ 0)
    (htri : ∀ i j, i < n → j < i → U.get i j = 0) :
    ∀ i, i < n → ∑ j ∈ range n, U.get i j * vget x j = vget b i := by
  obtain ⟨_, hrows, _⟩ := backSubst_upper_part U n b sol x hx hd
  intro i hi
  rw [sum_range_upper hi _ fun j hj => by rw [htri i j hi hj, zero_mul]]
  exact hrows i hi

omit [LinearOrder K] [IsStrictOrderedRing K] in
/-- `forward_substitution` solves every row of the lower-triangular part (diagonal included),
whatever the strictly upper part holds. -/
theorem forwardSubst_lower_part (L : Mat K) (n : ℕ) (b sol x : Array K)
    (hx : forwardSubst L n b sol = .ok x) (hd : ∀ i, i < n → L.get i i ≠ 0) :
    x.size = sol.size ∧
    (∀ i, i < n →
      ∑ j ∈ range i, L.get i j * vget x j + L.get i i * vget x i = vget b i) ∧
    (∀ j, n ≤ j → vget x j = vget sol j) := by
  obtain ⟨⟨_, _, _, h4⟩, rfl⟩ := (forwardSubst_ok_iff L n b sol x).mp hx
  obtain ⟨h1, h2, h3⟩ := fwdCore_rows L b sol n h4 hd
  exact ⟨h1, fun i hi => (add_comm _ _).trans (h2 i hi), h3⟩

/-- A lower-triangular system with non-zero diagonal: the vector `forward_substitution` returns
satisfies every row equation — for every size. -/
theorem forwardSubst_sound (L : Mat K) (n : ℕ) (b sol x : Array K)
    (hx : forwardSubst L n b sol = .ok x) (hd : ∀ i, i < n → L.get i i ≠ 0)
    (htri : ∀ i j, i < n → i < j → j < n → L.get i j = 0) :
    ∀ i, i < n → ∑ j ∈ range n, L.get i j * vget x j = vget b i := by
  obtain ⟨_, hrows, _⟩ := forwardSubst_lower_part L n b sol x hx hd
  intro i hi
  rw [sum_range_lower hi _ fun j hij hj => by rw [htri i j hi hij hj, zero_mul]]
  exact hrows i hi

/-- **Soundness.**  Whenever the solver returns a vector `x` for `(A, b)` with a positive pivot
tolerance, `x` has one component per unknown and satisfies every equation of `A x = b` — for every
size, every row scaling, every right-hand side. -/
theorem gauss_sound (A : Mat K) (b : Array K) (tol : K) (x : Array K) (htol : 0 < tol)
    (h : gaussSolve A b tol = .ok x) :
    x.size = A.h ∧ ∀ i, i < A.h → ∑ j ∈ range A.h, A.get i j * vget x j = vget b i := by
  obtain ⟨hsize, hsol⟩ := gaussSolve_ok_solution htol h
  exact ⟨hsize, (hsol _).mpr fun _ _ => rfl⟩

theorem gauss_sound_mulVec (A : Mat K) (b : Array K) (tol : K) (x : Array K) (htol : 0 < tol)
    (h : gaussSolve A b tol = .ok x) :
    (A.toMatrix A.h A.h).mulVec (fun j => vget x j.val) = fun i => vget b i.val := by
  funext i
  simp only [Matrix.mulVec, dotProduct, Mat.toMatrix]
  rw [← (gauss_sound A b tol x htol h).2 i.val i.isLt, Finset.sum_range]

/-- **Uniqueness.**  When the solver returns `x`, the system has no other solution: every `y` with
`A y = b` agrees with `x` on all `n` components. -/
theorem gauss_unique (A : Mat K) (b : Array K) (tol : K) (x : Array K) (htol : 0 < tol)
    (h : gaussSolve A b tol = .ok x) (y : ℕ → K)
    (hy : ∀ i, i < A.h → ∑ j ∈ range A.h, A.get i j * y j = vget b i) :
    ∀ i, i < A.h → y i = vget x i :=
  ((gaussSolve_ok_solution htol h).2 y).mp hy

/-- **Singular systems are refused.**  With a positive tolerance, a matrix with a non-trivial
kernel (some `v ≠ 0` with `A v = 0`) is never answered with a vector — not with zeros, not with
anything; for a square system with matching right-hand side the answer is `SingularMatrix`. -/
theorem gauss_refuses_singular (A : Mat K) (b : Array K) (tol : K) (htol : 0 < tol)
    (v : ℕ → K) (hv : ∃ i, i < A.h ∧ v i ≠ 0)
    (hker : ∀ i, i < A.h → ∑ j ∈ range A.h, A.get i j * v j = 0) :
    (∀ x, gaussSolve A b tol ≠ .ok x) ∧
    (A.h = A.w → A.h = b.size → gaussSolve A b tol = .err .singular) := by
  have hno : ∀ x, gaussSolve A b tol ≠ .ok x := by
    intro x h
    -- `x + v` is a second solution, against uniqueness
    obtain ⟨_, hx⟩ := gauss_sound A b tol x htol h
    obtain ⟨i, hi, hvi⟩ := hv
    apply hvi
    have := gauss_unique A b tol x htol h (fun j => vget x j + v j) (fun r hr => by
      simp only [mul_add, Finset.sum_add_distrib]
      rw [hx r hr, hker r hr, add_zero]) i hi
    exact add_eq_left.mp this
  refine ⟨hno, fun h1 h2 => ?_⟩
  obtain ⟨i, hi, _⟩ := hv
  exact (gauss_outcomes A b tol h1 h2 (by omega)).resolve_right fun ⟨x, h⟩ => hno x h

/-- The same through Mathlib's determinant: `det A = 0` — in particular a zero row or column, a
repeated row or column — and a positive tolerance give `SingularMatrix`. -/
theorem gauss_refuses_det_zero (A : Mat K) (b : Array K) (tol : K) (htol : 0 < tol)
    (hsq : A.h = A.w) (hb : A.h = b.size) (hdet : (A.toMatrix A.h A.h).det = 0) :
    gaussSolve A b tol = .err .singular := by
  obtain ⟨v, hv, hker⟩ := (det_eq_zero_iff_kernel (fun i j => A.get i j) A.h).mp hdet
  exact (gauss_refuses_singular A b tol htol v hv hker).2 hsq hb

theorem gauss_refuses_zero_row (A : Mat K) (b : Array K) (tol : K) (htol : 0 < tol)
    (hsq : A.h = A.w) (hb : A.h = b.size) (i : ℕ) (hi : i < A.h)
    (hz : ∀ j, j < A.h → A.get i j = 0) : gaussSolve A b tol = .err .singular :=
  gauss_refuses_det_zero A b tol htol hsq hb
    (Matrix.det_eq_zero_of_row_eq_zero ⟨i, hi⟩ fun j => hz j.val j.isLt)

theorem gauss_refuses_zero_column (A : Mat K) (b : Array K) (tol : K) (htol : 0 < tol)
    (hsq : A.h = A.w) (hb : A.h = b.size) (j : ℕ) (hj : j < A.h)
    (hz : ∀ i, i < A.h → A.get i j = 0) : gaussSolve A b tol = .err .singular :=
  gauss_refuses_det_zero A b tol htol hsq hb
    (Matrix.det_eq_zero_of_column_eq_zero ⟨j, hj⟩ fun i => hz i.val i.isLt)

theorem gauss_refuses_repeated_row (A : Mat K) (b : Array K) (tol : K) (htol : 0 < tol)
    (hsq : A.h = A.w) (hb : A.h = b.size) (p q : ℕ) (hp : p < A.h) (hq : q < A.h) (hpq : p ≠ q)
    (heq : ∀ j, j < A.h → A.get p j = A.get q j) : gaussSolve A b tol = .err .singular := by
  apply gauss_refuses_det_zero A b tol htol hsq hb
  apply Matrix.det_zero_of_row_eq (i := (⟨p, hp⟩ : Fin A.h)) (j := ⟨q, hq⟩)
  · intro h; exact hpq (Fin.mk.inj_iff.mp h)
  · funext j; exact heq j.val j.isLt

theorem gauss_refuses_repeated_column (A : Mat K) (b : Array K) (tol : K) (htol : 0 < tol)
    (hsq : A.h = A.w) (hb : A.h = b.size) (p q : ℕ) (hp : p < A.h) (hq : q < A.h) (hpq : p ≠ q)
    (heq : ∀ i, i < A.h → A.get i p = A.get i q) : gaussSolve A b tol = .err .singular := by
  apply gauss_refuses_det_zero A b tol htol hsq hb
  apply Matrix.det_zero_of_column_eq (i := (⟨p, hp⟩ : Fin A.h)) (j := ⟨q, hq⟩)
  · intro h; exact hpq (Fin.mk.inj_iff.mp h)
  · intro k; exact heq k.val k.isLt

/-- **Regular systems are accepted** (extension).  A square non-empty system whose matrix has
`det ≠ 0` is solved — not refused — for every tolerance up to a positive threshold `τ` (in the
proof: the smallest scaled pivot of the exact elimination, found on the zero right-hand side, so it
depends on the matrix only; the statement lets `τ` depend on `b`, and
`C08Laws.gauss_acceptance_independent_of_rhs` removes that).  Together with `gauss_refuses_det_zero`: for `0 < tol ≤ τ` the solver answers
with a vector exactly when `det A ≠ 0`. -/
theorem gauss_accepts_regular (A : Mat K) (b : Array K) (hsq : A.h = A.w) (hb : A.h = b.size)
    (hn : A.h ≠ 0) (hdet : (A.toMatrix A.h A.h).det ≠ 0) :
    ∃ τ, 0 < τ ∧ ∀ tol, tol ≤ τ → ∃ x, gaussSolve A b tol = .ok x :=
  gaussSolve_regular A b hsq hb hn (kernel_trivial_of_det_ne_zero A A.h hdet)
    fun _ hi => rowScale_ne_zero A A.h hdet hi

theorem gauss_ok_iff_det_ne_zero (A : Mat K) (b : Array K) (hsq : A.h = A.w) (hb : A.h = b.size)
    (hn : A.h ≠ 0) :
    ∃ τ, 0 < τ ∧ ∀ tol, 0 < tol → tol ≤ τ →
      ((∃ x, gaussSolve A b tol = .ok x) ↔ (A.toMatrix A.h A.h).det ≠ 0) :=
  ok_iff_of_refuse_accept
    (fun hdet tol htol ⟨x, hx⟩ => by
      rw [gauss_refuses_det_zero A b tol htol hsq hb (not_not.mp hdet)] at hx
      cases hx)
    fun hdet => by
      obtain ⟨τ, hτ, h⟩ := gauss_accepts_regular A b hsq hb hn hdet
      exact ⟨τ, hτ, fun tol _ hle => h tol hle⟩

/-- the second unit test of gaussian_elim.rs: `[[3,6],[5,-8]] x = [12,2]` has the solution `[2,1]` -/
example : gaussSolve (⟨2, 2, #[3, 6, 5, -8]⟩ : Mat ℚ) #[12, 2] (1 / 1000000000000) = .ok #[2, 1] := by
  decide +kernel
/-- a row exchange and a badly scaled row: `[[1/1024, 1/512], [3, 4]] x = [3/1024, 7]`, `x = [1,1]` -/
example : gaussSolve (⟨2, 2, #[1 / 1024, 1 / 512, 3, 4]⟩ : Mat ℚ) #[3 / 1024, 7] (1 / 1000000000)
    = .ok #[1, 1] := by
  decide +kernel
/-- the first unit test (3×3; no exchange in step 0, where the three scaled candidates tie at 1, rows
1 and 2 exchanged in step 1) -/
example : gaussSolve (⟨3, 3, #[8, 2, -2, 10, 2, 4, 12, 2, 2]⟩ : Mat ℚ) #[8, 16, 16]
    (1 / 1000000000000) = .ok #[1, 1, 1] := by
  decide +kernel
/-- D15's witness is refused, as are a zero row, `[[0]]`, the empty system and a non-square matrix -/
example : gaussSolve (⟨2, 2, #[1, 2, 2, 4]⟩ : Mat ℚ) #[1, 1] (1 / 1000000000000) = .err .singular := by
  decide +kernel
example : gaussSolve (⟨2, 2, #[0, 0, 1, 1]⟩ : Mat ℚ) #[1, 1] (1 / 1000000000000) = .err .singular := by
  decide +kernel
example : gaussSolve (⟨1, 1, #[0]⟩ : Mat ℚ) #[1] (1 / 1000000000000) = .err .singular := by
  decide +kernel
example : gaussSolve (⟨0, 0, #[]⟩ : Mat ℚ) #[] (1 / 1000000000000) = .err (.numArgs 0 0) := by
  decide +kernel
example : gaussSolve (⟨2, 3, #[1, 2, 3, 4, 5, 6]⟩ : Mat ℚ) #[1, 1] (1 / 1000000000000)
    = .err .nonSquare := by
  decide +kernel
/-- triangular solves, with garbage in the triangle that is not read -/
example : backSubst (⟨2, 2, #[2, 1, 99, 4]⟩ : Mat ℚ) 2 #[4, 8] #[0, 0] = .ok #[1, 2] := by
  decide +kernel
example : forwardSubst (⟨2, 2, #[2, 99, 1, 4]⟩ : Mat ℚ) 2 #[4, 10] #[0, 0] = .ok #[2, 2] := by
  decide +kernel
example : backSubst (⟨2, 2, #[2, 1, 0, 4]⟩ : Mat ℚ) 0 #[] #[] = .panic := by
  decide +kernel

end SV.Props.C08
