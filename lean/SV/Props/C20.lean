import SV.Model.C20
import SV.Props.C16
/-!
# C20 — compile-time polynomial macros produce exactly what the runtime parsers produce

Property theorems only.  A macro invocation runs the runtime parser on `input.to_string()`, the text
rustc's token printer produces for the invocation's tokens.  What can be proved about the model: if the
printer changes white space only — the hypothesis that stands for the compiler, measured on every case
by the correspondence run through the `verif_token_text!` hook — the macro's result is the runtime
parser's result on the source text, value or error alike (a rejected text is then a `compile_error!`).
The theorem is false for a parser that strips only `' '` (the repaired defect: the printer breaks long
inputs with `'\\n'`).
-/
namespace SV.Props.C20
open SV SV.Text SV.C20

/-- Univariate macro = runtime parser, for every token printer that only changes white space. -/
theorem macro_simple_eq_runtime (cc : CharClass) (cap : Nat) (tp : List Char → List Char)
    (htp : ∀ s, stripWs cc (tp s) = stripWs cc s) (s : List Char) :
    macroSimple cc cap tp s = C01.parse cc cap s :=
  C01.parse_congr_stripWs (htp s)

/-- Multivariate macro = runtime parser, under the same hypothesis. -/
theorem macro_inter_eq_runtime (cc : CharClass) (tp : List Char → List Char)
    (htp : ∀ s, stripWs cc (tp s) = stripWs cc s) (s : List Char) :
    macroInter cc tp s = C02.parse cc s :=
  C02.parse_congr_stripWs (htp s)

/-- In particular a text the runtime parser rejects is rejected by the macro with the same error
(which the macro turns into `compile_error!`), and an accepted text yields the same polynomial. -/
theorem macro_error_iff_runtime_error (cc : CharClass) (cap : Nat) (tp : List Char → List Char)
    (htp : ∀ s, stripWs cc (tp s) = stripWs cc s) (s : List Char) (e : Poly.PErr) :
    (macroSimple cc cap tp s = .error e ↔ C01.parse cc cap s = .error e) ∧
    (macroInter cc tp s = .error e ↔ C02.parse cc s = .error e) := by
  rw [macro_simple_eq_runtime cc cap tp htp, macro_inter_eq_runtime cc tp htp]
  exact ⟨Iff.rfl, Iff.rfl⟩

/-- The hypothesis is satisfiable by a printer that really reformats: one that inserts a line break
after every character. -/
example : ∀ s, stripWs stdClass ((fun t : List Char => t.flatMap fun c => [c, '\n']) s) = stripWs stdClass s := by
  intro s
  induction s with
  | nil => rfl
  | cons c cs ih =>
    simp only [List.flatMap_cons, stripWs] at ih ⊢
    simp only [List.cons_append, List.nil_append, List.filter_cons]
    have hn : stdClass.isWs '\n' = true := by decide
    simp only [hn, Bool.not_true]
    split <;> simp_all

end SV.Props.C20
