import SV.Lemmas.C19Implied
/-!
# C19 — expression parser: total, conventional precedence, sound folding and display

Facts about the binding powers read from the source (`SV.Gen.bindingPow`, `SV.Gen.unaryMinPow`, regenerated
from advanced.rs on every run of the check) that make the precedence conventional, and what the
implied-multiplication pass does to a token list.
-/
namespace SV.Props.C19
open SV SV.C19

/-- `*` and `/` bind tighter than `+` and `-` (which bind alike), implied multiplication tighter
still, `^` tightest; `!` is never taken as a binary operator above power 0. -/
theorem precedence_order :
    bp .add = bp .sub ∧ bp .mul = bp .div ∧ bp .add < bp .mul ∧ bp .mul < bp .cdot ∧
    bp .cdot < bp .caret ∧ bp .fac = 0 ∧ 0 < bp .add := by
  decide

/-- Unary minus takes an operand that binds strictly tighter than `*` and `/` — so it applies to
the following factor only — but not tighter than implied multiplication or `^` (`-2x`, `-x^2`). -/
theorem unary_minus_power :
    bp .mul < SV.Gen.unaryMinPow ∧ SV.Gen.unaryMinPow ≤ bp .cdot ∧ SV.Gen.unaryMinPow ≤ bp .caret := by
  decide

/-- Arithmetic only (`n + 1 ≤ n` is false of every `n`).  That the right operand of a binary operator is
parsed at `bp o + 1`, so that an operator of equal power ends it, is `binLoop` in the model; its consequence
for the tree is `SV.Props.C19Yield.right_operand_tighter`. -/
theorem right_operand_stops_at_equal_power (o : Op) : ¬ (bp o + 1 ≤ bp o) := by omega

/-- The implied-multiplication pass only inserts `·` tokens: the input is a sublist of the output
and every other token of the output is a `·`. -/
theorem impliedMul_only_inserts {N : Type} (ts : List (Tok N)) :
    ts.Sublist (impliedMul ts) ∧ ∀ t ∈ impliedMul ts, t ∈ ts ∨ t = .op .cdot :=
  impliedMul_inserts ts

end SV.Props.C19
