import SV.Props.C09
/-!
# C09 — the Doolittle `lu` returns THE factorisation

`lu_correct` says that what `lu` returns is *a* unit-lower × upper factorisation of the input.  Here:

* `lu_unique` — it is the only one: any other pair `(L', U')` (unit lower triangular, upper triangular,
  `L' U' = A`) coincides with the returned pair entry by entry.
* `lu_of_product`, `lu_of_product_eq` — conversely every product `L' U'` whose pivots pass the model's
  pivot test is factored, and the factors that come back are `L'` and `U'`: fill-in is reproduced
  exactly, no entry of `L` is "simplified" because the corresponding entry of `A` happens to vanish
  (`lu_fill_in`: a 3×3 witness over `ℚ` with `A[2][1] = 0` and `L[2][1] = -1`).

So a variant of the code that special-cases particular data (a zero entry of the input, a small
intermediate value, …) or returns differently normalised factors cannot agree with the model.
-/
namespace SV.Props.C09Unique
open SV SV.C09 SV.Props.C09 Finset

variable {K : Type} [Field K] [LinearOrder K] [IsStrictOrderedRing K] [Inhabited K]

/-- The inductive core (rows of `U` and columns of `L` are determined one after the other): a unit
lower × upper factorisation `(L', U')` of `A` agrees with the rows `< m` of `U` and the columns
`< m` of `L` that `lu` has finished, because both solve Doolittle's equations for them and the
pivots the equations are divided by are not zero. -/
private theorem agree {n m : Nat} {A L U L' U' : Mat K} {eps : K} (heps : 0 < eps)
    (h : LuInv n A eps m m L U) (hL' : UnitLower n L') (hU' : Upper n U')
    (hP' : ∀ r c, r < n → c < n → ∑ k ∈ range n, L'.get r k * U'.get k c = A.get r c) :
    ∀ k, k < m → k < n → (∀ j, j < n → U'.get k j = U.get k j) ∧
      (∀ i, i < n → L'.get i k = L.get i k) := by
  intro k
  induction k using Nat.strong_induction_on with
  | _ k ih =>
    intro hkm hkn
    have hsum : ∀ i j, i < n → j < n → ∑ t ∈ range k, L'.get i t * U'.get t j
        = ∑ t ∈ range k, L.get i t * U.get t j := by
      intro i j hi hj
      apply Finset.sum_congr rfl
      intro t ht
      have ht' := mem_range.1 ht
      rw [(ih t ht' (by omega) (by omega)).1 j hj, (ih t ht' (by omega) (by omega)).2 i hi]
    have hrow : ∀ j, j < n → U'.get k j = U.get k j := by
      intro j hj
      rcases lt_or_ge j k with hjk | hkj
      · rw [hU' k j hkn hj hjk, h.Uz k j hkn hj (Or.inr hjk)]
      · have e := hP' k j hkn hj
        rw [sum_unit_row hkn (L'.get k) (fun t => U'.get t j) (hL'.1 k hkn)
          (fun t hkt ht => hL'.2 k t hkn ht hkt), hsum k j hkn hj] at e
        rw [h.up k j hkm hkj hj]
        exact eq_sub_of_add_eq' e
    refine ⟨hrow, fun i hi => ?_⟩
    rcases lt_trichotomy i k with hik | hik | hik
    · rw [hL'.2 i k hi hkn hik, h.Lz i k hi hkn (Or.inr hik)]
    · rw [hik, hL'.1 k hkn, h.Ld k hkn hkm]
    · have e := hP' i k hi hkn
      rw [sum_upper_col hkn (L'.get i) (fun t => U'.get t k) (fun t hkt ht => hU' t k ht hkn hkt),
        hsum i k hi hkn, hrow k hkn] at e
      exact mul_right_cancel₀ (ne_zero_of_eps heps (h.piv k (by omega) hkm))
        ((eq_sub_of_add_eq' e).trans (h.lo i k hkm hik hi).symm)

/-- **Uniqueness.**  If `lu` returns `(L, U)` for `A`, and `(L', U')` is any pair with `L'` unit
lower triangular, `U'` upper triangular and `L' U' = A` entry by entry, then `L' = L` and `U' = U`
on the whole `n × n` range.  (The pivots `u_ii`, `i + 1 < n`, are non-zero because the code refuses
`|u_ii| < eps`; the last pivot may be zero and uniqueness still holds.)  The result of the code is
therefore not one of several admissible answers: it is the LU factorisation. -/
theorem lu_unique {eps : K} (heps : 0 < eps) {A L U L' U' : Mat K}
    (h : lu eps A = .ok (L, U)) (hL' : UnitLower A.h L') (hU' : Upper A.h U')
    (hP' : ∀ i j, i < A.h → j < A.h → ∑ k ∈ range A.h, L'.get i k * U'.get k j = A.get i j) :
    ∀ i j, i < A.h → j < A.h → L'.get i j = L.get i j ∧ U'.get i j = U.get i j := by
  have hag := agree heps (lu_ok heps h).2 hL' hU' hP'
  intro i j hi hj
  exact ⟨(hag j hj hj).2 i hi, (hag i hi hi).1 j hj⟩

/-- all passes succeed on a product `L' U'` whose pivots pass the pivot test: pass `k` computes
`u_kk = U'[k][k]` -/
private theorem iter_succeeds {eps : K} (heps : 0 < eps) {n : Nat} {A L' U' : Mat K}
    (hL' : UnitLower n L') (hU' : Upper n U')
    (hP' : ∀ r c, r < n → c < n → ∑ k ∈ range n, L'.get r k * U'.get k c = A.get r c)
    (hpiv' : ∀ i, i + 1 < n → eps ≤ |U'.get i i|) :
    ∀ k, k ≤ n → ∃ s, iter (luStep eps n A) k 0
      (Mat.tab n n fun _ _ => (0:K), Mat.tab n n fun _ _ => (0:K)) = some s := by
  intro k
  induction k with
  | zero => intro _; exact ⟨_, rfl⟩
  | succ k ih =>
    intro hk
    obtain ⟨s, hs⟩ := ih (by omega)
    have hkn : k < n := by omega
    have hag := agree heps (lu_iter_inv heps (le_of_lt hkn) hs) hL' hU' hP'
    have hpv : (luUpper n A s.1 s.2 k).get k k = U'.get k k := by
      have e := hP' k k hkn hkn
      rw [sum_unit_row hkn (L'.get k) (fun t => U'.get t k) (hL'.1 k hkn)
        (fun t hkt ht => hL'.2 k t hkn ht hkt)] at e
      rw [luUpper_get n A s.1 s.2 k hkn hkn, if_pos ⟨rfl, le_refl k⟩, sumFrom_zero, ← e]
      have e3 : ∑ t ∈ range k, s.1.get k t * s.2.get t k
          = ∑ t ∈ range k, L'.get k t * U'.get t k := by
        apply Finset.sum_congr rfl
        intro t ht
        have ht' := mem_range.1 ht
        rw [(hag t ht' (by omega)).1 k hkn, (hag t ht' (by omega)).2 k hkn]
      rw [e3]
      ring
    exact ⟨_, iter_succ hs (luStep_eq_some_iff.2 ⟨fun h => by rw [hpv]; exact hpiv' k h, rfl⟩)⟩

/-- **The factors of a product come back.**  Let `A` be square and equal, entry by entry, to `L' U'`
with `L'` unit lower triangular, `U'` upper triangular, and every pivot that the code tests
(`U'[i][i]` with `i + 1 < n`) of size at least `eps`.  Then `lu` does not refuse `A`, and the pair it
returns is `(L', U')` on the whole `n × n` range — whatever the entries of `A` look like (zeros in
`A` do not produce zeros in `L`: fill-in is reproduced exactly, see `lu_fill_in`). -/
theorem lu_of_product {eps : K} (heps : 0 < eps) {A L' U' : Mat K} (hsq : A.h = A.w)
    (hL' : UnitLower A.h L') (hU' : Upper A.h U')
    (hP' : ∀ i j, i < A.h → j < A.h → ∑ k ∈ range A.h, L'.get i k * U'.get k j = A.get i j)
    (hpiv' : ∀ i, i + 1 < A.h → eps ≤ |U'.get i i|) :
    ∃ L U, lu eps A = .ok (L, U) ∧
      ∀ i j, i < A.h → j < A.h → L.get i j = L'.get i j ∧ U.get i j = U'.get i j := by
  obtain ⟨s, hs⟩ := iter_succeeds heps hL' hU' hP' hpiv' A.h (le_refl _)
  have hlu : lu eps A = .ok (s.1, s.2) := lu_eq_ok_iff.2 ⟨hsq, hs⟩
  refine ⟨s.1, s.2, hlu, ?_⟩
  intro i j hi hj
  have := lu_unique heps hlu hL' hU' hP' i j hi hj
  exact ⟨this.1.symm, this.2.symm⟩

/-- `lu_of_product` for well-formed `n × n` arrays `L'`, `U'`: the result of `lu` on their product
is literally `.ok (L', U')`. -/
theorem lu_of_product_eq {eps : K} (heps : 0 < eps) {A L' U' : Mat K} (hsq : A.h = A.w)
    (hLs : Square A.h L') (hUs : Square A.h U')
    (hL' : UnitLower A.h L') (hU' : Upper A.h U')
    (hP' : ∀ i j, i < A.h → j < A.h → ∑ k ∈ range A.h, L'.get i k * U'.get k j = A.get i j)
    (hpiv' : ∀ i, i + 1 < A.h → eps ≤ |U'.get i i|) :
    lu eps A = .ok (L', U') := by
  obtain ⟨L, U, hlu, heq⟩ := lu_of_product heps hsq hL' hU' hP' hpiv'
  obtain ⟨_, hL, hU, _⟩ := lu_correct heps hlu
  have e1 : L = L' := by
    apply Mat.ext_get hL.2.2 hLs.2.2 (hL.1.trans hLs.1.symm) (hL.2.1.trans hLs.2.1.symm)
    intro i j hi hj
    rw [hL.1] at hi
    rw [hL.2.1] at hj
    exact (heq i j hi hj).1
  have e2 : U = U' := by
    apply Mat.ext_get hU.2.2 hUs.2.2 (hU.1.trans hUs.1.symm) (hU.2.1.trans hUs.2.1.symm)
    intro i j hi hj
    rw [hU.1] at hi
    rw [hU.2.1] at hj
    exact (heq i j hi hj).2
  rw [hlu, e1, e2]

/-- the same factorisation is returned for every threshold that the pivots of `U'` pass: the
threshold decides acceptance only, never the values -/
theorem lu_of_product_threshold_free {eps eps' : K} (heps : 0 < eps) (heps' : 0 < eps')
    {A L' U' : Mat K} (hsq : A.h = A.w)
    (hLs : Square A.h L') (hUs : Square A.h U')
    (hL' : UnitLower A.h L') (hU' : Upper A.h U')
    (hP' : ∀ i j, i < A.h → j < A.h → ∑ k ∈ range A.h, L'.get i k * U'.get k j = A.get i j)
    (hpiv : ∀ i, i + 1 < A.h → eps ≤ |U'.get i i|)
    (hpiv' : ∀ i, i + 1 < A.h → eps' ≤ |U'.get i i|) :
    lu eps A = lu eps' A := by
  rw [lu_of_product_eq heps hsq hLs hUs hL' hU' hP' hpiv,
    lu_of_product_eq heps' hsq hLs hUs hL' hU' hP' hpiv']

/-! ### non-vacuity and the fill-in witness over `ℚ` -/

section examples

/-- `A = [[1,1,0],[1,2,0],[1,0,1]]`: `A[2][1] = 0` -/
def Aw : Mat ℚ := ⟨3, 3, #[1, 1, 0, 1, 2, 0, 1, 0, 1]⟩
/-- its factors: `L[2][1] = -1` -/
def Lw : Mat ℚ := ⟨3, 3, #[1, 0, 0, 1, 1, 0, 1, -1, 1]⟩
def Uw : Mat ℚ := ⟨3, 3, #[1, 1, 0, 0, 1, 0, 0, 0, 1]⟩

/-- the model evaluated in the kernel on the witness -/
example : arraysLU (lu epsQ Aw) =
    some (#[1, 0, 0, 1, 1, 0, 1, -1, 1], #[1, 1, 0, 0, 1, 0, 0, 0, 1]) := by decide +kernel

/-- **Fill-in witness** (an instance of `lu_of_product_eq`, so its hypotheses are satisfiable): the
model factors `Aw` into `(Lw, Uw)`; the entry `A[2][1]` is zero and the entry `L[2][1]` is `-1`.
An implementation that skips the elimination of an entry because the input entry is zero is wrong
on this matrix. -/
theorem lu_fill_in : lu epsQ Aw = .ok (Lw, Uw) ∧ Aw.get 2 1 = 0 ∧ Lw.get 2 1 = -1 := by
  refine ⟨?_, by decide +kernel, by decide +kernel⟩
  apply lu_of_product_eq (by norm_num [epsQ]) rfl
  · exact ⟨rfl, rfl, rfl⟩
  · exact ⟨rfl, rfl, rfl⟩
  · constructor
    · show ∀ i, i < 3 → Lw.get i i = 1
      decide +kernel
    · have : ∀ i, i < 3 → ∀ j, j < 3 → i < j → Lw.get i j = 0 := by decide +kernel
      exact fun i j hi hj => this i hi j hj
  · have : ∀ i, i < 3 → ∀ j, j < 3 → j < i → Uw.get i j = 0 := by decide +kernel
    exact fun i j hi hj => this i hi j hj
  · have : ∀ i, i < 3 → ∀ j, j < 3 →
        ∑ k ∈ range 3, Lw.get i k * Uw.get k j = Aw.get i j := by decide +kernel
    exact fun i j hi hj => this i hi j hj
  · have : ∀ i, i < 2 → Uw.get i i = 1 := by decide +kernel
    intro i hi
    rw [this i (Nat.lt_of_succ_lt_succ hi), abs_one]
    norm_num [epsQ]

/-- `lu_unique` applies to the witness: every unit-lower × upper factorisation of `Aw` has
`L'[2][1] = -1` -/
example (L' U' : Mat ℚ) (hL' : UnitLower 3 L') (hU' : Upper 3 U')
    (hP' : ∀ i j, i < 3 → j < 3 → ∑ k ∈ range 3, L'.get i k * U'.get k j = Aw.get i j) :
    L'.get 2 1 = -1 := by
  have := (lu_unique (A := Aw) (by norm_num [epsQ]) lu_fill_in.1 hL' hU' hP' 2 1
    (by decide) (by decide)).1
  rw [this]
  exact lu_fill_in.2.2

end examples

end SV.Props.C09Unique
