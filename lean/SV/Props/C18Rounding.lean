import SV.Lemmas.RoundingC18
import SV.Lemmas.RoundingNearest
import SV.Lemmas.RoundingEx
/-!
# C18, rounding half — error bounds for `arith_mean` and the two-pass variance of `std_dev`

`SV.Props.C18` proves that `SV.C18.arithMean`/`stdDev` equal their textbook definitions over every
ordered field (rounding error 0).  Here **the same definitions** are run at the rounding scalar
`Fl M` of `SV.Lemmas.Rounding` (every `+ − × ÷` and the cast `n as f64` is the exact real operation
followed by a rounding with relative error `≤ u`).

What the model does, counted:

* `arith_mean`: `xs.iter().sum::<f64>()` is a left fold from `-0.0` — `n` additions (the first one,
  `-0.0 + x₀`, is exact in IEEE but is charged one rounding by the model) — then one cast
  `n as f64` and one division.  Sample `i` (0-based) carries `n − i + 2` roundings: constant
  `γ_{n+2}`; `γ_{n+1}` when the cast is exact (`n < 2⁵³` for binary64) — `mean_rounding_exact_cast`.
* variance inside `std_dev`: per sample one subtraction (its factor is squared), the two
  multiplications of `powi(·, 2)` (`1·(y·y)` in compiler-rt's loop), the `n − i` additions of the
  sum, one cast and one division: `n − i + 6` roundings, constant `γ_{n+6}`, *relative to the
  variance about the computed mean*; `variance_rounding_true` then compares with the true variance.

For binary64 `u = 2⁻⁵³`.  NOT covered: overflow, underflow (a squared deviation that underflows),
NaN/∞ samples, the rounding of `sqrt` itself (`sqrt` is a parameter of the model: the theorems
speak about the argument handed to it), and the decimal→binary conversion of the samples — see the
header of `SV.Lemmas.Rounding`.
-/
namespace SV.Props.C18Rounding
open SV SV.C18 Finset

variable {M : FlModel}

/-- the models elaborate at the rounding scalar with no change -/
noncomputable example (xs : List (Fl M)) : Option (Fl M) := arithMean xs
noncomputable example (sqrt : Fl M → Fl M) (xs : List (Fl M)) : Option (Fl M) :=
  stdDev sqrt .sample xs

/-- backward form: the computed mean is the exact mean of the perturbed samples `xᵢ·(1 + θᵢ)` -/
theorem mean_backward (xs : List (Fl M)) (m : Fl M) (h : arithMean xs = some m)
    (hu : ((xs.length + 2 : ℕ) : ℝ) * M.u < 1) :
    ∃ θ : ℕ → ℝ, (∀ i, |θ i| ≤ M.gamma (xs.length + 2)) ∧
      m.val = (∑ i ∈ range xs.length, (xs.getD i 0).val * (1 + θ i)) / (xs.length : ℝ) := by
  obtain ⟨_, rfl⟩ := arithMean_eq_some_iff.mp h
  obtain ⟨s, hs, hcast⟩ := Fl.natCast_fac (M := M) xs.length
  obtain ⟨θ, hθ, hval⟩ := (div_natCast_wsum (fsum_wsum xs) xs.length 1 s hs hcast).theta
    (fun i _ => by omega) hu
  exact ⟨θ, hθ, hval.trans ((Finset.sum_congr rfl fun i _ => div_mul_eq_mul_div _ _ _).trans
    (Finset.sum_div _ _ _).symm)⟩

/-- forward form; `n + 2`: `n` additions from `-0.0`, the cast `n as f64`, one division -/
theorem mean_rounding (xs : List (Fl M)) (m : Fl M) (h : arithMean xs = some m)
    (hu : ((xs.length + 2 : ℕ) : ℝ) * M.u < 1) :
    |m.val - (xs.map Fl.val).sum / (xs.length : ℝ)|
      ≤ M.gamma (xs.length + 2) * ((xs.map fun x => |x.val|).sum / (xs.length : ℝ)) := by
  obtain ⟨_, rfl⟩ := arithMean_eq_some_iff.mp h
  obtain ⟨s, hs, hcast⟩ := Fl.natCast_fac (M := M) xs.length
  exact fsum_div_rounding xs xs.length 1 s hs hcast hu

/-- The same with an exactly representable length (`rnd n = n`; binary64: every `n ≤ 2⁵³`):
one rounding fewer, `γ_{n+1}`. -/
theorem mean_rounding_exact_cast (xs : List (Fl M)) (m : Fl M) (h : arithMean xs = some m)
    (hcast : M.rnd (xs.length : ℝ) = xs.length)
    (hu : ((xs.length + 1 : ℕ) : ℝ) * M.u < 1) :
    |m.val - (xs.map Fl.val).sum / (xs.length : ℝ)|
      ≤ M.gamma (xs.length + 1) * ((xs.map fun x => |x.val|).sum / (xs.length : ℝ)) := by
  obtain ⟨_, rfl⟩ := arithMean_eq_some_iff.mp h
  exact fsum_div_rounding xs xs.length 0 1 FlModel.fac_zero_one
    (by rw [Fl.natCast_val, hcast, mul_one]) hu

/-- the computed mean of non-negative samples has relative error `≤ γ_{n+2}` -/
theorem mean_rounding_nonneg (xs : List (Fl M)) (m : Fl M) (h : arithMean xs = some m)
    (hpos : ∀ x ∈ xs, 0 ≤ x.val) (hu : ((xs.length + 2 : ℕ) : ℝ) * M.u < 1) :
    |m.val - (xs.map Fl.val).sum / (xs.length : ℝ)|
      ≤ M.gamma (xs.length + 2) * ((xs.map Fl.val).sum / (xs.length : ℝ)) := by
  have := mean_rounding xs m h hu
  have e : (xs.map fun x => |x.val|) = xs.map Fl.val :=
    List.map_congr_left fun x hx => abs_of_nonneg (hpos x hx)
  rwa [e] at this

/-- **binary64, numerically.**  For round-to-nearest with a 53-bit significand
(`FlModel.binary64`, no exponent limits) and fewer than `2⁵²` samples:
`|computed mean − Σx/n| ≤ (n+2)·2⁻⁵² · (Σ|x|/n)`. -/
theorem mean_rounding_binary64 (xs : List (Fl FlModel.binary64)) (m : Fl FlModel.binary64)
    (h : arithMean xs = some m) (hn : xs.length + 2 ≤ 2 ^ 52) :
    |m.val - (xs.map Fl.val).sum / (xs.length : ℝ)|
      ≤ ((xs.length + 2 : ℕ) : ℝ) * (2⁻¹ : ℝ) ^ 52
        * ((xs.map fun x => |x.val|).sum / (xs.length : ℝ)) :=
  FlModel.abs_le_binary64 hn (mean_rounding xs m h)

/-- `Σ (x − c)² / d`: the variance about the centre `c` with denominator `d` -/
noncomputable def varAbout (c : ℝ) (d : ℕ) (xs : List (Fl M)) : ℝ :=
  (xs.map fun x => (x.val - c) ^ 2).sum / (d : ℝ)

theorem varAbout_nonneg (c : ℝ) (d : ℕ) (xs : List (Fl M)) : 0 ≤ varAbout c d xs :=
  div_nonneg (sum_map_nonneg xs _ fun _ => sq_nonneg _) (Nat.cast_nonneg d)

/-- **Two-pass variance, relative to the computed mean.**  The result of `std_dev` is `sqrt V̂` for a
`V̂` with *relative* error at most `γ_{n+6}` with respect to the exact variance of the samples about
the computed mean `μ̂` (`d = n` or `n − 1` by the kind selector).  `sqrt` being an arbitrary function,
the statement ties `V̂` to the result only through `s = sqrt V̂`; the witness is the computed variance. -/
theorem variance_rounding (sqrt : Fl M → Fl M) (k : Kind) (xs : List (Fl M)) (s : Fl M)
    (h : stdDev sqrt k xs = some s) (hu : ((xs.length + 6 : ℕ) : ℝ) * M.u < 1) :
    denom k xs.length ≠ 0 ∧ ∃ V : Fl M, s = sqrt V ∧
      |V.val - varAbout (meanRaw xs).val (denom k xs.length) xs|
        ≤ M.gamma (xs.length + 6) * varAbout (meanRaw xs).val (denom k xs.length) xs := by
  obtain ⟨h0, rfl⟩ := stdDev_eq_some_iff.mp h
  refine ⟨h0, _, rfl, ?_⟩
  obtain ⟨c, hc, hcast⟩ := Fl.natCast_fac (M := M) (denom k xs.length)
  have hb := (variance_wsum xs (meanRaw xs) (denom k xs.length) 1 c hc hcast).abs_sub_le
    (fun i _ => by omega) hu
  rw [varAbout, sum_map_div xs _ 0]
  simpa only [abs_div, abs_sq, Nat.abs_cast] using hb

/-- **Two-pass variance against the true variance.**  With `μ = Σx/n` the true mean, `Var` the true
variance (denominator `d`), and `A = Σ|x|/n`:
`|V̂ − Var| ≤ γ_{n+6}·Var + (1 + γ_{n+6})·(n/d)·(γ_{n+2}·A)²`
— a relative error of about `(n+6)·u` plus a term of *second* order in `u` that carries the
conditioning `A²/Var` of the data: the reason the two-pass formula is the stable one
(Chan, Golub & LeVeque 1983; Higham §1.9). -/
theorem variance_rounding_true (sqrt : Fl M → Fl M) (k : Kind) (xs : List (Fl M)) (s : Fl M)
    (h : stdDev sqrt k xs = some s) (hu : ((xs.length + 6 : ℕ) : ℝ) * M.u < 1) :
    ∃ V : Fl M, s = sqrt V ∧
      |V.val - varAbout ((xs.map Fl.val).sum / (xs.length : ℝ)) (denom k xs.length) xs|
        ≤ M.gamma (xs.length + 6)
            * varAbout ((xs.map Fl.val).sum / (xs.length : ℝ)) (denom k xs.length) xs
          + (1 + M.gamma (xs.length + 6)) * ((xs.length : ℝ) / (denom k xs.length : ℝ))
            * (M.gamma (xs.length + 2) * ((xs.map fun x => |x.val|).sum / (xs.length : ℝ))) ^ 2 := by
  obtain ⟨hd, V, hs, hV⟩ := variance_rounding sqrt k xs s h hu
  refine ⟨V, hs, ?_⟩
  have hn : xs.length ≠ 0 := length_ne_zero_of_denom hd
  have hmean := mean_rounding xs (meanRaw xs) (arithMean_eq_some_iff.mpr ⟨hn, rfl⟩)
    (M.hyp_mono (by omega) hu)
  have hr : 0 ≤ (xs.length : ℝ) / (denom k xs.length : ℝ) :=
    div_nonneg (Nat.cast_nonneg _) (Nat.cast_nonneg _)
  -- the variance about the computed mean `μ̂` exceeds the true one by `(n/d)·(μ − μ̂)²`, and
  -- `|μ̂ − μ|` is bounded by `mean_rounding`
  have hW : varAbout (meanRaw xs).val (denom k xs.length) xs
      = varAbout ((xs.map Fl.val).sum / (xs.length : ℝ)) (denom k xs.length) xs
        + (xs.length : ℝ) / (denom k xs.length : ℝ)
          * ((xs.map Fl.val).sum / (xs.length : ℝ) - (meanRaw xs).val) ^ 2 := by
    unfold varAbout
    rw [sum_sq_about_mean xs Fl.val (meanRaw xs).val hn, add_div, mul_div_right_comm]
  rw [mul_assoc]
  refine rel_error_shift hV hW (mul_nonneg hr (sq_nonneg _))
    (mul_le_mul_of_nonneg_left ?_ hr) (M.gamma_nonneg hu)
  rw [← sq_abs, abs_sub_comm]
  exact pow_le_pow_left₀ (abs_nonneg _) hmean 2

/-- in a model with `u > 0` whose rounding is not the identity (`rnd t = t·(1 + 1/16)`, `u = 1/8`)
the hypotheses of `mean_rounding` are satisfiable and the computed mean really differs from the
exact one -/
example : ∃ (M : FlModel) (xs : List (Fl M)) (m : Fl M), 0 < M.u ∧ arithMean xs = some m ∧
    ((xs.length + 2 : ℕ) : ℝ) * M.u < 1 ∧ m.val ≠ (xs.map Fl.val).sum / (xs.length : ℝ) := by
  refine ⟨C09.Ex.M8, [1, 1], meanRaw [1, 1], C09.Ex.M8_pos, rfl, C09.Ex.M8_hyp (by decide), ?_⟩
  simp only [meanRaw, fsum, List.foldl, Fl.div_val, Fl.natCast_val, Fl.add_val, Fl.neg_val,
    Fl.zero_val, Fl.one_val, C09.Ex.M8_rnd, List.map, List.sum_cons, List.sum_nil, List.length]
  norm_num

/-- the hypotheses of the variance theorems are satisfiable with `u > 0` (both kinds) -/
example : ∃ (M : FlModel) (xs : List (Fl M)), 0 < M.u ∧
    stdDev id .sample xs ≠ none ∧ stdDev id .population xs ≠ none ∧
    ((xs.length + 6 : ℕ) : ℝ) * M.u < 1 := by
  have h16 : (0 : ℝ) ≤ 1 / 16 ∧ (1 / 16 : ℝ) < 1 := by norm_num
  refine ⟨FlModel.skew (1 / 16) h16, [0, 1], ?_, stdDev_eq_none_iff.not.mpr (Nat.succ_ne_zero 0),
    stdDev_eq_none_iff.not.mpr (Nat.succ_ne_zero 1), ?_⟩
  · rw [FlModel.skew_u]
    norm_num
  · rw [FlModel.skew_u]
    norm_num

end SV.Props.C18Rounding
