import SV.Model.C12
import SV.Lemmas.C12
/-!
# C12 — the 2-D array behaves like a rectangular grid under every sequence of operations

`Arr α` (`SV.Model.C12`) is the literal model of `Arr2D<T>`, `Grid α` a plain `h × w` grid as a function
`cell r c` whose failing operations return the grid itself, `R s g` the simulation relation.  Constructors
establish `R` (or fail the same way), every operation preserves it with the same outcome, every observer
agrees under it — hence (`refines_run`, induction over an arbitrary script, no depth bound) the whole
trace of outcomes and observations of the flat model is the trace of the grid, for every element type.
`refines_run` starts from any state with `R s g`; the statement for every constructor followed by every
operation list is `refines_from_init`.

The same `init/step/obs` run at `Int` in `svdriver C12` and are compared with the real `Arr2D<i64>`
after every step of every generated script on each run of the check.
-/
namespace SV.Props.C12
open SV.C12

variable {α : Type}

/-- What the simulation relation says (definitional unfolding, for the reader). -/
theorem R_def (s : Arr α) (g : Grid α) :
    R s g ↔ (s.height = g.h ∧ s.width = g.w ∧ s.inner.length = s.height * s.width ∧
      ∀ r c, r < g.h → c < g.w → s.inner[r * g.w + c]? = some (g.cell r c)) := Iff.rfl

/-- Equivalent reading: same shape and the hidden buffer is exactly the grid in row-major order. -/
theorem R_flat (s : Arr α) (g : Grid α) :
    R s g ↔ (s.height = g.h ∧ s.width = g.w ∧ s.inner = g.flat) :=
  ⟨fun h => ⟨h.1, h.2.1, h.flat⟩, fun ⟨a, b, c⟩ => R_of_flat a b c⟩

/-- Every constructor (`new`, `full`, `identity`, `TryFrom<Vec<Vec<T>>>`, `TryFrom<&Vec<Vec<T>>>`,
`From<&[[T; N]; M]>`, `from_flat` with padding) yields a state related to the grid built the plain
way, or both sides fail with the same error (ragged rows, failed conversion, oversized flat data,
empty `from_flat` shape).  `RRes` relates `ok` to `ok` by `R`, `err e` to `err e`, nothing else. -/
theorem R_init [Inhabited α] (i : Init α) : RRes (init i) (Grid.init i) := by
  cases i with
  | new => exact R_new
  | full v h w => exact R_full v h w
  | identity z o n =>
    obtain ⟨a, ha, hR⟩ := R_identity z o n
    rw [init, Grid.init, ha]
    exact hR
  | fromNested rows => exact R_fromNested rows
  | fromNestedRef conv rows => exact R_fromNestedRef conv rows
  | fromArray m n f => exact R_fromArray m n f
  | fromFlat d v h w => exact R_fromFlat d v h w

theorem init_never_panics [Inhabited α] (i : Init α) : init i ≠ .panic := by
  intro hp
  have h := R_init i
  rw [hp] at h
  exact h

/-- Every mutating operation (reshape, copying and in-place transpose, row swap, element write
through either index form, row write and fill, rewriting rows through the mutable row iterator,
map, clone, element conversion) keeps the relation and has the same outcome on both sides —
including the failing cases, where the grid side returns the grid itself. -/
theorem R_step (s : Arr α) (g : Grid α) (op : Op α) (h : R s g) :
    R (step s op).1 (Grid.step g op).1 ∧ (step s op).2 = (Grid.step g op).2 := by
  cases op with
  | reshape h' => exact R_reshape h h'
  | transpose => exact R_transpose h
  | transposeMut => exact R_transposeMut h
  | swapRows a b => exact R_swapRows h a b
  | setIdx r c v => exact R_setIdx h r c v
  | setRowCol r c v => exact R_setRowCol h r c v
  | setRow r vs => exact R_setRow h r vs
  | fillRow r v => exact R_fillRow h r v
  | rowsMut F hF => exact R_rowsMut h F hF
  | map f => exact R_map h f
  | clone => exact ⟨h, rfl⟩
  | convert conv => exact R_convert h conv

/-- `R_step` as an equation: an operation on a stored grid is the grid's operation, stored.  A law of
the grid operations is carried over to arrays by rewriting with it (`SV.Props.C12Laws`). -/
theorem step_ofGrid (g : Grid α) (op : Op α) :
    step (Arr.ofGrid g) op = (Arr.ofGrid (Grid.step g op).1, (Grid.step g op).2) :=
  have h := R_step _ g op (R_ofGrid g)
  Prod.ext (R_iff_ofGrid.mp h.1) h.2

/-- A failing operation of the grid returns the grid itself … -/
theorem grid_step_fail_unchanged (g : Grid α) (op : Op α) (hf : (Grid.step g op).2 ≠ .ok) :
    (Grid.step g op).1 = g := by
  -- a grid operation is `if bad then (g, failure) else (g', .ok)`, or has no failing case at all
  have key : ∀ (c : Prop) [Decidable c] (g' : Grid α) (o : Out),
      (if c then (g, o) else (g', Out.ok)).2 ≠ .ok → (if c then (g, o) else (g', Out.ok)).1 = g := by
    intro c _ g' o hf
    by_cases hc : c
    · rw [if_pos hc]
    · rw [if_neg hc] at hf; exact absurd rfl hf
  cases op with
  | transpose | transposeMut | rowsMut | map | clone => exact absurd rfl hf
  | convert conv =>
    change (g.convert conv).2 ≠ .ok at hf
    change (g.convert conv).1 = g
    unfold Grid.convert at hf ⊢
    by_cases hc : (g.flat.all fun x => (conv x).isSome) = true
    · rw [if_pos hc] at hf; exact absurd rfl hf
    · rw [if_neg hc]
  | _ => exact key _ _ _ hf

/-- … so an invalid operation (bad reshape, out-of-range index or row, wrong row length, failed
conversion) fails with the grid's outcome and leaves the array related to the *same* grid: every
observation afterwards is what it was before. -/
theorem invalid_leaves_unchanged (s : Arr α) (g : Grid α) (op : Op α) (h : R s g)
    (hf : (step s op).2 ≠ .ok) : R (step s op).1 g := by
  have hs := R_step s g op h
  rw [hs.2] at hf
  have := grid_step_fail_unchanged g op hf
  rw [this] at hs
  exact hs.1

theorem R_of_init [Inhabited α] {i : Init α} {s : Arr α} (hs : init i = .ok s) : ∃ g, R s g := by
  rcases (R_init i).ok_or_err with ⟨e, he, _⟩ | ⟨s', g, hs', _, hR⟩
  · rw [hs] at he; cases he
  · rw [hs] at hs'; cases hs'
    exact ⟨g, hR⟩

section observers
variable [DecidableEq α] [LT α] [DecidableRel (α := α) (· < ·)]

/-- Every observer (`shape`, `size`, `is_empty`, both index forms with their panics, row index, the
two row iterators, `max`, `min`, `==` against a nested vector in both directions, `Display`,
`as_scalar`) returns on the flat model what the tabulation of the grid gives. -/
theorem R_obs (s : Arr α) (g : Grid α) (o : Obs α) (h : R s g) : obs s o = Grid.obs g o := by
  cases o with
  | shape | size | isEmpty => simp only [obs, Grid.obs, Arr.isEmpty, h.length, h.1, h.2.1]
  | getIdx r c => simp only [obs, Grid.obs, h.at?]; split <;> rfl
  | getRowCol r c => simp only [obs, Grid.obs, h.at2?]; split <;> rfl
  | getRow r => simp only [obs, Grid.obs, h.rowSlice?]; split <;> rfl
  | rows | forRows => simp only [obs, Grid.obs, h.rows?]; rfl
  | max | min => simp only [obs, Grid.obs, h.extreme]
  | eqNested other => simp only [obs, Grid.obs, h.eqNested]
  | eqNestedRev other =>
    simp only [obs, Grid.obs, h.eqNested]
    congr 1
    exact decide_eq_decide.mpr eq_comm
  | display fmt => simp only [obs, Grid.obs, h.display]
  | asScalar => simp only [obs, Grid.obs, h.asScalar]

theorem obs_ofGrid (g : Grid α) : obs (Arr.ofGrid g) = Grid.obs g :=
  funext fun o => R_obs _ g o (R_ofGrid g)

theorem run_ofGrid (g : Grid α) (script : List (Item α)) :
    run (Arr.ofGrid g) script = ((Grid.run g script).1, Arr.ofGrid (Grid.run g script).2) := by
  induction script generalizing g with
  | nil => rfl
  | cons item rest ih =>
    obtain ⟨op, os⟩ := item
    simp only [run, Grid.run, step_ofGrid, ih, obs_ofGrid]

/-- **History quantifier.**  For every script (a list of operations, each followed by any list of
observers — no bound on its length) the whole trace of the flat model — outcome of every operation
and every observed value — is the trace of the grid, and the relation holds at the end. -/
theorem refines_run (script : List (Item α)) (s : Arr α) (g : Grid α) (h : R s g) :
    (run s script).1 = (Grid.run g script).1 ∧ R (run s script).2 (Grid.run g script).2 := by
  obtain rfl := R_iff_ofGrid.mp h
  rw [run_ofGrid]
  exact ⟨rfl, R_ofGrid _⟩

/-- From any constructor: either both sides fail with the same error, or both succeed and every
script gives the same trace on the array and on the grid. -/
theorem refines_from_init [Inhabited α] (i : Init α) (script : List (Item α)) :
    (∃ e, init i = .err e ∧ Grid.init i = .err e) ∨
    (∃ s g, init i = .ok s ∧ Grid.init i = .ok g ∧
      (run s script).1 = (Grid.run g script).1 ∧ R (run s script).2 (Grid.run g script).2) := by
  rcases (R_init i).ok_or_err with he | ⟨s, g, hs, hg, hR⟩
  · exact Or.inl he
  · exact Or.inr ⟨s, g, hs, hg, refines_run script s g hR⟩

theorem inv_run_from (script : List (Item α)) (s : Arr α) (g : Grid α) (h : R s g) :
    (run s script).2.inner.length = (run s script).2.height * (run s script).2.width :=
  (refines_run script s g h).2.2.2.1

/-- The hidden buffer always has exactly `height * width` items: after any constructor and any
sequence of operations (so `size()`, which is `inner.len()`, is the size of the grid). -/
theorem inv_run [Inhabited α] (i : Init α) (script : List (Item α)) (s : Arr α) (hs : init i = .ok s) :
    (run s script).2.inner.length = (run s script).2.height * (run s script).2.width :=
  (R_of_init hs).elim (inv_run_from script s)

end observers

section order
variable {β : Type} [LinearOrder β]

/-- `max` is `None` exactly on an empty shape; otherwise it is a cell of the grid and no cell is
larger.  (With `R_obs` the same holds for the array's `max()`.) -/
theorem max_is_greatest (g : Grid β) :
    (Grid.obs g .max = .opt none ↔ (g.h = 0 ∨ g.w = 0)) ∧
    ∀ m, Grid.obs g .max = .opt (some m) →
      (∃ r c, r < g.h ∧ c < g.w ∧ g.cell r c = m) ∧ ∀ r c, r < g.h → c < g.w → g.cell r c ≤ m := by
  simp only [Grid.obs, Val.opt.injEq]
  exact g.reduce?_picks picks_pickMax le_refl fun _ _ _ => le_trans

/-- `min` is `None` exactly on an empty shape; otherwise it is a cell of the grid and no cell is
smaller. -/
theorem min_is_least (g : Grid β) :
    (Grid.obs g .min = .opt none ↔ (g.h = 0 ∨ g.w = 0)) ∧
    ∀ m, Grid.obs g .min = .opt (some m) →
      (∃ r c, r < g.h ∧ c < g.w ∧ g.cell r c = m) ∧ ∀ r c, r < g.h → c < g.w → m ≤ g.cell r c := by
  simp only [Grid.obs, Val.opt.injEq]
  exact g.reduce?_picks picks_pickMin le_refl fun _ _ _ h1 h2 => le_trans h2 h1

end order


/-- `[[1, 2, 3], [4, 5, 6]]` -/
def demo : Arr Nat := Arr.fromArray 2 3 fun r c => 3 * r + c + 1
def demoGrid : Grid Nat := Grid.fromArray 2 3 fun r c => 3 * r + c + 1

/-- the hypothesis of `refines_run` is satisfiable … -/
example : R demo demoGrid := R_fromArray 2 3 _

/-- … and a run of `reshape; transpose_mut; swap_rows; set; (bad) reshape; (bad) set` on the 2×3 array
does what a grid does, the failing steps leaving everything as it was. -/
example :
    (run demo
      [(.reshape 3, [.rows]), (.transposeMut, [.rows, .shape]), (.swapRows 0 1, [.rows]),
       (.setIdx 1 2 9, [.rows, .size, .max]), (.reshape 4, [.shape, .getIdx 1 2]),
       (.setRowCol 2 0 7, [.rows, .getRowCol 0 3])]).1 =
      [(.ok, [.rows [[1, 2], [3, 4], [5, 6]]]),
       (.ok, [.rows [[1, 3, 5], [2, 4, 6]], .pair 2 3]),
       (.ok, [.rows [[2, 4, 6], [1, 3, 5]]]),
       (.ok, [.rows [[2, 4, 6], [1, 3, 9]], .nat 6, .opt (some 9)]),
       (.err (.invalidReshape 6 4), [.pair 2 3, .elem 9]),
       (.panic, [.rows [[2, 4, 6], [1, 3, 9]], .panic])] := by decide +kernel

/-- the text layout: right-aligned columns, NumPy-like brackets -/
example : layout (fun n : Nat => List.replicate n 'i') 2 2 [[1, 2], [3, 1]] =
    "[[   i, ii ]\n [ iii,  i ]]".toList := by decide +kernel

end SV.Props.C12
