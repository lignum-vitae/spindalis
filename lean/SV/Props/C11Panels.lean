import SV.Props.C11
import Mathlib.Algebra.BigOperators.Intervals
/-!
# C11 — accumulation order by panels is the same product

`Arr2D::dot` has no panels; this is about rewrites of it.  A cache-blocked product walks the shared dimension in panels
of `b` and **adds** each panel's partial sum into the entry.  In exact arithmetic (integers: the statement's "exactly, for
integer elements") that is the row-by-column sum for every panel width and every shared dimension, including a ragged last
panel (`dot_entry_panelled`).  A rewrite that *overwrites* the entry with each panel's partial sum returns the last panel
only: `last_panel_is_not_the_sum` exhibits `K = 65`, `b = 64`, all terms 1.
-/
namespace SV.Props.C11Panels
open SV SV.C11 Finset

theorem sum_panels {M : Type} [AddCommMonoid M] (f : ℕ → M) (b P : ℕ) :
    ∑ p ∈ range P, ∑ k ∈ Ico (p * b) ((p + 1) * b), f k = ∑ k ∈ range (P * b), f k := by
  induction P with
  | zero => simp
  | succ P ih =>
    rw [sum_range_succ, ih, range_eq_Ico, range_eq_Ico,
      sum_Ico_consecutive f (Nat.zero_le _) (Nat.mul_le_mul_right b (Nat.le_succ P))]

theorem sum_panels_truncated {M : Type} [AddCommMonoid M] (f : ℕ → M) (b P K : ℕ) (hK : K ≤ P * b) :
    ∑ p ∈ range P, ∑ k ∈ Ico (p * b) (min ((p + 1) * b) K), f k = ∑ k ∈ range K, f k := by
  have inner : ∀ p, ∑ k ∈ Ico (p * b) (min ((p + 1) * b) K), f k
      = ∑ k ∈ Ico (p * b) ((p + 1) * b), (if k < K then f k else 0) := by
    intro p
    rw [← sum_filter]
    congr 1
    ext k
    simp only [mem_Ico, mem_filter, lt_min_iff]
    tauto
  simp only [inner]
  rw [sum_panels (fun k => if k < K then f k else 0) b P, ← sum_filter]
  congr 1
  ext k
  simp only [mem_filter, mem_range]
  omega

variable {R : Type} [CommSemiring R] [Inhabited R]

theorem dot_entry_panelled (a b m : Mat R) (hc : a.w = b.h) (hm : dot a b = .ok m) (w : ℕ) (hw : 0 < w) :
    ∀ i j, i < a.h → j < b.w →
      m.get i j = ∑ p ∈ range (a.w / w + 1), ∑ k ∈ Ico (p * w) (min ((p + 1) * w) a.w), a.get i k * b.get k j := by
  intro i j hi hj
  rw [SV.Props.C11.dot_entry a b m hc hm i j hi hj]
  symm
  apply sum_panels_truncated
  have := Nat.lt_div_mul_add hw (a := a.w)
  rw [Nat.add_mul, Nat.one_mul]
  omega

/-- overwriting returns the last panel only: with 65 terms equal to 1 and panels of 64 that is 1, not 65 -/
theorem last_panel_is_not_the_sum :
    (∑ _k ∈ Ico (1 * 64) (min ((1 + 1) * 64) 65), (1 : ℤ)) = 1 ∧ (∑ _k ∈ range 65, (1 : ℤ)) = 65 := by
  constructor <;> simp

end SV.Props.C11Panels
