import SV.Props.C04
import SV.Lemmas.C04Nat
import Mathlib.Analysis.SpecialFunctions.Integrals.Basic
/-!
# C04 for natural exponents — all real bounds

`SV.Props.C04.analytical_is_integral_inter` needs positive bounds and no exponent `-1`: the set where
every real power is differentiable.  The property speaks of "all bounds a, b in the domain", and a
sparse polynomial whose exponents are all natural numbers is defined, continuous and integrable on
the whole real line.  For those (`powf := Real.rpow`): the indefinite integral is an antiderivative
at every real point and vanishes at `0`, by name and through the univariate wrapper;
`analytical_integral = ∫ x in a..b, f x` for all real bounds, with `f` written out in ordinary powers;
the integral has natural exponents again.

No exclusion like C03's `x = 0` with a literal `v^0` arises: integration never produces a negative
power from a natural one (`v^0 ↦ v^1`), and a natural number is not `-1`.
-/
namespace SV.Props.C04Natural
open SV SV.Poly SV.C03 SV.C04 SV.C04Nat SV.Props.C03 SV.Props.C04

/-- `indefinite_integral_multivariate` is a partial antiderivative at every real point.  Only the
powers of `v` must be natural; the other variables may carry any real powers and are bound by `bs`,
`v` may be absent.  `F 0 = 0`: the constant of integration is zero. -/
theorem inter_integ_hasDerivAt_natural (p : IPoly ℝ) (hwf : TermsWF p.terms) (v : String)
    (hnat : ∀ t ∈ p.terms, ∀ q, (v, q) ∈ t.vars → ∃ n : ℕ, q = n)
    (bs : List (String × ℝ)) (hb : ∀ w ∈ termNames p.terms, w ≠ v → (lookup bs w).isSome) :
    ∃ (F f : ℝ → ℝ),
      (∀ t, evalTerms Real.rpow (integInter p.terms v).terms (bs ++ [(v, t)]) = .ok (F t)) ∧
      (∀ x, evalTerms Real.rpow p.terms (bs ++ [(v, x)]) = .ok (f x)) ∧
      (∀ x, HasDerivAt F (f x) x) ∧ F 0 = 0 :=
  ⟨_, _, evalTerms_update Real.rpow _ bs v (fun w hw hne =>
      (integInter_names p.terms v w hw).elim (fun h => hb w h hne) (fun h => absurd h hne)),
    evalTerms_update Real.rpow p.terms bs v hb,
    fun x => hasDerivAt_integInter_natural (valuation bs) v x p.terms hwf (natIn_iff.2 hnat),
    polyVal_integInter_zero _ hwf (natIn_iff.2 hnat) (Function.update_self ..)⟩

/-- the same through `indefinite_integral_univariate` / `eval_univariate` (a constant is integrated in
`x`) -/
theorem integ_uni_hasDerivAt_natural (p : IPoly ℝ) (h : UniOK p)
    (hnat : ∀ t ∈ p.terms, ∀ w q, (w, q) ∈ t.vars → ∃ n : ℕ, q = n) :
    ∃ (q : IPoly ℝ) (F f : ℝ → ℝ), integUni p = .ok q ∧
      (∀ t, evalUni Real.rpow q t = .ok (F t)) ∧ (∀ t, evalUni Real.rpow p t = .ok (f t)) ∧
      (∀ x, HasDerivAt F (f x) x) ∧ F 0 = 0 := by
  obtain ⟨v, hv, hF, hFok, hFnames⟩ := uni_var p h
  have hnv : NatIn p.terms v := (natAll_iff.2 hnat).natIn v
  exact ⟨_, _, _, hF, evalUni_eq Real.rpow _ hFok.1 hFok.2 v hFnames,
    evalUni_eq Real.rpow p h.1 h.2 v hv,
    fun x => hasDerivAt_integInter_natural _ v x p.terms h.1.1 hnv,
    polyVal_integInter_zero _ h.1.1 hnv (Function.update_self ..)⟩

/-- `SV.Props.C04.analytical_is_integral_inter` without `0 < a`, `0 < b`; "no exponent `-1`" is
implied by `hnat`. -/
theorem analytical_is_integral_inter_natural (p : IPoly ℝ) (h : UniOK p)
    (hnat : ∀ t ∈ p.terms, ∀ w q, (w, q) ∈ t.vars → ∃ n : ℕ, q = n) (a b : ℝ) :
    ∃ f : ℝ → ℝ, (∀ x, evalUni Real.rpow p x = .ok (f x)) ∧
      analytical Real.rpow (.inter p) a b = .ok (∫ x in a..b, f x) := by
  obtain ⟨hu, h1⟩ := h
  have hnv : NatIn p.terms (uniVar p) := (natAll_iff.2 hnat).natIn _
  exact ⟨_, evalUni_eq Real.rpow p hu h1 _ (eq_uniVar hu h1),
    analytical_inter_eq_integral p hu h1 a b (natIn_ne hnv) (fun x _ => natIn_dom hnv x)⟩

/-- The function `f` of the theorems of this file and of `SV.Props.C03Natural`, written out:
`⌊q⌋₊` is the natural number the exponent `q` is, and `x ^ n` is the monoid power (`x ^ 0 = 1` also at
`x = 0`). -/
theorem evalUni_natural (p : IPoly ℝ) (h : UniOK p)
    (hnat : ∀ t ∈ p.terms, ∀ w q, (w, q) ∈ t.vars → ∃ n : ℕ, q = n) (x : ℝ) :
    evalUni Real.rpow p x
      = .ok ((p.terms.map fun t => t.coef * (t.vars.map fun vp => x ^ ⌊vp.2⌋₊).prod).sum) := by
  rw [evalUni_eq Real.rpow p h.1 h.2 _ (eq_uniVar h.1 h.2) x,
    polyVal_natural_eq_pow _ _ x (eq_uniVar h.1 h.2) (natAll_iff.2 hnat)]

theorem analytical_natural_explicit (p : IPoly ℝ) (h : UniOK p)
    (hnat : ∀ t ∈ p.terms, ∀ w q, (w, q) ∈ t.vars → ∃ n : ℕ, q = n) (a b : ℝ) :
    analytical Real.rpow (.inter p) a b
      = .ok (∫ x in a..b, (p.terms.map fun t => t.coef * (t.vars.map fun vp => x ^ ⌊vp.2⌋₊).prod).sum) := by
  obtain ⟨f, hf, hint⟩ := analytical_is_integral_inter_natural p h hnat a b
  rw [hint]
  congr 2
  funext x
  have := (hf x).symm.trans (evalUni_natural p h hnat x)
  exact Except.ok.inj this

/-- the integral has natural exponents again (and `v` at power `≥ 1`), so the theorems of this file
apply to it in turn -/
theorem integ_natural_closed (p : IPoly ℝ) (hwf : TermsWF p.terms)
    (hnat : ∀ t ∈ p.terms, ∀ w q, (w, q) ∈ t.vars → ∃ n : ℕ, q = n) (v : String) :
    (∀ t ∈ (integInter p.terms v).terms, ∀ w q, (w, q) ∈ t.vars → ∃ n : ℕ, q = n) ∧
    (∀ t ∈ (integInter p.terms v).terms, ∀ q, (v, q) ∈ t.vars → ∃ n : ℕ, q = n ∧ 1 ≤ n) :=
  ⟨natAll_iff.1 (integInter_natAll hwf (natAll_iff.2 hnat)),
    fun _ ht _ hq => integInter_natIn hwf ((natAll_iff.2 hnat).natIn v) ht hq⟩

/-- `3x^2 - x + 2` (`SV.C04Nat.quad`, as `IntermediatePolynomial::parse` returns it) over `[-1, 2]`, an
interval containing `0` with a negative bound -/
example : analytical Real.rpow (.inter quad) (-1) 2 = .ok (27 / 2) := by
  rw [analytical_natural_explicit quad quad_usable quad_natural]
  -- the integrand is `3x² - x + 2`, with antiderivative `x³ - x²/2 + 2x`
  have hf : ∀ x : ℝ, (quad.terms.map fun t => t.coef * (t.vars.map fun vp => x ^ ⌊vp.2⌋₊).prod).sum
      = 3 * x ^ 2 - x + 2 := fun x => by
    simp [quad]
    ring
  simp only [hf]
  rw [intervalIntegral.integral_eq_sub_of_hasDerivAt (f := fun x : ℝ => x ^ 3 - x ^ 2 / 2 + 2 * x)
    (fun x _ => (((hasDerivAt_pow 3 x).sub ((hasDerivAt_pow 2 x).div_const 2)).add
      ((hasDerivAt_id x).const_mul 2)).congr_deriv (by norm_num))
    ((by fun_prop : Continuous fun x : ℝ => 3 * x ^ 2 - x + 2).intervalIntegrable _ _)]
  norm_num

/-- … and with the bounds swapped, and split at `0` -/
example : ∃ u w, analytical Real.rpow (.inter quad) (-1) 0 = .ok u ∧
    analytical Real.rpow (.inter quad) 0 2 = .ok w ∧
    analytical Real.rpow (.inter quad) (-1) 2 = .ok (u + w) ∧
    analytical Real.rpow (.inter quad) 2 (-1) = .ok (-(u + w)) :=
  analytical_additive_total Real.rpow quad quad_usable (-1) 2 0

/-- the hypotheses of `inter_integ_hasDerivAt_natural` can be met with a non-natural power on another
variable: `4·x·y^(-1/2)` integrated in `x`, `y = 9` -/
example : ∃ (F f : ℝ → ℝ),
    (∀ t, evalTerms Real.rpow (integInter [(⟨4, [("x", 1), ("y", -1 / 2)]⟩ : Term ℝ)] "x").terms
      ([("y", 9)] ++ [("x", t)]) = .ok (F t)) ∧
    (∀ x, evalTerms Real.rpow [⟨4, [("x", 1), ("y", -1 / 2)]⟩] ([("y", 9)] ++ [("x", x)]) = .ok (f x)) ∧
    (∀ x, HasDerivAt F (f x) x) ∧ F 0 = 0 := by
  refine inter_integ_hasDerivAt_natural ⟨[⟨4, [("x", 1), ("y", -1 / 2)]⟩], ["x", "y"]⟩ (by decide) "x"
    ?_ [("y", 9)] (by decide)
  · intro t ht q hq
    simp only [List.mem_singleton] at ht
    subst ht
    simp only [List.mem_cons, Prod.mk.injEq, List.not_mem_nil, or_false] at hq
    rcases hq with ⟨_, rfl⟩ | ⟨h, _⟩
    · exact ⟨1, by simp⟩
    · exact absurd h (by decide)

end SV.Props.C04Natural
