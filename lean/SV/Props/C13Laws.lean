import SV.Model.C13
import SV.Lemmas.C13
import SV.Props.C13
/-!
# C13 — laws of the power method: symmetry, tolerance, cap, first pass, normalisation

Statements about `SV.C13.power` / `powerCap` / `loop` for ALL inputs that a "robustness tweak"
(an early exit keyed on absolute sizes, a stop on the first pass, a result depending on the
tolerance or on the cap) would break.

The cap and first-pass laws use no algebraic law and no well-formedness hypothesis: they hold for
every scalar type with the operations of the model (so also for the `Float` instance).
-/
set_option linter.unusedSectionVars false

namespace SV.Props.C13Laws
open SV SV.C11 SV.C13

section loop
variable {S : Type} [Inhabited S] [Add S] [Sub S] [Mul S] [Div S] [Neg S] [OfNat S 0]
  [LT S] [DecidableRel (α := S) (· < ·)] [BEq S]

/-- **More fuel changes nothing but `NoConvergence`**: whenever the loop ends with anything other
than `Err(NoConvergence)`, it ends with the same outcome on every larger fuel. -/
theorem loop_fuel_mono (A : Mat S) (es : S) (k : Nat) : ∀ fuel done (ev : Mat S) (lam : S),
    loop A es fuel done ev lam ≠ .err .noConvergence →
      loop A es (fuel + k) done ev lam = loop A es fuel done ev lam := by
  intro fuel
  induction fuel with
  | zero => intro done ev lam h; exact absurd rfl h
  | succ fuel ih =>
    intro done ev lam h
    rw [Nat.add_right_comm]
    cases hp : pass A ev lam with
    | none => rw [loop_panic hp, loop_panic hp]
    | some p =>
      by_cases hc : (p.c == 0) = true
      · rw [loop_zero_normaliser hp hc, loop_zero_normaliser hp hc]
      by_cases hs : Stops es done p
      · rw [loop_stop hp hc hs, loop_stop hp hc hs]
      · rw [loop_continue hp hc hs] at h
        rw [loop_continue hp hc hs, loop_continue hp hc hs]
        exact ih (done + 1) p.nv p.next h

end loop

section generic
variable {S : Type} [Inhabited S] [Add S] [Sub S] [Mul S] [Div S] [Neg S] [OfNat S 0] [OfNat S 1]
  [LT S] [DecidableRel (α := S) (· < ·)] [BEq S]

/-- **Symmetric input: the transposed array gives the same outcome** (same eigenvalue, vector,
pass count, or the same error), for every tolerance (and, by the same proof, every cap). -/
theorem power_transpose_symmetric (A : Mat S) (es : S) (hA : A.WF)
    (hsq : A.h = A.w) (hsym : ∀ i j, i < A.h → j < A.h → A.get i j = A.get j i) :
    power A.transpose es = power A es := by
  rw [Mat.transpose_eq_self_of_symmetric A hA hsq hsym]

/-- **`power_method` never returns from its first pass**: an `Ok (λ, v)` after `p` passes has
`2 ≤ p ≤ cap`, for every matrix (no well-formedness needed), every tolerance and every cap. -/
theorem power_first_pass_never_stops (A : Mat S) (es lam : S) (v : Mat S) (p : Nat)
    (h : power A es = .ok (lam, v, p)) : 2 ≤ p ∧ p ≤ SV.Gen.powerMethodCap :=
  powerCap_first_pass_never_stops _ A es lam v p h

/-- **The cap only matters for `NoConvergence`**: an outcome of `power_method` other than
`Err(NoConvergence)` — an `Ok`, `NonSquareMatrix` — is the outcome for every larger cap. -/
theorem powerCap_cap_mono (cap cap' : Nat) (hc : cap ≤ cap') (A : Mat S) (es : S)
    (h : powerCap cap A es ≠ .err .noConvergence) : powerCap cap' A es = powerCap cap A es := by
  obtain ⟨k, rfl⟩ := Nat.exists_eq_add_of_le hc
  rcases powerCap_cases A with ⟨o, _, ho⟩ | ⟨ev, lam0, hl⟩
  · rw [ho, ho]
  · rw [hl] at h
    rw [hl, hl]
    exact loop_fuel_mono A es k cap 0 ev lam0 h

/-- **A successful result does not depend on the cap**: if the call returns `Ok r` with cap `cap`
it returns the same `Ok r` (eigenvalue, vector, pass count) with every larger cap. -/
theorem power_cap_monotone (cap cap' : Nat) (hc : cap ≤ cap') (A : Mat S) (es : S)
    (r : S × Mat S × Nat) (h : powerCap cap A es = .ok r) : powerCap cap' A es = .ok r := by
  rw [powerCap_cap_mono cap cap' hc A es (by rw [h]; intro e; cases e), h]

/-- **`NoConvergence` is inherited by smaller caps**: if the call runs out of passes (or meets a
zero normaliser) with cap `cap'`, it gives `Err(NoConvergence)` with every smaller cap too. -/
theorem power_cap_noConvergence_antitone (cap cap' : Nat) (hc : cap ≤ cap') (A : Mat S) (es : S)
    (h : powerCap cap' A es = .err .noConvergence) : powerCap cap A es = .err .noConvergence := by
  by_contra hne
  rw [powerCap_cap_mono cap cap' hc A es hne] at h
  exact hne h

end generic

/-- **A larger tolerance gives the same result or an earlier stop**: with `es' ≥ es` the loop
returns either exactly the same `Ok (λ, v, n)` or an `Ok` from a strictly earlier pass — the
tolerance influences the result only through *which pass* stops (the test `ea < es` can only fire
earlier), never through the values computed in a pass. -/
theorem loop_tolerance_same_or_earlier {K : Type} [Field K] [LinearOrder K] [Inhabited K]
    (A : Mat K) (es es' : K) (hes : es ≤ es') :
    ∀ fuel done (ev : Mat K) (lam l : K) (v : Mat K) (n : Nat),
      loop A es fuel done ev lam = .ok (l, v, n) →
        loop A es' fuel done ev lam = .ok (l, v, n) ∨
          ∃ l' v' n', loop A es' fuel done ev lam = .ok (l', v', n') ∧ n' < n := by
  intro fuel
  induction fuel with
  | zero => intro done ev lam l v n h; cases h
  | succ fuel ih =>
    intro done ev lam l v n h
    cases hp : pass A ev lam with
    | none => rw [loop_panic hp] at h; cases h
    | some p =>
      by_cases hc : (p.c == 0) = true
      · rw [loop_zero_normaliser hp hc] at h; cases h
      obtain ⟨c, hm⟩ := pass_maxOf_some A ev lam p hp
      by_cases hs : Stops es done p
      · rw [loop_stop hp hc hs] at h
        rw [loop_stop hp hc ⟨hs.1, hs.2.1, lt_of_lt_of_le hs.2.2 hes⟩]
        exact Or.inl h
      · rw [loop_continue hp hc hs] at h
        by_cases hs' : Stops es' done p
        · have := loop_passes_bounds A es fuel (done + 1) p.nv p.next l v n h
          rw [loop_stop hp hc hs', hm]
          exact Or.inr ⟨_, _, _, rfl, by omega⟩
        · rw [loop_continue hp hc hs']
          exact ih (done + 1) p.nv p.next l v n h

section field
variable {K : Type} [Field K] [LinearOrder K] [IsStrictOrderedRing K] [Inhabited K]

/-- the same for `power_method` with any cap: a larger tolerance gives the identical `Ok` or an
`Ok` from a strictly earlier pass -/
theorem powerCap_tolerance_same_or_earlier (cap : Nat) (A : Mat K) (es es' : K) (hes : es ≤ es')
    (lam : K) (v : Mat K) (n : Nat) (h : powerCap cap A es = .ok (lam, v, n)) :
    powerCap cap A es' = .ok (lam, v, n) ∨
      ∃ lam' v' n', powerCap cap A es' = .ok (lam', v', n') ∧ n' < n := by
  rcases powerCap_cases A with ⟨o, _, ho⟩ | ⟨ev, lam0, hl⟩
  · rw [ho] at h
    rw [ho]
    exact Or.inl h
  · rw [hl] at h
    rw [hl]
    exact loop_tolerance_same_or_earlier A es es' hes cap 0 ev lam0 lam v n h

/-- **Tolerance monotonicity of `power_method`**: if the call returns `Ok` after `n` passes with
tolerance `es`, then with every larger tolerance `es' ≥ es` it returns `Ok` as well, after at most
`n` passes — for every matrix and every cap.  (So a larger tolerance never produces an error where
a smaller one succeeded.) -/
theorem powerCap_tolerance_monotone (cap : Nat) (A : Mat K) (es es' : K) (hes : es ≤ es')
    (lam : K) (v : Mat K) (n : Nat) (h : powerCap cap A es = .ok (lam, v, n)) :
    ∃ lam' v' n', powerCap cap A es' = .ok (lam', v', n') ∧ n' ≤ n := by
  rcases powerCap_tolerance_same_or_earlier cap A es es' hes lam v n h with h' | ⟨l, w, m, h', hm⟩
  · exact ⟨lam, v, n, h', Nat.le_refl n⟩
  · exact ⟨l, w, m, h', Nat.le_of_lt hm⟩

/-- the same for `power_method` itself -/
theorem power_tolerance_monotone (A : Mat K) (es es' : K) (hes : es ≤ es')
    (lam : K) (v : Mat K) (n : Nat) (h : power A es = .ok (lam, v, n)) :
    ∃ lam' v' n', power A es' = .ok (lam', v', n') ∧ n' ≤ n :=
  powerCap_tolerance_monotone _ A es es' hes lam v n h

/-- **The returned vector is normalised**: whenever the call returns `Ok (λ, v)`, the code's own
`v.max()` is `Some(1)` exactly (not merely "some entry is 1"): the largest entry is exactly 1. -/
theorem power_eigvec_normalised (cap : Nat) (A : Mat K) (es lam : K) (v : Mat K) (p : Nat)
    (hA : A.WF) (h : powerCap cap A es = .ok (lam, v, p)) : maxOf v = some 1 := by
  obtain ⟨_, _, x, w, cw, hL⟩ := SV.Props.C13.power_last_iterate cap A es lam v p hA h
  rw [hL.v_eq, divS_one w (hL.w_eq ▸ Mat.tab_WF _ _ _), hL.max_w]

end field

/-- a symmetric 2×2 matrix: hypotheses of `power_transpose_symmetric` hold and the call is `Ok` -/
example : (match powerCap 50 (⟨2, 2, #[2, 1, 1, 2]⟩ : Mat Rat).transpose (1 / 10) with
    | .ok (lam, _, p) => lam == 3 && p == 2 | _ => false) = true := by decide +kernel

/-- the hypotheses of `power_transpose_symmetric` are satisfiable: an instance of the theorem -/
example : power (⟨2, 2, #[2, 1, 1, 2]⟩ : Mat Rat).transpose (1 / 10)
    = power (⟨2, 2, #[2, 1, 1, 2]⟩ : Mat Rat) (1 / 10) :=
  power_transpose_symmetric _ _ (show (#[2, 1, 1, 2] : Array Rat).size = 2 * 2 from rfl) rfl (by
    intro i j hi hj
    have hi' : i < 2 := hi
    have hj' : j < 2 := hj
    obtain rfl | rfl : i = 0 ∨ i = 1 := by omega
    all_goals (obtain rfl | rfl : j = 0 ∨ j = 1 := by omega)
    all_goals decide +kernel)

/-- tolerance: `Ok` with tolerance `1/100` and with tolerance `100`, the latter not later.  (Both
return from pass 2 here: `A·1 = (2, 2)` is already an eigenvector, so this is not a witness of a
strictly earlier stop.) -/
example : (match powerCap 50 (⟨2, 2, #[2, 0, 1, 1]⟩ : Mat Rat) (1 / 100),
      powerCap 50 (⟨2, 2, #[2, 0, 1, 1]⟩ : Mat Rat) 100 with
    | .ok (_, _, p), .ok (_, _, p') => decide (p' ≤ p) && p' == 2 | _, _ => false) = true := by
  decide +kernel

/-- cap: the same `Ok` with cap 5 and cap 50; a huge tolerance still does not stop at pass 1 -/
example : (match powerCap 5 (⟨1, 1, #[2]⟩ : Mat Rat) 1000000,
      powerCap 50 (⟨1, 1, #[2]⟩ : Mat Rat) 1000000 with
    | .ok (l, v, p), .ok (l', v', p') =>
      l == l' && v.a == v'.a && p == p' && p == 2 && maxOf v == some 1
    | _, _ => false) = true := by
  decide +kernel

end SV.Props.C13Laws
