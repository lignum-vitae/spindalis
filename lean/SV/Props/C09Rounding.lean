import SV.Model.C09
import SV.Lemmas.Mat
import SV.Lemmas.LU
import SV.Lemmas.RoundingNearest
import SV.Lemmas.RoundingC09
import SV.Lemmas.RoundingC09Plu
import SV.Lemmas.RoundingC09Mult
import SV.Lemmas.RoundingC09Ex
/-!
# C09, rounding half — the LU and PLU factorisations in floating-point arithmetic

`SV.Props.C09.lu_correct` / `plu_correct` prove over every ordered field that the factors multiply
back to `A` resp. `P A` (rounding error 0).  Here **the same definitions** `SV.C09.lu`, `SV.C09.plu`
(the models of `lu_decomposition`, `lu_pivot_decomposition`, operation by operation in the order of
the source) are run at the rounding scalar `Fl M` of `SV.Lemmas.Rounding`, where every `+ − × ÷` is
the exact real operation followed by a rounding of relative error `≤ u`, and the classical
**backward-error theorem of Gaussian elimination** is proved (Higham, *Accuracy and Stability of
Numerical Algorithms*, 2nd ed., Thm 9.3, for the operation order of this code) — the clause
"`L U` equals `A` (resp. `P A`) to within the componentwise bound `n·eps·|L||U|`" of the statement:

    L U = A + ΔA   exactly (as real matrices),      |ΔA| ≤ γ_n · |L||U|   componentwise,

`γ_n = n u/(1 − n u)`, `n` the order of the matrix, `L`, `U` the **computed** factors; with partial
pivoting the same for `P A` (row `i` of `P A` is row `σ i` of `A`; row swaps commit no error), and
there even with `γ_{n−1}`.  The bound does not involve the condition number of `A`; its size relative
to `|A|` is governed by the growth of `|L||U|`, which is what pivoting keeps small.

Counting what the loops really do, entry `(r, c)`, `m = min r c`:
* `lu` (Doolittle, dot-product form): `total = 0.0; total += lower[r][j]*upper[j][c]` (`j < m`) —
  the term `j` takes one multiplication and the additions from its own on, the model charging
  `0.0 + …` one rounding too (it assumes nothing about `rnd` but its relative accuracy):
  `m − j + 1 ≤ m + 1` roundings; then `A[r][c] − total` (one rounding) and, below the diagonal, the
  division by the pivot (one more): these are carried by the last term `l_rm·u_mc`.  All counts are
  `≤ n` (`lu_weights_upper`, `lu_weights_lower` are the fine forms).
* `plu` (in-place elimination, `kij` order): the entry is updated `m` times by
  `lu[r][c] -= lu[r][i]*lu[i][c]` and, below the diagonal, divided by the pivot: the term `i`
  carries `i + 1` roundings, the last term `m` resp. `m + 1`: all counts are `≤ n − 1`.

The pivot tests `|pivot| < eps` are comparisons of stored values and are exact; `f64::abs` of a
negative value is modelled as a negation, which the model charges one rounding, so a successful run
certifies `eps ≤ |pivot|·(1 + u)` (`eps ≤ |pivot|` in IEEE, where negation is exact) — in particular
every divisor is non-zero as soon as `eps > 0`.

The multiplier bound of partial pivoting survives in the form `|l_ij| ≤ (1+u)²/(1−u)`
(`plu_multipliers`; `= 1` for `u = 0`): the pivot search compares `f64::abs` values, and the model
charges the negation inside `abs` one rounding (in IEEE negation is exact and rounding monotone, so
there `|l_ij| ≤ 1` exactly; the model does not know that).  It plays no role in the backward error.

NOT covered: overflow, underflow (a subnormal product or quotient loses relative accuracy), NaN/∞,
the decimal→binary conversion of the inputs — see the header of `SV.Lemmas.Rounding`; no bound on
`|L||U|` in terms of `|A|` (the growth factor) is proved.
-/
namespace SV.Props.C09Rounding
open SV SV.C09 Finset

variable {M : FlModel}

/-- the models elaborate at the rounding scalar with no change -/
noncomputable example (eps : Fl M) (A : Mat (Fl M)) :
    Outcome DecompErr (Mat (Fl M) × Mat (Fl M)) := lu eps A
noncomputable example (eps : Fl M) (A : Mat (Fl M)) :
    Outcome DecompErr (Mat (Fl M) × Mat (Fl M) × Mat (Fl M)) := plu eps A

/-! The vocabulary of `SV.Props.C09`, which declares it over a field, once more at the rounding
scalar. -/

def Square (n : ℕ) (X : Mat (Fl M)) : Prop := X.h = n ∧ X.w = n ∧ X.WF

/-- unit lower triangular: the stored diagonal is the constant `1`, the stored upper part `0` -/
def UnitLower (n : ℕ) (L : Mat (Fl M)) : Prop :=
  (∀ i, i < n → L.get i i = 1) ∧ ∀ i j, i < n → j < n → i < j → L.get i j = 0

/-- upper triangular: the stored lower part is the constant `0` -/
def Upper (n : ℕ) (U : Mat (Fl M)) : Prop := ∀ i j, i < n → j < n → j < i → U.get i j = 0

/-- `P` is the permutation matrix of `σ`: row `i` is the unit vector `e_{σ i}` -/
def IsPermMatrix (n : ℕ) (P : Mat (Fl M)) (σ : Equiv.Perm (Fin n)) : Prop :=
  ∀ i j : Fin n, P.get i j = if j = σ i then 1 else 0

/-- `(|L||U|)_ij` -/
noncomputable def absProd (n : ℕ) (L U : Mat (Fl M)) (i j : ℕ) : ℝ :=
  ∑ k ∈ range n, |(L.get i k).val| * |(U.get k j).val|

/-- `(L U)_ij`, the exact product of the computed factors -/
noncomputable def prod (n : ℕ) (L U : Mat (Fl M)) (i j : ℕ) : ℝ :=
  ∑ k ∈ range n, (L.get i k).val * (U.get k j).val


/-- **Shape of the computed factors** (no hypothesis on `eps` or `u`).  Whenever `lu` returns
`(L, U)` at `Fl M`: the input was square, both factors are `n × n`, `L` is unit lower triangular and
`U` upper triangular *exactly* (the ones and zeros are stored constants), and every pivot that later
rows were divided by passed the guard: `eps ≤ |u_ii|·(1 + u)`. -/
theorem lu_shape {eps : Fl M} {A L U : Mat (Fl M)} (h : lu eps A = .ok (L, U)) :
    A.h = A.w ∧ Square A.h L ∧ Square A.h U ∧ UnitLower A.h L ∧ Upper A.h U ∧
    (∀ i, i + 1 < A.h → eps.val ≤ |(U.get i i).val| * (1 + M.u)) := by
  obtain ⟨hsq, inv⟩ := lu_ok_ent h
  refine ⟨hsq, inv.dims.1, inv.dims.2, ⟨?_, ?_⟩, ?_, ?_⟩
  · intro i hi; exact inv.Ld i hi hi
  · intro i j hi hj hij; exact inv.Lz i j hi hj (Or.inr hij)
  · intro i j hi hj hji; exact inv.Uz i j hi hj (Or.inr hji)
  · intro i hi; exact le_of_not_sabs_lt (inv.guard i (by omega) hi)

theorem lu_divisors_ne_zero {eps : Fl M} (heps : 0 < eps.val) {A L U : Mat (Fl M)}
    (h : lu eps A = .ok (L, U)) : ∀ i, i + 1 < A.h → (U.get i i).val ≠ 0 := by
  obtain ⟨_, inv⟩ := lu_ok_ent h
  intro i hi
  exact ne_zero_of_not_sabs_lt heps (inv.guard i (by omega) hi)

/-- **Weights form, upper triangle (Higham (9.4)).**  For `r ≤ c`:
`a_rc = Σ_{j ≤ r} l_rj·u_jc·t_j` **exactly**, where `t_r` (the term `l_rr·u_rc = u_rc`) is one
rounding factor and `t_j` (`j < r`) a product of `r − j + 1`. -/
theorem lu_weights_upper {eps : Fl M} {A L U : Mat (Fl M)} (h : lu eps A = .ok (L, U))
    {r c : ℕ} (hrc : r ≤ c) (hc : c < A.h) :
    ∃ t : ℕ → ℝ, M.Fac 1 (t r) ∧ (∀ j, j < r → M.Fac (r - j + 1) (t j)) ∧
      (A.get r c).val = ∑ j ∈ range (r + 1), (L.get r j).val * (U.get j c).val * t j :=
  luU_weights (lu_ok_ent h).2 hrc hc

/-- **Weights form, below the diagonal (Higham (9.5)).**  For `c < r`:
`a_rc = Σ_{j ≤ c} l_rj·u_jc·t_j` **exactly**, where `t_c` (the term of the pivot `l_rc·u_cc`) is a
product of two rounding factors and `t_j` (`j < c`) of `c − j + 1`. -/
theorem lu_weights_lower {eps : Fl M} (heps : 0 < eps.val) {A L U : Mat (Fl M)}
    (h : lu eps A = .ok (L, U)) {r c : ℕ} (hcr : c < r) (hr : r < A.h) :
    ∃ t : ℕ → ℝ, M.Fac 2 (t c) ∧ (∀ j, j < c → M.Fac (c - j + 1) (t j)) ∧
      (A.get r c).val = ∑ j ∈ range (c + 1), (L.get r j).val * (U.get j c).val * t j :=
  luL_weights heps (lu_ok_ent h).2 hcr hr

/-- triangular factors: the products `l_ik·u_kj` vanish beyond `k = min i j`, so a weighted identity
over `k ≤ min i j` bounds the residual of the whole row-by-column product -/
theorem residual_of_triangular {n m : ℕ} {L U : Mat (Fl M)} (hL : UnitLower n L) (hU : Upper n U)
    {i j : ℕ} (hi : i < n) (hj : j < n) (a : ℝ) (t : ℕ → ℝ)
    (ht : ∀ k ∈ range (min i j + 1), M.Fac m (t k)) (hm : m * M.u < 1)
    (ha : a = ∑ k ∈ range (min i j + 1), (L.get i k).val * (U.get k j).val * t k) :
    |a - ∑ k ∈ range n, (L.get i k).val * (U.get k j).val|
      ≤ M.gamma m * ∑ k ∈ range n, |(L.get i k).val| * |(U.get k j).val| := by
  refine residual_of_weights_subset (Finset.range_mono (by omega)) m (fun k => (L.get i k).val)
    (fun k => (U.get k j).val) t a (fun k hk hks => ?_) ht hm ha
  rw [mem_range] at hk hks
  rcases Nat.lt_or_ge i k with hik | hki
  · exact Or.inl (by rw [hL.2 i k hi hk hik]; rfl)
  · exact Or.inr (by rw [hU k j hk hj (by omega)]; rfl)

/-- **Weights form, every entry**: `a_ij = Σ_{k ≤ min i j} l_ik·u_kj·t_k` exactly, every `t_k` an
accumulated factor of at most `n` roundings. -/
theorem lu_weights {eps : Fl M} (heps : 0 < eps.val) {A L U : Mat (Fl M)}
    (h : lu eps A = .ok (L, U)) {i j : ℕ} (hi : i < A.h) (hj : j < A.h) :
    ∃ t : ℕ → ℝ, (∀ k ∈ range (min i j + 1), M.Fac A.h (t k)) ∧
      (A.get i j).val = ∑ k ∈ range (min i j + 1), (L.get i k).val * (U.get k j).val * t k := by
  rcases le_or_gt i j with hij | hji
  · obtain ⟨t, h1, h2, h3⟩ := lu_weights_upper h hij hj
    rw [min_eq_left hij]
    refine ⟨t, fun k hk => ?_, h3⟩
    rcases Nat.lt_succ_iff_lt_or_eq.mp (mem_range.1 hk) with hki | rfl
    · exact (h2 k hki).mono (by omega)
    · exact h1.mono (by omega)
  · obtain ⟨t, h1, h2, h3⟩ := lu_weights_lower heps h hji hi
    rw [min_eq_right hji.le]
    refine ⟨t, fun k hk => ?_, h3⟩
    rcases Nat.lt_succ_iff_lt_or_eq.mp (mem_range.1 hk) with hkj | rfl
    · exact (h2 k hkj).mono (by omega)
    · exact h1.mono (by omega)

/-- **Backward error of the LU factorisation (Higham, Thm 9.3).**  `eps > 0`, `n·u < 1`.  Whenever
`lu` returns `(L, U)` for an `n × n` matrix, for all `i, j < n`

    |a_ij − Σ_k l_ik·u_kj| ≤ γ_n · Σ_k |l_ik|·|u_kj|,

the sums being exact real sums over the computed factors. -/
theorem lu_backward {eps : Fl M} (heps : 0 < eps.val) {A L U : Mat (Fl M)}
    (h : lu eps A = .ok (L, U)) (hu : (A.h : ℝ) * M.u < 1) :
    ∀ i j, i < A.h → j < A.h →
      |(A.get i j).val - ∑ k ∈ range A.h, (L.get i k).val * (U.get k j).val|
        ≤ M.gamma A.h * ∑ k ∈ range A.h, |(L.get i k).val| * |(U.get k j).val| := by
  intro i j hi hj
  obtain ⟨t, ht, ha⟩ := lu_weights heps h hi hj
  obtain ⟨_, _, _, hL, hU, _⟩ := lu_shape h
  exact residual_of_triangular hL hU hi hj _ t ht hu ha

/-- **The same as a perturbation of the input**: there is `ΔA` with `L U = A + ΔA` exactly and
`|ΔA| ≤ γ_n·|L||U|` componentwise. -/
theorem lu_backward_delta {eps : Fl M} (heps : 0 < eps.val) {A L U : Mat (Fl M)}
    (h : lu eps A = .ok (L, U)) (hu : (A.h : ℝ) * M.u < 1) :
    ∃ ΔA : ℕ → ℕ → ℝ,
      (∀ i j, i < A.h → j < A.h →
        ∑ k ∈ range A.h, (L.get i k).val * (U.get k j).val = (A.get i j).val + ΔA i j) ∧
      (∀ i j, i < A.h → j < A.h →
        |ΔA i j| ≤ M.gamma A.h * ∑ k ∈ range A.h, |(L.get i k).val| * |(U.get k j).val|) := by
  refine ⟨fun i j => ∑ k ∈ range A.h, (L.get i k).val * (U.get k j).val - (A.get i j).val,
    fun i j _ _ => by ring, fun i j hi hj => ?_⟩
  rw [abs_sub_comm]
  exact lu_backward heps h hu i j hi hj

/-- **Plain LU in floating point, the theorem of the statement**: shape of the factors and
`L U = A` to within `γ_n·|L||U|`. -/
theorem lu_correct_rounding {eps : Fl M} (heps : 0 < eps.val) {A L U : Mat (Fl M)}
    (h : lu eps A = .ok (L, U)) (hu : (A.h : ℝ) * M.u < 1) :
    A.h = A.w ∧ Square A.h L ∧ Square A.h U ∧ UnitLower A.h L ∧ Upper A.h U ∧
    (∀ i j, i < A.h → j < A.h →
      |(A.get i j).val - prod A.h L U i j| ≤ M.gamma A.h * absProd A.h L U i j) ∧
    (∀ i, i + 1 < A.h → eps.val ≤ |(U.get i i).val| * (1 + M.u)) := by
  obtain ⟨h1, h2, h3, h4, h5, h6⟩ := lu_shape h
  exact ⟨h1, h2, h3, h4, h5, lu_backward heps h hu, h6⟩


theorem isPermMatrix_of_ent {n i : ℕ} {A lu P : Mat (Fl M)} {eps : Fl M} {σ : Equiv.Perm ℕ}
    (inv : PluEnt n A eps i (lu, P) σ) : IsPermMatrix n P (permFin σ n inv.fix) := by
  intro i j
  rw [inv.perm i.val j.val i.isLt j.isLt]
  exact if_congr (by rw [Fin.ext_iff, permFin_val]) rfl rfl

/-- **Shape of the computed factors and the permutation.**  Whenever `plu` returns `(L, U, P)` at
`Fl M` (`eps > 0`): the input was square, the three results are `n × n`, `P` is the permutation matrix
of some `σ` and `P A` is `A` with its rows permuted by `σ` *exactly* (`(P A)_ij = a_{σ i, j}` as a real
sum: row swaps commit no error), `L` is unit lower triangular, `U` upper triangular, and every pivot
passed the guard. -/
theorem plu_shape {eps : Fl M} (heps : 0 < eps.val) {A L U P : Mat (Fl M)}
    (h : plu eps A = .ok (L, U, P)) :
    A.h = A.w ∧ Square A.h L ∧ Square A.h U ∧ Square A.h P ∧
    ∃ σ : Equiv.Perm (Fin A.h), IsPermMatrix A.h P σ ∧
      (∀ i j : Fin A.h,
        ∑ k ∈ range A.h, (P.get i k).val * (A.get k j).val = (A.get (σ i) j).val) ∧
      UnitLower A.h L ∧ Upper A.h U ∧
      (∀ i, i < A.h → eps.val ≤ |(U.get i i).val| * (1 + M.u)) := by
  obtain ⟨hsq, lu, σ, inv, rfl, rfl⟩ := plu_ok_ent h
  refine ⟨hsq, ⟨rfl, rfl, Mat.tab_WF _ _ _⟩, ⟨rfl, rfl, Mat.tab_WF _ _ _⟩,
    ⟨inv.ph, inv.pw, inv.pwf⟩, permFin σ A.h inv.fix, isPermMatrix_of_ent inv, ?_, ⟨?_, ?_⟩, ?_, ?_⟩
  · intro i j
    rw [Finset.sum_eq_single (σ i.val)]
    · rw [inv.perm i.val (σ i.val) i.isLt (perm_lt inv.fix i.isLt), if_pos rfl, Fl.one_val,
        one_mul]
      rfl
    · intro k hk hne
      rw [inv.perm i.val k i.isLt (mem_range.1 hk), if_neg hne, Fl.zero_val, zero_mul]
    · intro hn
      exact absurd (mem_range.2 (perm_lt inv.fix i.isLt)) hn
  · intro i hi
    rw [splitL_get _ _ hi hi, if_pos rfl]
  · intro i j hi hj hij
    rw [splitL_get _ _ hi hj, if_neg (by omega), if_neg (by omega)]
  · intro i j hi hj hji
    rw [splitU_get _ _ hi hj, if_neg (by omega)]
  · intro i hi
    rw [splitU_get _ _ hi hi, if_pos (le_refl i)]
    exact le_of_not_sabs_lt (inv.piv i hi)

theorem isPermMatrix_unique {n : ℕ} {P : Mat (Fl M)} {σ σ' : Equiv.Perm (Fin n)}
    (h : IsPermMatrix n P σ) (h' : IsPermMatrix n P σ') : σ = σ' := by
  ext i
  have h1 := h i (σ i)
  have h2 := h' i (σ i)
  rw [if_pos rfl] at h1
  rw [h1] at h2
  by_cases he : σ i = σ' i
  · rw [he]
  · rw [if_neg he] at h2
    have := congrArg Fl.val h2
    simp at this

/-- **Weights form, every entry of `P A`.**  With `σ` the permutation `P` denotes and `m = min i j`:
`a_{σ i, j} = Σ_{k ≤ m} l_ik·u_kj·t_k` exactly, every `t_k` an accumulated factor of at most `n − 1`
roundings (`k + 1` for the term `k < m`, `m` resp. `m + 1` for the last one). -/
theorem plu_weights {eps : Fl M} (heps : 0 < eps.val) {A L U P : Mat (Fl M)}
    (h : plu eps A = .ok (L, U, P)) (σ : Equiv.Perm (Fin A.h)) (hσ : IsPermMatrix A.h P σ)
    (i j : Fin A.h) :
    ∃ t : ℕ → ℝ, (∀ k ∈ range (min i.val j.val + 1), M.Fac (A.h - 1) (t k)) ∧
      (A.get (σ i) j).val
        = ∑ k ∈ range (min i.val j.val + 1), (L.get i k).val * (U.get k j).val * t k := by
  obtain ⟨_, lu, τ, inv, rfl, rfl⟩ := plu_ok_ent h
  rw [isPermMatrix_unique hσ (isPermMatrix_of_ent inv)]
  exact plu_entry_weights heps inv i.isLt j.isLt

/-- **Backward error of the PLU factorisation (Higham, Thm 9.3 with row interchanges), sharp
constant.**  `eps > 0`, `(n−1)·u < 1`.  Whenever `plu` returns `(L, U, P)` for an `n × n` matrix and
`σ` is the permutation `P` denotes, for all `i, j`

    |a_{σ i, j} − Σ_k l_ik·u_kj| ≤ γ_{n−1} · Σ_k |l_ik|·|u_kj|. -/
theorem plu_backward_sharp {eps : Fl M} (heps : 0 < eps.val) {A L U P : Mat (Fl M)}
    (h : plu eps A = .ok (L, U, P)) (hu : ((A.h - 1 : ℕ) : ℝ) * M.u < 1)
    (σ : Equiv.Perm (Fin A.h)) (hσ : IsPermMatrix A.h P σ) (i j : Fin A.h) :
    |(A.get (σ i) j).val - ∑ k ∈ range A.h, (L.get i k).val * (U.get k j).val|
      ≤ M.gamma (A.h - 1) * ∑ k ∈ range A.h, |(L.get i k).val| * |(U.get k j).val| := by
  obtain ⟨t, ht, ha⟩ := plu_weights heps h σ hσ i j
  obtain ⟨_, _, _, _, _, _, _, hL, hU, _⟩ := plu_shape heps h
  exact residual_of_triangular hL hU i.isLt j.isLt _ t ht hu ha

/-- **Backward error of the PLU factorisation**, with the constant `γ_n` of the statement:
`|a_{σ i, j} − Σ_k l_ik·u_kj| ≤ γ_n · Σ_k |l_ik|·|u_kj|`. -/
theorem plu_backward {eps : Fl M} (heps : 0 < eps.val) {A L U P : Mat (Fl M)}
    (h : plu eps A = .ok (L, U, P)) (hu : (A.h : ℝ) * M.u < 1)
    (σ : Equiv.Perm (Fin A.h)) (hσ : IsPermMatrix A.h P σ) (i j : Fin A.h) :
    |(A.get (σ i) j).val - ∑ k ∈ range A.h, (L.get i k).val * (U.get k j).val|
      ≤ M.gamma A.h * ∑ k ∈ range A.h, |(L.get i k).val| * |(U.get k j).val| := by
  have hu' := M.hyp_mono (Nat.sub_le A.h 1) hu
  refine (plu_backward_sharp heps h hu' σ hσ i j).trans
    (mul_le_mul_of_nonneg_right (M.gamma_mono (Nat.sub_le A.h 1) hu) ?_)
  exact Finset.sum_nonneg fun _ _ => mul_nonneg (abs_nonneg _) (abs_nonneg _)

/-- **The same against the exact product `P A`** (no permutation in the statement):
`|Σ_k p_ik·a_kj − Σ_k l_ik·u_kj| ≤ γ_n · Σ_k |l_ik|·|u_kj|` for all `i, j < n`. -/
theorem plu_backward_PA {eps : Fl M} (heps : 0 < eps.val) {A L U P : Mat (Fl M)}
    (h : plu eps A = .ok (L, U, P)) (hu : (A.h : ℝ) * M.u < 1) :
    ∀ i j, i < A.h → j < A.h →
      |∑ k ∈ range A.h, (P.get i k).val * (A.get k j).val
          - ∑ k ∈ range A.h, (L.get i k).val * (U.get k j).val|
        ≤ M.gamma A.h * ∑ k ∈ range A.h, |(L.get i k).val| * |(U.get k j).val| := by
  obtain ⟨_, _, _, _, σ, hσ, hPA, _⟩ := plu_shape heps h
  intro i j hi hj
  have := plu_backward heps h hu σ hσ ⟨i, hi⟩ ⟨j, hj⟩
  rw [← hPA ⟨i, hi⟩ ⟨j, hj⟩] at this
  exact this

/-- **As a perturbation of the input**: there is `ΔA` with `L U = P A + ΔA` exactly and
`|ΔA| ≤ γ_n·|L||U|` componentwise. -/
theorem plu_backward_delta {eps : Fl M} (heps : 0 < eps.val) {A L U P : Mat (Fl M)}
    (h : plu eps A = .ok (L, U, P)) (hu : (A.h : ℝ) * M.u < 1) :
    ∃ ΔA : ℕ → ℕ → ℝ,
      (∀ i j, i < A.h → j < A.h →
        ∑ k ∈ range A.h, (L.get i k).val * (U.get k j).val
          = ∑ k ∈ range A.h, (P.get i k).val * (A.get k j).val + ΔA i j) ∧
      (∀ i j, i < A.h → j < A.h →
        |ΔA i j| ≤ M.gamma A.h * ∑ k ∈ range A.h, |(L.get i k).val| * |(U.get k j).val|) := by
  refine ⟨fun i j => ∑ k ∈ range A.h, (L.get i k).val * (U.get k j).val
      - ∑ k ∈ range A.h, (P.get i k).val * (A.get k j).val,
    fun i j _ _ => by ring, fun i j hi hj => ?_⟩
  rw [abs_sub_comm]
  exact plu_backward_PA heps h hu i j hi hj

/-- **PLU in floating point, the theorem of the statement**: shape of the factors, `P` a permutation
matrix, and `L U = P A` to within `γ_n·|L||U|` (row `i` of `P A` is row `σ i` of `A`). -/
theorem plu_correct_rounding {eps : Fl M} (heps : 0 < eps.val) {A L U P : Mat (Fl M)}
    (h : plu eps A = .ok (L, U, P)) (hu : (A.h : ℝ) * M.u < 1) :
    A.h = A.w ∧ Square A.h L ∧ Square A.h U ∧ Square A.h P ∧
    ∃ σ : Equiv.Perm (Fin A.h), IsPermMatrix A.h P σ ∧
      (∀ i j : Fin A.h,
        ∑ k ∈ range A.h, (P.get i k).val * (A.get k j).val = (A.get (σ i) j).val) ∧
      UnitLower A.h L ∧ Upper A.h U ∧
      (∀ i j : Fin A.h,
        |(A.get (σ i) j).val - prod A.h L U i j| ≤ M.gamma A.h * absProd A.h L U i j) ∧
      (∀ i, i < A.h → eps.val ≤ |(U.get i i).val| * (1 + M.u)) := by
  obtain ⟨h1, h2, h3, h4, σ, h5, h6, h7, h8, h9⟩ := plu_shape heps h
  exact ⟨h1, h2, h3, h4, σ, h5, h6, h7, h8, fun i j => plu_backward heps h hu σ h5 i j, h9⟩

/-- **Multipliers.**  With partial pivoting every multiplier of the computed `L` satisfies
`|l_ij| ≤ (1+u)²/(1−u)` (`SV.C09.multBound`; the field theorem's `|l_ij| ≤ 1` up to the roundings of the
`abs` inside the pivot search and of the division). -/
theorem plu_multipliers {eps : Fl M} (heps : 0 < eps.val) {A L U P : Mat (Fl M)}
    (h : plu eps A = .ok (L, U, P)) :
    ∀ i j, i < A.h → j < i → |(L.get i j).val| ≤ (1 + M.u) ^ 2 / (1 - M.u) := by
  obtain ⟨lu, hm, rfl⟩ := plu_ok_mult heps h
  intro i j hi hji
  rw [splitL_get _ _ hi (by omega), if_neg (by omega), if_pos hji]
  exact hm i j hi (by omega)


/-- With exact arithmetic (`u = 0`) the bound collapses to the reconstruction identity of
`SV.Props.C09.lu_correct`: `L U = A`. -/
theorem lu_backward_ideal {eps : Fl FlModel.ideal} (heps : 0 < eps.val)
    {A L U : Mat (Fl FlModel.ideal)} (h : lu eps A = .ok (L, U)) :
    ∀ i j, i < A.h → j < A.h →
      ∑ k ∈ range A.h, (L.get i k).val * (U.get k j).val = (A.get i j).val :=
  fun i j hi hj => FlModel.eq_of_ideal_bound fun hu => lu_backward heps h hu i j hi hj

/-- … and to that of `SV.Props.C09.plu_correct`: `L U = P A`. -/
theorem plu_backward_ideal {eps : Fl FlModel.ideal} (heps : 0 < eps.val)
    {A L U P : Mat (Fl FlModel.ideal)} (h : plu eps A = .ok (L, U, P)) :
    ∀ i j, i < A.h → j < A.h →
      ∑ k ∈ range A.h, (L.get i k).val * (U.get k j).val
        = ∑ k ∈ range A.h, (P.get i k).val * (A.get k j).val :=
  fun i j hi hj => FlModel.eq_of_ideal_bound fun hu => plu_backward_PA heps h hu i j hi hj

/-- with exact arithmetic the multiplier bound is the field theorem's `|l_ij| ≤ 1` -/
theorem plu_multipliers_ideal {eps : Fl FlModel.ideal} (heps : 0 < eps.val)
    {A L U P : Mat (Fl FlModel.ideal)} (h : plu eps A = .ok (L, U, P)) :
    ∀ i j, i < A.h → j < i → |(L.get i j).val| ≤ 1 := by
  intro i j hi hji
  have := plu_multipliers heps h i j hi hji
  simpa [FlModel.ideal] using this

/-- **binary64, numerically.**  For round-to-nearest with a 53-bit significand
(`FlModel.binary64`, no exponent limits) and `n ≤ 2⁵²` the hypothesis on `u` is automatic and
`|a_ij − (L U)_ij| ≤ n·2⁻⁵² · (|L||U|)_ij` — the `n·eps·|L||U|` of the statement, `eps = 2⁻⁵²`. -/
theorem lu_backward_binary64 {eps : Fl FlModel.binary64} (heps : 0 < eps.val)
    {A L U : Mat (Fl FlModel.binary64)} (h : lu eps A = .ok (L, U)) (hn : A.h ≤ 2 ^ 52) :
    ∀ i j, i < A.h → j < A.h →
      |(A.get i j).val - ∑ k ∈ range A.h, (L.get i k).val * (U.get k j).val|
        ≤ (A.h : ℝ) * (2⁻¹ : ℝ) ^ 52
          * ∑ k ∈ range A.h, |(L.get i k).val| * |(U.get k j).val| :=
  fun i j hi hj => FlModel.abs_le_binary64 hn
    fun hu => lu_backward heps h hu i j hi hj

theorem plu_backward_binary64 {eps : Fl FlModel.binary64} (heps : 0 < eps.val)
    {A L U P : Mat (Fl FlModel.binary64)} (h : plu eps A = .ok (L, U, P)) (hn : A.h ≤ 2 ^ 52) :
    ∀ i j, i < A.h → j < A.h →
      |∑ k ∈ range A.h, (P.get i k).val * (A.get k j).val
          - ∑ k ∈ range A.h, (L.get i k).val * (U.get k j).val|
        ≤ (A.h : ℝ) * (2⁻¹ : ℝ) ^ 52
          * ∑ k ∈ range A.h, |(L.get i k).val| * |(U.get k j).val| :=
  fun i j hi hj => FlModel.abs_le_binary64 hn
    fun hu => plu_backward_PA heps h hu i j hi hj

/-! ## non-vacuity

The hypotheses are satisfiable in a model with `u > 0` whose rounding is not the identity
(`rnd t = t·(1 + 1/16)`, `u = 1/8`, `2·u < 1`), and there the computed product really differs from the
input, so the bounds above are not `0 ≤ 0` (the runs are evaluated in `SV.Lemmas.RoundingC09Ex`). -/

/-- `lu` on `[[1, 1], [1, 2]]`, `eps = 1/4`: `(L U)₁₁ = r² + (2 − r⁴)·r ≠ 2`, `r = 17/16` -/
example : ∃ (M : FlModel) (eps : Fl M) (A L U : Mat (Fl M)), 0 < M.u ∧ 0 < eps.val ∧
    lu eps A = .ok (L, U) ∧ (A.h : ℝ) * M.u < 1 ∧
    ∑ k ∈ range A.h, (L.get 1 k).val * (U.get k 1).val ≠ (A.get 1 1).val := by
  obtain ⟨L, U, h⟩ := Ex.lu_ex_ok
  exact ⟨Ex.M8, Ex.epsx, Ex.Aex, L, U, Ex.M8_pos, Ex.epsx_pos, h, Ex.M8_hyp (by decide),
    Ex.lu_ex_differs h⟩

/-- `plu` on `[[1, 1], [2, 1]]`, `eps = 1/4`: the pivot search swaps the rows and
`(L U)₁₀ = (r/2)·2 = r ≠ 1 = (P A)₁₀` -/
example : ∃ (M : FlModel) (eps : Fl M) (A L U P : Mat (Fl M)), 0 < M.u ∧ 0 < eps.val ∧
    plu eps A = .ok (L, U, P) ∧ (A.h : ℝ) * M.u < 1 ∧ (P.get 0 0).val = 0 ∧
    ∑ k ∈ range A.h, (L.get 1 k).val * (U.get k 0).val
      ≠ ∑ k ∈ range A.h, (P.get 1 k).val * (A.get k 0).val := by
  refine ⟨Ex.M8, Ex.epsx, Ex.Bex, _, _, _, Ex.M8_pos, Ex.epsx_pos, Ex.plu_ex_ok,
    Ex.M8_hyp (by decide), ?_, Ex.plu_ex_differs⟩
  rw [Ex.Pfin, Mat.get_swapRows _ 1 0 (show _ < 2 by decide) (show _ < 2 by decide)]
  simp [Mat.get_ident]

/-- the hypothesis `lu eps A = .ok _` of `lu_backward_ideal` / `lu_backward_binary64` is satisfiable
too, if only by the 1×1 matrix `[1]`, which is factored in every model (`n = 1`: no guard, no
division) -/
example (M : FlModel) : ∃ L U, lu (⟨1⟩ : Fl M) ⟨1, 1, #[1]⟩ = .ok (L, U) := by
  refine Exists.intro ?_ (Exists.intro ?_ ?_)
  pick_goal 3
  unfold lu
  rw [if_neg (not_not.mpr rfl)]
  simp only [iter, luStep]
  rw [if_neg (fun h => absurd h.1 (by decide))]

end SV.Props.C09Rounding
