import SV.Props.C13
import SV.Lemmas.C13AccSeq
import SV.Lemmas.C13AccSpec
import SV.Lemmas.C13AccLoop
import Mathlib.Tactic.FinCases
import Mathlib.Tactic.IntervalCases
import Mathlib.Data.Fin.VecNotation
import Mathlib.Algebra.BigOperators.Fin
/-!
# C13 — the accuracy clause of the power method, proved (exact real arithmetic)

`SV.Props.C13.PowerAccuracy` (stated in `SV.Props.C13` as a `def … : Prop`) is proved here over `ℝ`, about the same generic `SV.C13.power`/`powerCap`/`loop`
the driver runs at `Float`:

* `powerCap_accuracy_sharp` — for **every cap `≥ 24`** and **every tolerance `≥ 1e-12`** (no upper
  bound on the tolerance is needed) the call returns `Ok (λ, v)` after `2 ≤ p ≤ 24` passes with
  `|λ − d₁| ≤ 1·tol·|d₁|`, `‖Av − λv‖² ≤ 6·tol·λ²‖v‖²` (so `‖Av − λv‖ ≤ 2.45·√tol·|λ|‖v‖`), and `λ`
  has the sign of `d₁` with `|d₁|/4 ≤ |λ| ≤ |d₁|`.
* `power_accuracy_sharp` — the same for `power = powerCap SV.Gen.powerMethodCap` (the cap the source
  declares is re-read on every run; the only fact used is `24 ≤ cap`, by `decide`).
* `power_accuracy : PowerAccuracy` — the clause as stated (constants `8` and `8²`).

Proof (helper layers `SV.Lemmas.C13AccSeq/Spec/Loop`): every iterate of the loop is a non-zero
multiple of `Aᵏ·1`, whose spectral coefficients are `c_a d_aᵏ`; its Rayleigh quotient is
`d₁·rho k` with `1 − rho k = eps k ≥ 0`, `eps (k+1) ≤ eps k / 2` for `k ≥ 2` and
`eps k ≤ 24 / 4ᵏ`.  The first stopping-capable pass compares `rho 3` with `rho 2`; a passed test
`|(rho (k+1) − rho k)/rho (k+1)| < tol` gives `eps (k+1) ≤ eps k − eps (k+1) < tol·rho (k+1)`, and
the test must pass at `k = 24` at the latest.  The residual follows from
`rayleigh_residual_identity` and `Σ p_a (1 − r_a)² ≤ (3/2) Σ p_a (1 − r_a)`.

This is a statement about the exact-arithmetic model; rounding is not covered (the `Float` instance
is compared with the Rust code bit for bit by the check, and the oracle of the check measures the
same two quantities on the `f64` results with the constant 8).
-/
namespace SV.Props.C13Accuracy
open SV SV.C11 SV.C13 SV.C13.Acc SV.Props.C13 Finset Matrix

/-- **Accuracy, sharp form, any cap `≥ 24`.**  Hypotheses exactly those of `PowerAccuracy` except
that the tolerance is only bounded below. -/
theorem powerCap_accuracy_sharp (cap : Nat) (hcap : 24 ≤ cap) (n : Nat) (A : Mat ℝ) (tol : ℝ)
    (hn : 0 < n) (hAh : A.h = n) (hAw : A.w = n) (hAwf : A.WF)
    (hsymA : ∀ i j, i < n → j < n → A.get i j = A.get j i)
    (q : Fin n → Fin n → ℝ) (d : Fin n → ℝ) (i₁ : Fin n)
    (hq : ∀ a b, ∑ i, q a i * q b i = if a = b then 1 else 0)
    (heigA : ∀ a (i : Fin n), ∑ j : Fin n, A.get i j * q a j = d a * q a i)
    (hD : d i₁ ≠ 0) (hgap : ∀ a, a ≠ i₁ → |d a| ≤ |d i₁| / 2)
    (hstart : (3 / 10 : ℝ) ^ 2 * n ≤ (∑ i, q i₁ i) ^ 2)
    (htol : (1 / 10 ^ 12 : ℝ) ≤ tol) :
    ∃ lam v p, powerCap cap A tol = .ok (lam, v, p) ∧ 2 ≤ p ∧ p ≤ 24 ∧
      (∑ i ∈ range n, ((∑ k ∈ range n, A.get i k * v.get k 0) - lam * v.get i 0) ^ 2)
        ≤ 6 * tol * lam ^ 2 * (∑ i ∈ range n, v.get i 0 ^ 2) ∧
      |lam - d i₁| ≤ tol * |d i₁| ∧
      0 < lam / d i₁ ∧ |d i₁| / 4 ≤ |lam| ∧ |lam| ≤ |d i₁| := by
  refine powerCap_accuracy A ⟨hAh, hAw, hAwf⟩ (fun i j => hsymA i j i.isLt j.isLt) heigA
    ⟨hq, hD, hgap, hstart, hn⟩ cap tol 24 (by norm_num) hcap (lt_of_lt_of_le ?_ htol)
  norm_num

/-- the cap the source declares is large enough (re-read from the source on every run) -/
theorem powerMethodCap_ge : 24 ≤ SV.Gen.powerMethodCap := by decide

/-- **Accuracy, sharp form, for `power_method` itself** -/
theorem power_accuracy_sharp (n : Nat) (A : Mat ℝ) (tol : ℝ)
    (hn : 0 < n) (hAh : A.h = n) (hAw : A.w = n) (hAwf : A.WF)
    (hsymA : ∀ i j, i < n → j < n → A.get i j = A.get j i)
    (q : Fin n → Fin n → ℝ) (d : Fin n → ℝ) (i₁ : Fin n)
    (hq : ∀ a b, ∑ i, q a i * q b i = if a = b then 1 else 0)
    (heigA : ∀ a (i : Fin n), ∑ j : Fin n, A.get i j * q a j = d a * q a i)
    (hD : d i₁ ≠ 0) (hgap : ∀ a, a ≠ i₁ → |d a| ≤ |d i₁| / 2)
    (hstart : (3 / 10 : ℝ) ^ 2 * n ≤ (∑ i, q i₁ i) ^ 2)
    (htol : (1 / 10 ^ 12 : ℝ) ≤ tol) :
    ∃ lam v p, power A tol = .ok (lam, v, p) ∧ 2 ≤ p ∧ p ≤ 24 ∧
      (∑ i ∈ range n, ((∑ k ∈ range n, A.get i k * v.get k 0) - lam * v.get i 0) ^ 2)
        ≤ 6 * tol * lam ^ 2 * (∑ i ∈ range n, v.get i 0 ^ 2) ∧
      |lam - d i₁| ≤ tol * |d i₁| ∧
      0 < lam / d i₁ ∧ |d i₁| / 4 ≤ |lam| ∧ |lam| ≤ |d i₁| :=
  powerCap_accuracy_sharp SV.Gen.powerMethodCap powerMethodCap_ge n A tol hn hAh hAw hAwf hsymA
    q d i₁ hq heigA hD hgap hstart htol

/-- **The accuracy clause of C13, as stated in `SV.Props.C13`.** -/
theorem power_accuracy : PowerAccuracy := by
  intro n A tol hn hAh hAw hAwf hsymA q d i₁ hq heigA hD hgap hstart htol _
  obtain ⟨lam, v, p, hp, _, _, hres, hlam, _, _, _⟩ :=
    power_accuracy_sharp n A tol hn hAh hAw hAwf hsymA q d i₁ hq heigA hD hgap hstart htol
  have htol0 : 0 ≤ tol := le_trans (by norm_num) htol
  refine ⟨lam, v, p, hp, hres.trans ?_, hlam.trans ?_⟩
  · exact mul_le_mul_of_nonneg_right (mul_le_mul_of_nonneg_right
      (mul_le_mul_of_nonneg_right (by norm_num) htol0) (sq_nonneg _))
      (Finset.sum_nonneg fun i _ => sq_nonneg _)
  · exact mul_le_mul_of_nonneg_right (le_mul_of_one_le_left htol0 (by norm_num)) (abs_nonneg _)

/-- non-vacuity: the hypotheses of `PowerAccuracy` are satisfiable with a **negative** dominant
eigenvalue — `A = Q·diag(−2, 1)·Qᵀ` with the rational rotation `Q = [[3/5, 4/5], [4/5, −3/5]]`
(start-vector cosine `7/(5√2) ≈ 0.99`) — and the theorem then gives a returned pair -/
example : ∃ lam v p, power (⟨2, 2, #[-2/25, -36/25, -36/25, -23/25]⟩ : Mat ℝ) (1 / 10 ^ 6)
      = .ok (lam, v, p) ∧ |lam - (-2)| ≤ 8 * (1 / 10 ^ 6) * |(-2 : ℝ)| := by
  obtain ⟨lam, v, p, hp, _, hl⟩ := power_accuracy 2 ⟨2, 2, #[-2/25, -36/25, -36/25, -23/25]⟩
    (1 / 10 ^ 6) (by norm_num) rfl rfl rfl
    (by
      intro i j hi hj
      interval_cases i <;> interval_cases j <;> rfl)
    ![![3/5, 4/5], ![4/5, -3/5]] ![-2, 1] 0
    (by
      simp only [Fin.forall_fin_two, Fin.sum_univ_two]
      refine ⟨⟨?_, ?_⟩, ?_, ?_⟩
      · show (3 / 5 : ℝ) * (3 / 5) + 4 / 5 * (4 / 5) = 1
        norm_num
      · show (3 / 5 : ℝ) * (4 / 5) + 4 / 5 * (-3 / 5) = 0
        norm_num
      · show (4 / 5 : ℝ) * (3 / 5) + -3 / 5 * (4 / 5) = 0
        norm_num
      · show (4 / 5 : ℝ) * (4 / 5) + -3 / 5 * (-3 / 5) = 1
        norm_num)
    (by
      simp only [Fin.forall_fin_two, Fin.sum_univ_two]
      refine ⟨⟨?_, ?_⟩, ?_, ?_⟩
      · show (-2 / 25 : ℝ) * (3 / 5) + -36 / 25 * (4 / 5) = -2 * (3 / 5)
        norm_num
      · show (-36 / 25 : ℝ) * (3 / 5) + -23 / 25 * (4 / 5) = -2 * (4 / 5)
        norm_num
      · show (-2 / 25 : ℝ) * (4 / 5) + -36 / 25 * (-3 / 5) = 1 * (4 / 5)
        norm_num
      · show (-36 / 25 : ℝ) * (4 / 5) + -23 / 25 * (-3 / 5) = 1 * (-3 / 5)
        norm_num)
    (by simp)
    (by
      intro a ha
      fin_cases a
      · exact absurd rfl ha
      · simp)
    (by simp [Fin.sum_univ_two]; norm_num)
    (by norm_num) (by norm_num)
  exact ⟨lam, v, p, hp, by simpa using hl⟩

end SV.Props.C13Accuracy
