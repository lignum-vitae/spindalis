import SV.Lemmas.C19Eval
/-!
# C19 — structural laws of the constant-folding pass, for every expression tree

Companion of `SV.Props.C19Fold` (folding keeps the *value*): here the statements are about the *shape* of `fold nt e`
(`fold_operations`), for every tree `e` and every choice `nt` of the value tests on literals.  The laws about what a
step may return (symbols, literals, size, fixed points) go through the case analysis of one fold step
(`SV.C19.foldStep_shape`); those that say a node is kept unfold the step where the tests are given.  `IsFolded` names the
fixed points of the pass.
-/
namespace SV.Props.C19FoldLaws
open SV SV.C19

section
variable {N : Type}

theorem fold_leaf (nt : NumTests N) :
    (∀ x : N, fold nt (.num x) = .num x) ∧ (∀ s : String, fold nt (.var s) = (.var s : Expr N)) ∧
    (∀ c : Const, fold nt (.const c) = (.const c : Expr N)) :=
  ⟨fold_num nt, fold_var nt, fold_const nt⟩

/-- The pass does not enter function arguments, unary minus or postfix nodes: such a node is returned as it is, whatever
redexes its operand contains. -/
theorem fold_unvisited (nt : NumTests N) (v : Expr N) :
    (∀ f : Func, fold nt (.func f v) = .func f v) ∧ (∀ o : Op, fold nt (.pre o v) = .pre o v) ∧
    (∀ o : Op, fold nt (.post o v) = .post o v) :=
  ⟨fun f => fold_func nt f v, fun o => fold_pre nt o v, fun o => fold_post nt o v⟩

theorem foldStep_only_listed_rules (nt : NumTests N) (o : Op) (l r : Expr N) (p : Bool)
    (hl0 : isNumZero nt l = false) (hr0 : isNumZero nt r = false) (hr1 : isNumOne nt r = false) :
    foldStep nt o l r p = .bin o l r p := by
  simp [foldStep, hl0, hr0, hr1]

/-- **Only the listed rules rewrite.**  If neither folded operand of a binary node is a literal that tests as 0 and the
folded right operand is not a literal that tests as 1, `fold_operations` returns the same binary node (same operator, same
parenthesis flag) of the folded operands.  Every rewrite of the pass needs a literal 0 or 1 as an operand. -/
theorem fold_only_listed_rules (nt : NumTests N) (o : Op) (l r : Expr N) (p : Bool)
    (hl0 : isNumZero nt (fold nt l) = false) (hr0 : isNumZero nt (fold nt r) = false)
    (hr1 : isNumOne nt (fold nt r) = false) :
    fold nt (.bin o l r p) = .bin o (fold nt l) (fold nt r) p :=
  foldStep_only_listed_rules nt o _ _ p hl0 hr0 hr1

/-- The operators `%`, `·` (as an operator of the tree) and `!` have no rule at all: such a node is always kept, even with
operands 0 or 1. -/
theorem fold_no_rule_for_op (nt : NumTests N) (o : Op) (l r : Expr N) (p : Bool)
    (ho : o = .rem ∨ o = .cdot ∨ o = .fac) :
    fold nt (.bin o l r p) = .bin o (fold nt l) (fold nt r) p := by
  rcases ho with rfl | rfl | rfl <;> simp [fold_bin, foldStep]

theorem fold_pow_kept (nt : NumTests N) (b : Expr N) (n : N) (p : Bool)
    (hb : isNumZero nt (fold nt b) = false) (hn : nt.isZero n = false) :
    fold nt (.bin .caret b (.num n) p) = .bin .caret (fold nt b) (.num n) p := by
  have hn' : isNumZero nt (.num n) = false := hn
  simp [fold_bin, fold_num, foldStep, hb, hn']

/-- **`(b^n)^r` keeps both powers.**  For literal exponents `n`, `r` that do not test as 0 (in particular `n·r = 1`, e.g.
`2` and `0.5`) and a base that does not fold to the literal 0, the folded tree is `((fold b)^n)^r`: the rewrite
`(b^n)^r ↦ b` (unsound on negative bases, `SV.Props.C19PowPow`) is not a rule of the pass. -/
theorem fold_pow_pow_kept (nt : NumTests N) (b : Expr N) (n r : N) (p q : Bool)
    (hb : isNumZero nt (fold nt b) = false) (hn : nt.isZero n = false) (hr : nt.isZero r = false) :
    fold nt (.bin .caret (.bin .caret b (.num n) p) (.num r) q)
      = .bin .caret (.bin .caret (fold nt b) (.num n) p) (.num r) q := by
  have hin := fold_pow_kept nt b n p hb hn
  rw [fold_pow_kept nt _ r q (by rw [hin]; rfl) hr, hin]

/-- the variables of a tree, left to right (all nodes, also below functions and unary nodes) -/
def vars : Expr N → List String
  | .num _ => [] | .var s => [s] | .const _ => []
  | .func _ i => vars i | .pre _ v => vars v | .post _ v => vars v
  | .bin _ l r _ => vars l ++ vars r

def funcs : Expr N → List Func
  | .num _ => [] | .var _ => [] | .const _ => []
  | .func f i => f :: funcs i | .pre _ v => funcs v | .post _ v => funcs v
  | .bin _ l r _ => funcs l ++ funcs r

def consts : Expr N → List Const
  | .num _ => [] | .var _ => [] | .const c => [c]
  | .func _ i => consts i | .pre _ v => consts v | .post _ v => consts v
  | .bin _ l r _ => consts l ++ consts r

/-- the operators of a tree (unary, postfix and binary) -/
def ops : Expr N → List Op
  | .num _ => [] | .var _ => [] | .const _ => []
  | .func _ i => ops i | .pre o v => o :: ops v | .post o v => o :: ops v
  | .bin o l r _ => o :: (ops l ++ ops r)

def nums : Expr N → List N
  | .num x => [x] | .var _ => [] | .const _ => []
  | .func _ i => nums i | .pre _ v => nums v | .post _ v => nums v
  | .bin _ l r _ => nums l ++ nums r

def size : Expr N → Nat
  | .num _ => 1 | .var _ => 1 | .const _ => 1
  | .func _ i => 1 + size i | .pre _ v => 1 + size v | .post _ v => 1 + size v
  | .bin _ l r _ => 1 + size l + size r

theorem size_pos (e : Expr N) : 0 < size e := by
  cases e <;> simp only [size] <;> omega

/-- Folding keeps a list `c` read off the tree inside any bound `T` that holds what the two literals of the rules carry.  All
that is used of `c`: a binary node and a unary minus put their own part `b o` in front of what their operands give. -/
private theorem fold_collect {α : Type} (nt : NumTests N) (c : Expr N → List α) (b : Op → List α)
    (hbin : ∀ o l r p, c (.bin o l r p) = b o ++ (c l ++ c r)) (hneg : ∀ v, c (.pre .sub v) = b .sub ++ c v)
    {T : List α} (hzero : c (.num nt.zero) ⊆ T) (hone : c (.num nt.one) ⊆ T) (e : Expr N) (he : c e ⊆ T) :
    c (fold nt e) ⊆ T := by
  induction e with
  | num | var | const | func | pre | post => exact he
  | bin o l r p ihl ihr =>
    rw [hbin, List.append_subset, List.append_subset] at he
    obtain ⟨hb, hl, hr⟩ := he
    rw [fold_bin]
    apply foldStep_shape (P := fun e => c e ⊆ T) nt o (fold nt l) (fold nt r) p hzero hone (ihl hl) (ihr hr)
    · rintro rfl
      rw [hneg]
      exact List.append_subset.mpr ⟨hb, ihr hr⟩
    · intro _
      rw [hbin]
      exact List.append_subset.mpr ⟨hb, List.append_subset.mpr ⟨ihl hl, ihr hr⟩⟩

/-- **Folding invents nothing.**  Every variable, every function name, every named constant and every operator that occurs
in the folded tree occurs in the input tree.  (Number literals can be new: the rules write `0` and `1`, see `fold_nums`.) -/
theorem fold_no_new_symbols (nt : NumTests N) (e : Expr N) :
    vars (fold nt e) ⊆ vars e ∧ funcs (fold nt e) ⊆ funcs e ∧ consts (fold nt e) ⊆ consts e ∧
    ops (fold nt e) ⊆ ops e :=
  ⟨fold_collect nt vars (fun _ => []) (fun _ _ _ _ => rfl) (fun _ => rfl) (List.nil_subset _) (List.nil_subset _) e
     (List.Subset.refl _),
   fold_collect nt funcs (fun _ => []) (fun _ _ _ _ => rfl) (fun _ => rfl) (List.nil_subset _) (List.nil_subset _) e
     (List.Subset.refl _),
   fold_collect nt consts (fun _ => []) (fun _ _ _ _ => rfl) (fun _ => rfl) (List.nil_subset _) (List.nil_subset _) e
     (List.Subset.refl _),
   fold_collect nt ops (fun o => [o]) (fun _ _ _ _ => rfl) (fun _ => rfl) (List.nil_subset _) (List.nil_subset _) e
     (List.Subset.refl _)⟩

/-- The only number literals folding can write are the `0` and the `1` of the rules: every literal of the folded tree is a
literal of the input, or `nt.zero`, or `nt.one`. -/
theorem fold_nums (nt : NumTests N) (e : Expr N) :
    ∀ x ∈ nums (fold nt e), x ∈ nums e ∨ x = nt.zero ∨ x = nt.one := by
  intro x hx
  have := fold_collect nt nums (fun _ => []) (fun _ _ _ _ => rfl) (fun _ => rfl) (T := nums e ++ [nt.zero, nt.one])
    (by simp [nums]) (by simp [nums]) e (List.subset_append_left _ _) hx
  simpa using this

private theorem foldStep_size (nt : NumTests N) (o : Op) (l r : Expr N) (p : Bool) :
    foldStep nt o l r p = .bin o l r p ∨ size (foldStep nt o l r p) ≤ size l + size r :=
  have hl : 1 ≤ size l := size_pos l
  foldStep_shape (P := fun e => e = .bin o l r p ∨ size e ≤ size l + size r) nt o l r p
    (zero := .inr (Nat.le_add_right_of_le hl)) (one := .inr (Nat.le_add_right_of_le hl))
    (left := .inr (Nat.le_add_right _ _)) (right := .inr (Nat.le_add_left _ _))
    (neg := fun _ => .inr (Nat.add_le_add_right hl _)) (keep := fun _ => .inl rfl)

/-- every rule removes a node: the number of nodes stays the same only if the tree does -/
theorem fold_size (nt : NumTests N) (e : Expr N) :
    size (fold nt e) ≤ size e ∧ (size (fold nt e) = size e → fold nt e = e) := by
  induction e with
  | num | var | const | func | pre | post => exact ⟨Nat.le_refl _, fun _ => rfl⟩
  | bin o l r p ihl ihr =>
    have hl := ihl.1
    have hr := ihr.1
    rw [fold_bin]
    rcases foldStep_size nt o (fold nt l) (fold nt r) p with h | h
    · rw [h]
      simp only [size]
      exact ⟨by omega, fun hs => by rw [ihl.2 (by omega), ihr.2 (by omega)]⟩
    · simp only [size]
      exact ⟨by omega, fun hs => by omega⟩

theorem fold_size_le (nt : NumTests N) (e : Expr N) : size (fold nt e) ≤ size e :=
  (fold_size nt e).1

theorem fold_size_lt_of_ne (nt : NumTests N) (e : Expr N) (hne : fold nt e ≠ e) : size (fold nt e) < size e :=
  Nat.lt_of_le_of_ne (fold_size nt e).1 fun h => hne ((fold_size nt e).2 h)

/-- `IsFolded nt e`: no rule applies at any node the pass visits — every binary node reachable from the root through
binary nodes has folded operands and is left alone by a fold step. -/
def IsFolded (nt : NumTests N) : Expr N → Prop
  | .bin o l r p => IsFolded nt l ∧ IsFolded nt r ∧ foldStep nt o l r p = .bin o l r p
  | _ => True

/-- **The result of the pass is folded**: no rule applies at any visited node of `fold e`.  Every rule returns a literal, an
operand that is already folded, or `-r`, a node the pass does not enter — no rule exposes a new redex at a node the pass visits. -/
theorem isFolded_fold (nt : NumTests N) (e : Expr N) : IsFolded nt (fold nt e) := by
  induction e with
  | num | var | const | func | pre | post => trivial
  | bin o l r p ihl ihr =>
    rw [fold_bin]
    exact foldStep_shape (P := IsFolded nt) nt o _ _ p trivial trivial ihl ihr (fun _ => trivial)
      fun h => ⟨ihl, ihr, h⟩

theorem fold_eq_of_isFolded (nt : NumTests N) {e : Expr N} (h : IsFolded nt e) : fold nt e = e := by
  induction e with
  | num | var | const | func | pre | post => rfl
  | bin o l r p ihl ihr => rw [fold_bin, ihl h.1, ihr h.2.1, h.2.2]

theorem isFolded_iff_fold_eq (nt : NumTests N) (e : Expr N) : IsFolded nt e ↔ fold nt e = e :=
  ⟨fold_eq_of_isFolded nt, fun h => h ▸ isFolded_fold nt e⟩

/-- **Folding is idempotent**: folding a folded tree changes nothing, for every tree and every choice of the literal tests.
(A fold step on folded operands is stable; this is why the model's `0 - r ⇒ -r` rule may keep `r` where the source folds `r`
once more.) -/
theorem fold_idempotent (nt : NumTests N) (e : Expr N) : fold nt (fold nt e) = fold nt e :=
  fold_eq_of_isFolded nt (isFolded_fold nt e)

end

/-- `(x^2)^0.5` on the driver's decimal literals: both powers are kept. -/
theorem fold_pow_pow_instance :
    fold decTests (.bin .caret (.bin .caret (.var "x") (.num ⟨false, 2, 0⟩) true) (.num ⟨false, 5, 1⟩) false)
      = .bin .caret (.bin .caret (.var "x") (.num ⟨false, 2, 0⟩) true) (.num ⟨false, 5, 1⟩) false := by
  rfl

/-- the same over ℚ, as an instance of `fold_pow_pow_kept` -/
example : fold (fieldTests ℚ) (.bin .caret (.bin .caret (.var "x") (.num 2) true) (.num (1/2)) false)
      = .bin .caret (.bin .caret (.var "x") (.num 2) true) (.num (1/2)) false :=
  fold_pow_pow_kept (fieldTests ℚ) (.var "x") 2 (1/2) true false rfl (by simp [fieldTests]) (by simp [fieldTests])

/-- non-vacuity over ℚ: a tree on which rules fire — `(0*x + y/1) - sin(0+z)`: size 12 ↦ 6, the variable `x` disappears,
nothing appears, the function argument is not entered, and the result is folded. -/
example :
    let e : Expr ℚ := .bin .sub (.bin .add (.bin .mul (.num 0) (.var "x") false) (.bin .div (.var "y") (.num 1) false) true)
      (.func .sin (.bin .add (.num 0) (.var "z") true)) false
    fold (fieldTests ℚ) e = .bin .sub (.var "y") (.func .sin (.bin .add (.num 0) (.var "z") true)) false ∧
    size e = 12 ∧ size (fold (fieldTests ℚ) e) = 6 ∧ vars (fold (fieldTests ℚ) e) = ["y", "z"] ∧
    IsFolded (fieldTests ℚ) (fold (fieldTests ℚ) e) := by
  intro e
  have h : fold (fieldTests ℚ) e = .bin .sub (.var "y") (.func .sin (.bin .add (.num 0) (.var "z") true)) false := by
    simp [e, fold, isNumZero, isNumOne, isNumPos, fieldTests]
  rw [h]
  exact ⟨rfl, rfl, rfl, rfl, h ▸ isFolded_fold _ e⟩

end SV.Props.C19FoldLaws
