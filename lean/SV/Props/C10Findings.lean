import SV.Props.C10
/-!
# C10: the open finding F-C10-abs-scale on the model

`SV.Props.C10.inverse_accepts_regular` proves that the model inverts every regular matrix *below a
matrix-dependent tolerance*; the code's tolerance is the constant `f64::EPSILON`.  The statement of
C10 ("the inverse of the inverse returns to A for well-conditioned A") has no such restriction, and it
is false of the code and of the model alike for matrices of small scale: the exact-arithmetic
witnesses below (the same requests are in `corpus/C10.txt` and are reported as
`KNOWN-FINDING … [F-C10-abs-scale]` on every run).
-/
namespace SV.Props.C10Findings
open SV SV.C09 SV.C10 SV.Props.C10

/-- `2⁻⁵³ · [[0,1],[1,0]]`: a permutation times a scalar, condition number 1 -/
def tinySwap : Mat ℚ := ⟨2, 2, #[0, 1 / 9007199254740992, 1 / 9007199254740992, 0]⟩

/-- `2⁵³ · [[0,1],[1,0]]` -/
def hugeSwap : Mat ℚ := ⟨2, 2, #[0, 9007199254740992, 9007199254740992, 0]⟩

/-- **the absolute threshold refuses a perfectly conditioned matrix**: with `eps = f64::EPSILON` the
model answers `SingularMatrix` for `tinySwap`, whose inverse is `hugeSwap` -/
theorem abs_scale_refused :
    (match inverse epsQ tinySwap with | .err .singular => true | _ => false) = true := by
  decide +kernel

/-- **the inverse of the inverse does not return**: `hugeSwap` is inverted (to `tinySwap`, exactly),
and inverting the result is refused -/
theorem abs_scale_involution_fails :
    arrayOf (inverse epsQ hugeSwap) = some (2, 2, tinySwap.a) ∧
    (match inverse epsQ tinySwap with | .err .singular => true | _ => false) = true :=
  ⟨by decide +kernel, abs_scale_refused⟩

/-- at the threshold scale itself the round trip works (`2⁵² · P`), as the corpus line shows for the
code: the refusal test is `<`, not `≤` -/
example :
    arrayOf (inverse epsQ ⟨2, 2, #[0, 4503599627370496, 4503599627370496, 0]⟩) =
      some (2, 2, #[0, 1 / 4503599627370496, 1 / 4503599627370496, 0]) ∧
    arrayOf (inverse epsQ ⟨2, 2, #[0, 1 / 4503599627370496, 1 / 4503599627370496, 0]⟩) =
      some (2, 2, #[0, 4503599627370496, 4503599627370496, 0]) := by
  constructor <;> decide +kernel

end SV.Props.C10Findings
