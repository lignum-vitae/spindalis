import SV.Model.C08
import SV.Lemmas.Subst
import SV.Lemmas.RoundingNearest
import SV.Lemmas.RoundingC08
import SV.Lemmas.RoundingEx
import SV.Props.C08
/-!
# C08, rounding half — the triangular substitution routines in floating-point arithmetic

`SV.Props.C08.backSubst_sound` / `forwardSubst_sound` prove over every field that the exported
substitution routines solve their triangular systems (rounding error 0).  Here **the same
definitions** `SV.Subst.backSubst`, `SV.Subst.forwardSubst` (the models of `back_substitution`,
`forward_substitution`, operation by operation in the order of the source) are run at the rounding
scalar `Fl M` of `SV.Lemmas.Rounding`, where every `+ − × ÷` is the exact real operation followed by
a rounding of relative error `≤ u`, and the classical componentwise **backward-error theorem** is
proved (Higham, *Accuracy and Stability of Numerical Algorithms*, 2nd ed., Thm 8.5, for the
operation order of this code): the returned vector solves **exactly** a triangular system whose
matrix entries are relative perturbations of the given ones, the right-hand side not being
perturbed at all,

    (T + ΔT)·x = b,     |ΔT_ij| ≤ γ_m·|T_ij|,     m = max(n, 2),   n = size,

equivalently `|b_i − Σ_j T_ij x_j| ≤ γ_m · Σ_j |T_ij|·|x_j|` for every row: "a componentwise backward
error of a few rounding units", whatever the condition number of `T`.

Counting what the loops really do (`n = size`), row `i`:
* `sum = 0.0; sum += a[i][j]*x[j]`: the term of column `j` takes one multiplication and every later
  addition; the model also charges the first addition `0.0 + …` (exact in IEEE) one rounding since
  it assumes nothing about `rnd` but its relative accuracy.  Backward sweep (`j = i+1 … n−1`):
  `n − j + 1 ≤ n` roundings; forward sweep (`j = 0 … i−1`): `i − j + 1 ≤ n` roundings;
* `x[i] = (b[i] − sum)/a[i][i]`: a subtraction and a division — two roundings, carried by the
  diagonal entry (the forward sweep **divides** by the diagonal: no unit diagonal is assumed);
* the last row of the backward sweep is `b[n−1]/a[n−1][n−1]`, one rounding.
The finest statement is the weights form (`SV.Subst.backCore_row_weights`, `fwdCore_row_weights`);
the uniform constant is `γ_{max(n,2)}` (`γ_n` for `n ≥ 2`; Higham has `γ_n` too).

Which calls are covered: **every** call that returns — any `size = n ≥ 1` (`n ≥ 0` forward) not
larger than the matrix and the slices, a matrix with more rows/columns than `size`, any initial
contents of the solution slice (the driver pre-fills it with NaN to show that no entry `< size` is
read before it is written: here the slice is arbitrary and the theorems do not depend on it), any
contents of the other triangle (never read: `…_weights_uniform`).  The hypothesis is a
non-zero diagonal, as in the exact theorems.  There is no tolerance in these routines.  For
binary64 `u = 2⁻⁵³` and `γ_m ≤ m·2⁻⁵²` (`…_binary64`).

The elimination phase of `gaussian_elimination` is **not** analysed here (its backward error
involves the growth factor of scaled partial pivoting); `gauss_back_phase_rounding` records what
the theorems give for the whole solver: the returned vector is the back substitution of the
eliminated system, with the backward error above *relative to the eliminated matrix*.

NOT covered: overflow, underflow (a subnormal product or quotient loses relative accuracy),
NaN/∞, the decimal→binary conversion of the inputs — see the header of `SV.Lemmas.Rounding`.
-/
namespace SV.Props.C08Rounding
open SV SV.C08 SV.C09 SV.Subst Finset

variable {M : FlModel}

/-- the models elaborate at the rounding scalar with no change -/
noncomputable example (U : Mat (Fl M)) (n : ℕ) (b sol : Array (Fl M)) :
    Outcome Empty (Array (Fl M)) := backSubst U n b sol
noncomputable example (L : Mat (Fl M)) (n : ℕ) (b sol : Array (Fl M)) :
    Outcome Empty (Array (Fl M)) := forwardSubst L n b sol

/-- **Weights form (Higham (8.2) for this operation order)**, with the uniform count: inside its
precondition `back_substitution` returns a vector for which every row of the upper-triangular part
holds **exactly** with weighted entries, `b_i = Σ_{i≤j<n} u_ij·x_j·t_ij`, every `t_ij` an accumulated
factor of at most `max n 2` roundings (the fine counts: `SV.Subst.backCore_row_weights`).  The
strictly lower part of the matrix is never read. -/
theorem backCore_weights_uniform (U : Mat (Fl M)) (n : ℕ) (b sol : Array (Fl M)) (hn : 0 < n)
    (hs : n ≤ sol.size) (hd : ∀ i, i < n → (U.get i i).val ≠ 0) :
    ∃ t : ℕ → ℕ → ℝ, (∀ i, i < n → ∀ j ∈ Ico i n, M.Fac (max n 2) (t i j)) ∧
      ∀ i, i < n → (vget b i).val
        = ∑ j ∈ Ico i n, (U.get i j).val * (vget (backCore U n b sol) j).val * t i j := by
  choose! t h1 h2 h3 using fun i (hi : i < n) => backCore_row_weights U n b sol hn hs hd hi
  refine ⟨t, fun i hi j hj => ?_, h3⟩
  rw [Finset.mem_Ico] at hj
  rcases Nat.eq_or_lt_of_le hj.1 with rfl | hij
  · exact (h1 i hi).mono (le_max_right _ _)
  · exact (h2 i hi j hij hj.2).mono (by have := le_max_left n 2; omega)

/-- **Residual of the upper-triangular part**, no hypothesis on the other triangle:
`|b_i − Σ_{i≤j<n} u_ij x_j| ≤ γ_m · Σ_{i≤j<n} |u_ij|·|x_j|`, `m = max(n, 2)`. -/
theorem backCore_residual_upper_part (U : Mat (Fl M)) (n : ℕ) (b sol : Array (Fl M)) (hn : 0 < n)
    (hs : n ≤ sol.size) (hd : ∀ i, i < n → (U.get i i).val ≠ 0)
    (hu : ((max n 2 : ℕ) : ℝ) * M.u < 1) :
    ∀ i, i < n →
      |(vget b i).val - ∑ j ∈ Ico i n, (U.get i j).val * (vget (backCore U n b sol) j).val|
        ≤ M.gamma (max n 2)
          * ∑ j ∈ Ico i n, |(U.get i j).val| * |(vget (backCore U n b sol) j).val| := by
  obtain ⟨t, ht, hrow⟩ := backCore_weights_uniform U n b sol hn hs hd
  exact fun i hi => residual_of_weights (Ico i n) (max n 2) (fun j => (U.get i j).val)
    (fun j => (vget (backCore U n b sol) j).val) (t i) _ (ht i hi) hu (hrow i hi)

/-- **Backward error, the theorem of the statement (Higham, Thm 8.5).**  Let `U` be upper
triangular of order `n` with non-zero diagonal and `max(n,2)·u < 1`.  Whenever `back_substitution`
returns `x`, there is a perturbation `ΔU` — upper triangular, `|ΔU_ij| ≤ γ_m·|U_ij|` with
`m = max(n, 2)` — such that `(U + ΔU)·x = b` **exactly**. -/
theorem backSubst_backward (U : Mat (Fl M)) (n : ℕ) (b sol x : Array (Fl M))
    (hx : backSubst U n b sol = .ok x) (hd : ∀ i, i < n → (U.get i i).val ≠ 0)
    (htri : ∀ i j, i < n → j < i → (U.get i j).val = 0)
    (hu : ((max n 2 : ℕ) : ℝ) * M.u < 1) :
    ∃ ΔU : ℕ → ℕ → ℝ,
      (∀ i j, |ΔU i j| ≤ M.gamma (max n 2) * |(U.get i j).val|) ∧
      (∀ i j, j < i → ΔU i j = 0) ∧
      ∀ i, i < n →
        ∑ j ∈ range n, ((U.get i j).val + ΔU i j) * (vget x j).val = (vget b i).val := by
  obtain ⟨⟨h0, _, _, _, h4⟩, rfl⟩ := (backSubst_ok_iff U n b sol x).mp hx
  obtain ⟨t, ht, hrow⟩ := backCore_weights_uniform U n b sol h0 h4 hd
  obtain ⟨Δ, h1, h2, h3⟩ := backward_of_weights n (max n 2) (fun i => Ico i n)
    (fun i _ j hj => mem_range.2 (mem_Ico.1 hj).2) (fun i j => (U.get i j).val) t
    _ (fun i => (vget b i).val)
    (fun i hi j hj hjs => htri i j hi (by rw [mem_Ico] at hjs; rw [mem_range] at hj; omega))
    ht hu hrow
  exact ⟨Δ, h1, fun i j hji => h2 i j (by rw [mem_Ico]; omega), h3⟩

/-- **Componentwise residual — "`A x` reproduces `b` with a componentwise backward error of a few
rounding units".**  For an upper-triangular `U` of order `n` with non-zero diagonal:
`|b_i − Σ_j u_ij x_j| ≤ γ_m · Σ_j |u_ij|·|x_j|` for every row, `m = max(n, 2)`. -/
theorem backSubst_residual (U : Mat (Fl M)) (n : ℕ) (b sol x : Array (Fl M))
    (hx : backSubst U n b sol = .ok x) (hd : ∀ i, i < n → (U.get i i).val ≠ 0)
    (htri : ∀ i j, i < n → j < i → (U.get i j).val = 0)
    (hu : ((max n 2 : ℕ) : ℝ) * M.u < 1) :
    ∀ i, i < n →
      |(vget b i).val - ∑ j ∈ range n, (U.get i j).val * (vget x j).val|
        ≤ M.gamma (max n 2) * ∑ j ∈ range n, |(U.get i j).val| * |(vget x j).val| := by
  obtain ⟨⟨h0, _, _, _, h4⟩, rfl⟩ := (backSubst_ok_iff U n b sol x).mp hx
  obtain ⟨t, ht, hrow⟩ := backCore_weights_uniform U n b sol h0 h4 hd
  exact fun i hi => residual_of_weights_subset
    (fun j hj => mem_range.2 (mem_Ico.1 hj).2) (max n 2) (fun j => (U.get i j).val)
    _ (t i) _
    (fun j hj hjs => Or.inl (htri i j hi (by rw [mem_Ico] at hjs; rw [mem_range] at hj; omega)))
    (ht i hi) hu (hrow i hi)

/-- **Weights form**, forward substitution: every row of the lower-triangular part (diagonal included
— the code divides by it) holds exactly with weighted entries, `b_i = Σ_{j≤i} l_ij·x_j·t_ij`, every
`t_ij` an accumulated factor of at most `max n 2` roundings (the fine counts:
`SV.Subst.fwdCore_row_weights`).  The strictly upper part is never read. -/
theorem forwardSubst_weights_uniform (L : Mat (Fl M)) (n : ℕ) (b sol x : Array (Fl M))
    (hx : forwardSubst L n b sol = .ok x) (hd : ∀ i, i < n → (L.get i i).val ≠ 0) :
    ∃ t : ℕ → ℕ → ℝ, (∀ i, i < n → ∀ j ∈ range (i + 1), M.Fac (max n 2) (t i j)) ∧
      ∀ i, i < n →
        (vget b i).val = ∑ j ∈ range (i + 1), (L.get i j).val * (vget x j).val * t i j := by
  obtain ⟨⟨_, _, _, h4⟩, rfl⟩ := (forwardSubst_ok_iff L n b sol x).mp hx
  choose! t h1 h2 h3 using fun i (hi : i < n) => fwdCore_row_weights L n b sol h4 hd hi
  refine ⟨t, fun i hi j hj => ?_, h3⟩
  rcases Nat.eq_or_lt_of_le (Nat.le_of_lt_succ (mem_range.1 hj)) with rfl | hji
  · exact (h1 j hi).mono (le_max_right _ _)
  · exact (h2 i hi j hji).mono (by have := le_max_left n 2; omega)

/-- **Backward error (Higham, Thm 8.5), forward substitution.**  Let `L` be lower triangular of
order `n` with non-zero diagonal (not assumed to be 1: the code divides by it) and
`max(n,2)·u < 1`.  Whenever `forward_substitution` returns `x`, there is a lower-triangular `ΔL`,
`|ΔL_ij| ≤ γ_m·|L_ij|`, `m = max(n, 2)`, with `(L + ΔL)·x = b` **exactly**. -/
theorem forwardSubst_backward (L : Mat (Fl M)) (n : ℕ) (b sol x : Array (Fl M))
    (hx : forwardSubst L n b sol = .ok x) (hd : ∀ i, i < n → (L.get i i).val ≠ 0)
    (htri : ∀ i j, i < n → i < j → j < n → (L.get i j).val = 0)
    (hu : ((max n 2 : ℕ) : ℝ) * M.u < 1) :
    ∃ ΔL : ℕ → ℕ → ℝ,
      (∀ i j, |ΔL i j| ≤ M.gamma (max n 2) * |(L.get i j).val|) ∧
      (∀ i j, i < j → ΔL i j = 0) ∧
      ∀ i, i < n →
        ∑ j ∈ range n, ((L.get i j).val + ΔL i j) * (vget x j).val = (vget b i).val := by
  obtain ⟨t, ht, hrow⟩ := forwardSubst_weights_uniform L n b sol x hx hd
  obtain ⟨Δ, h1, h2, h3⟩ := backward_of_weights n (max n 2) (fun i => range (i + 1))
    (fun i hi => Finset.range_mono hi) (fun i j => (L.get i j).val) t
    (fun j => (vget x j).val) (fun i => (vget b i).val)
    (fun i hi j hj hjs => htri i j hi (by rw [mem_range] at hjs; omega) (mem_range.1 hj))
    ht hu hrow
  exact ⟨Δ, h1, fun i j hij => h2 i j (by rw [mem_range]; omega), h3⟩

/-- **Componentwise residual, forward substitution.**  For a lower-triangular `L` of order `n` with
non-zero diagonal: `|b_i − Σ_j l_ij x_j| ≤ γ_m · Σ_j |l_ij|·|x_j|`, `m = max(n, 2)`. -/
theorem forwardSubst_residual (L : Mat (Fl M)) (n : ℕ) (b sol x : Array (Fl M))
    (hx : forwardSubst L n b sol = .ok x) (hd : ∀ i, i < n → (L.get i i).val ≠ 0)
    (htri : ∀ i j, i < n → i < j → j < n → (L.get i j).val = 0)
    (hu : ((max n 2 : ℕ) : ℝ) * M.u < 1) :
    ∀ i, i < n →
      |(vget b i).val - ∑ j ∈ range n, (L.get i j).val * (vget x j).val|
        ≤ M.gamma (max n 2) * ∑ j ∈ range n, |(L.get i j).val| * |(vget x j).val| := by
  obtain ⟨t, ht, hrow⟩ := forwardSubst_weights_uniform L n b sol x hx hd
  exact fun i hi => residual_of_weights_subset (Finset.range_mono hi) (max n 2)
    (fun j => (L.get i j).val) (fun j => (vget x j).val) (t i) _
    (fun j hj hjs => Or.inl (htri i j hi (by rw [mem_range] at hjs; omega) (mem_range.1 hj)))
    (ht i hi) hu (hrow i hi)

/-- With exact arithmetic (`u = 0`) the residual bound collapses to the identity of
`SV.Props.C08.backSubst_sound`. -/
theorem backSubst_residual_ideal (U : Mat (Fl FlModel.ideal)) (n : ℕ)
    (b sol x : Array (Fl FlModel.ideal)) (hx : backSubst U n b sol = .ok x)
    (hd : ∀ i, i < n → (U.get i i).val ≠ 0)
    (htri : ∀ i j, i < n → j < i → (U.get i j).val = 0) :
    ∀ i, i < n → ∑ j ∈ range n, (U.get i j).val * (vget x j).val = (vget b i).val :=
  fun i hi => FlModel.eq_of_ideal_bound fun hu =>
    backSubst_residual U n b sol x hx hd htri hu i hi

theorem forwardSubst_residual_ideal (L : Mat (Fl FlModel.ideal)) (n : ℕ)
    (b sol x : Array (Fl FlModel.ideal)) (hx : forwardSubst L n b sol = .ok x)
    (hd : ∀ i, i < n → (L.get i i).val ≠ 0)
    (htri : ∀ i j, i < n → i < j → j < n → (L.get i j).val = 0) :
    ∀ i, i < n → ∑ j ∈ range n, (L.get i j).val * (vget x j).val = (vget b i).val :=
  fun i hi => FlModel.eq_of_ideal_bound fun hu =>
    forwardSubst_residual L n b sol x hx hd htri hu i hi

/-- **binary64, numerically.**  For round-to-nearest with a 53-bit significand
(`FlModel.binary64`, no exponent limits) and `n ≤ 2⁵²` the hypothesis on `u` is automatic and
`|b_i − Σ_j u_ij x_j| ≤ max(n,2)·2⁻⁵² · Σ_j |u_ij|·|x_j|`. -/
theorem backSubst_residual_binary64 (U : Mat (Fl FlModel.binary64)) (n : ℕ)
    (b sol x : Array (Fl FlModel.binary64)) (hx : backSubst U n b sol = .ok x)
    (hd : ∀ i, i < n → (U.get i i).val ≠ 0)
    (htri : ∀ i j, i < n → j < i → (U.get i j).val = 0) (hn : n ≤ 2 ^ 52) :
    ∀ i, i < n →
      |(vget b i).val - ∑ j ∈ range n, (U.get i j).val * (vget x j).val|
        ≤ ((max n 2 : ℕ) : ℝ) * (2⁻¹ : ℝ) ^ 52
          * ∑ j ∈ range n, |(U.get i j).val| * |(vget x j).val| :=
  fun i hi => FlModel.abs_le_binary64 (max_le hn (by norm_num))
    fun hu => backSubst_residual U n b sol x hx hd htri hu i hi

theorem forwardSubst_residual_binary64 (L : Mat (Fl FlModel.binary64)) (n : ℕ)
    (b sol x : Array (Fl FlModel.binary64)) (hx : forwardSubst L n b sol = .ok x)
    (hd : ∀ i, i < n → (L.get i i).val ≠ 0)
    (htri : ∀ i j, i < n → i < j → j < n → (L.get i j).val = 0) (hn : n ≤ 2 ^ 52) :
    ∀ i, i < n →
      |(vget b i).val - ∑ j ∈ range n, (L.get i j).val * (vget x j).val|
        ≤ ((max n 2 : ℕ) : ℝ) * (2⁻¹ : ℝ) ^ 52
          * ∑ j ∈ range n, |(L.get i j).val| * |(vget x j).val| :=
  fun i hi => FlModel.abs_le_binary64 (max_le hn (by norm_num))
    fun hu => forwardSubst_residual L n b sol x hx hd htri hu i hi

noncomputable example (A : Mat (Fl M)) (b : Array (Fl M)) (tol : Fl M) :
    Outcome GaussErr (Array (Fl M)) := gaussSolve A b tol

/-- **The back-substitution phase of the solver** (the elimination phase is NOT analysed, see the
header).  Whenever `gaussian_elimination` returns `x`, and the eliminated matrix `st.m` has a
non-zero diagonal, `x` satisfies the eliminated system `(st.m, st.r)` with a componentwise residual
of `γ_{max(n,2)}` relative to the upper triangle of `st.m` (the entries below the diagonal, which the
code leaves unreduced, are never read). -/
theorem gauss_back_phase_rounding (A : Mat (Fl M)) (b : Array (Fl M)) (tol : Fl M)
    (x : Array (Fl M)) (h : gaussSolve A b tol = .ok x)
    (hu : ((max A.h 2 : ℕ) : ℝ) * M.u < 1) :
    ∃ st : St (Fl M),
      forwardElim tol A.h { m := A, r := b, s := vtab A.h (rowScale A A.h) } = some st ∧
      ((∀ i, i < A.h → (st.m.get i i).val ≠ 0) → ∀ i, i < A.h →
        |(vget st.r i).val - ∑ j ∈ Ico i A.h, (st.m.get i j).val * (vget x j).val|
          ≤ M.gamma (max A.h 2) * ∑ j ∈ Ico i A.h, |(st.m.get i j).val| * |(vget x j).val|) := by
  obtain ⟨_, _, h0, st, hst, rfl⟩ := SV.Gauss.gaussSolve_ok h
  exact ⟨st, hst, fun hd => backCore_residual_upper_part st.m A.h st.r _
    (Nat.pos_of_ne_zero h0) (vtab_size _ _).ge hd hu⟩

/-- the hypotheses are satisfiable in a model with `u > 0` whose rounding is not the identity, and
there the computed solution really leaves a residual (so the bounds are not `0 ≤ 0`): the
upper-triangular system `x₀ + x₁ = 1, x₁ = 0` with `rnd t = t·(1 + 1/16)` (`u = 1/8`, `2·u < 1`),
solved into a slice that held `7, 7`: the computed `x₀` is `(1 + 1/16)²`. -/
example : ∃ (M : FlModel) (U : Mat (Fl M)) (b sol x : Array (Fl M)), 0 < M.u ∧
    backSubst U 2 b sol = .ok x ∧ (∀ i, i < 2 → (U.get i i).val ≠ 0) ∧
    (∀ i j, i < 2 → j < i → (U.get i j).val = 0) ∧ ((max 2 2 : ℕ) : ℝ) * M.u < 1 ∧
    ∑ j ∈ range 2, (U.get 0 j).val * (vget x j).val ≠ (vget b 0).val := by
  refine ⟨Ex.M8, Ex.U2, #[1, 0], #[⟨7⟩, ⟨7⟩], _, Ex.M8_pos, rfl, Ex.U2_diag, Ex.U2_upper,
    Ex.M8_hyp (by decide), ?_⟩
  obtain ⟨x1, x0⟩ := backCore_two Ex.U2 #[1, 0] #[⟨7⟩, ⟨7⟩] (le_refl 2)
  rw [sum_range_succ, sum_range_one, x0, x1]
  simp only [Ex.U2, Mat.get_two, vget_two, Fl.sub_val, Fl.div_val, Fl.mul_val, Fl.add_val,
    Fl.zero_val, Fl.one_val, Ex.M8_rnd]
  norm_num

/-- the same for forward substitution: `x₀ = 0, x₀ + x₁ = 1` -/
example : ∃ (M : FlModel) (L : Mat (Fl M)) (b sol x : Array (Fl M)), 0 < M.u ∧
    forwardSubst L 2 b sol = .ok x ∧ (∀ i, i < 2 → (L.get i i).val ≠ 0) ∧
    (∀ i j, i < 2 → i < j → j < 2 → (L.get i j).val = 0) ∧ ((max 2 2 : ℕ) : ℝ) * M.u < 1 ∧
    ∑ j ∈ range 2, (L.get 1 j).val * (vget x j).val ≠ (vget b 1).val := by
  refine ⟨Ex.M8, Ex.L2, #[0, 1], #[⟨7⟩, ⟨7⟩], _, Ex.M8_pos, rfl, Ex.L2_diag, Ex.L2_lower,
    Ex.M8_hyp (by decide), ?_⟩
  obtain ⟨y0, y1⟩ := fwdCore_two Ex.L2 #[0, 1] #[⟨7⟩, ⟨7⟩] (le_refl 2)
  rw [sum_range_succ, sum_range_one, y0, y1]
  simp only [Ex.L2, Mat.get_two, vget_two, Fl.sub_val, Fl.div_val, Fl.mul_val, Fl.add_val,
    Fl.zero_val, Fl.one_val, Ex.M8_rnd]
  norm_num

end SV.Props.C08Rounding
