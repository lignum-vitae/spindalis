import SV.Model.C05
import SV.Lemmas.C05
import SV.Lemmas.C05Romberg
import Mathlib.Algebra.Order.Field.Rat
/-!
# C05 — Simpson / trapezoid / Romberg meet textbook accuracy for every segment count and cap

Property theorems only (lemmas: `SV.Lemmas.C05`, `SV.Lemmas.Poly`).  They are about the model
`SV.C05.definiteIntegralP` / `SV.C05.rombergP` — the same generic definitions that the driver runs at
`Float` and that every run of the check compares with `definite_integral` / `romberg_definite`.

Reading guide.
* `K` is any field of characteristic 0 (linearly ordered where `|·|` or Romberg's stopping test
  appear), so rounding error is 0 here: "exact to rounding" is proved as *exact*.
* The polynomial is `p : AnyPoly K` — a `SimplePolynomial` or an `IntermediatePolynomial` — together
  with the Mathlib polynomial `q` it evaluates like (`Evaluates powf p q`:
  `eval_univariate` never fails and returns `q.eval x`).  `both_types_evaluate` shows that every
  `SimplePolynomial` (`q = ofCoeffs cs`, coefficient `i` is `cs.getD i 0`) and every univariate
  `IntermediatePolynomial` with terms `c·x^k` (`Denotes`) is of this kind.
  "degree ≤ d" is `q.natDegree ≤ d`.
* "The integral" is `P.eval b − P.eval a` for **any** antiderivative `P` (`derivative P = q`); the
  library's own `indefinite_integral` is one (`antiderivative_exists`).  `h = (b − a)/n`,
  `f⁗ = derivative^[4] q`.
* Nothing is assumed about the order of `a` and `b` (reversed and empty intervals are included), about
  the cap or the tolerance.
-/
namespace SV.Props.C05
open SV SV.Poly SV.C05 Polynomial

section panels
variable {K : Type} [Field K] [CharZero K]

/-- Simpson 1/3 on one pair of segments, symbolic quartic `c₀ + c₁x + … + c₄x⁴` with antiderivative
`c₀x + c₁x²/2 + … + c₄x⁵/5`: exact up to `(h⁵/90)·f⁗`, `f⁗ = 24c₄`. -/
theorem simpson13_panel (c0 c1 c2 c3 c4 x h : K) :
    h / 3 * (quart c0 c1 c2 c3 c4 x + 4 * quart c0 c1 c2 c3 c4 (x + h)
        + quart c0 c1 c2 c3 c4 (x + 2 * h))
      = quartInt c0 c1 c2 c3 c4 (x + 2 * h) - quartInt c0 c1 c2 c3 c4 x
        + h ^ 5 / 90 * (24 * c4) := by
  unfold quart quartInt; ring

/-- Simpson 3/8 on three segments: exact up to `(3h⁵/80)·f⁗`. -/
theorem simpson38_panel (c0 c1 c2 c3 c4 x h : K) :
    3 * h / 8 * (quart c0 c1 c2 c3 c4 x + 3 * quart c0 c1 c2 c3 c4 (x + h)
        + 3 * quart c0 c1 c2 c3 c4 (x + 2 * h) + quart c0 c1 c2 c3 c4 (x + 3 * h))
      = quartInt c0 c1 c2 c3 c4 (x + 3 * h) - quartInt c0 c1 c2 c3 c4 x
        + 3 * h ^ 5 / 80 * (24 * c4) := by
  unfold quart quartInt; ring

/-- Trapezoid on one segment, cubic: exact up to `(h²/12)·(f'(x+h) − f'(x))`. -/
theorem trapezoid_panel (c0 c1 c2 c3 x h : K) :
    h / 2 * (quart c0 c1 c2 c3 0 x + quart c0 c1 c2 c3 0 (x + h))
      = quartInt c0 c1 c2 c3 0 (x + h) - quartInt c0 c1 c2 c3 0 x
        + h ^ 2 / 12 * (quartDer c1 c2 c3 0 (x + h) - quartDer c1 c2 c3 0 x) := by
  unfold quart quartInt quartDer; ring

/-- The same three identities for the model's evaluation `evalSimple cs` of a coefficient list of
degree ≤ 4 (resp. ≤ 3) and any antiderivative `P`. -/
theorem panels_evalSimple (cs : List K) (P : K[X]) (hP : derivative P = ofCoeffs cs) (x h : K) :
    ((ofCoeffs cs).natDegree ≤ 4 →
      h / 3 * (evalSimple cs x + 4 * evalSimple cs (x + h) + evalSimple cs (x + 2 * h))
        = P.eval (x + 2 * h) - P.eval x + h ^ 5 / 90 * (24 * cs.getD 4 0)) ∧
    ((ofCoeffs cs).natDegree ≤ 4 →
      3 * h / 8 * (evalSimple cs x + 3 * evalSimple cs (x + h) + 3 * evalSimple cs (x + 2 * h)
          + evalSimple cs (x + 3 * h))
        = P.eval (x + 3 * h) - P.eval x + 3 * h ^ 5 / 80 * (24 * cs.getD 4 0)) ∧
    ((ofCoeffs cs).natDegree ≤ 3 →
      h / 2 * (evalSimple cs x + evalSimple cs (x + h))
        = P.eval (x + h) - P.eval x
          + h ^ 2 / 12 * ((derivative (ofCoeffs cs)).eval (x + h)
              - (derivative (ofCoeffs cs)).eval x)) := by
  simp only [evalSimple_eq, ← coeff_ofCoeffs]
  exact ⟨fun hd => poly_panel13 _ P hP hd x h, fun hd => poly_panel38 _ P hP hd x h,
    fun hd => poly_panel_trap _ P hP hd x h⟩

/-- Degree ≤ 8: the error of a 1/3 panel (resp. 3/8 panel) is a combination of values of `f⁗` at
points *inside the panel* with *positive* weights summing to `h⁵/90` (resp. `3h⁵/80`).  (These are
Gauss-type rules for the Peano kernels; they turn the textbook bound into algebra.) -/
theorem panels_degree8 (q P : K[X]) (hP : derivative P = q) (hq : q.natDegree ≤ 8) (x h : K) :
    (h / 3 * (q.eval x + 4 * q.eval (x + h) + q.eval (x + 2 * h))
      = P.eval (x + 2 * h) - P.eval x
        + h ^ 5 * (13 / 1890 * (derivative^[4] q).eval (x + h)
          + 2 / 945 * ((derivative^[4] q).eval (x + h / 2)
              + (derivative^[4] q).eval (x + 3 * h / 2)))) ∧
    (3 * h / 8 * (q.eval x + 3 * q.eval (x + h) + 3 * q.eval (x + 2 * h) + q.eval (x + 3 * h))
      = P.eval (x + 3 * h) - P.eval x
        + h ^ 5 * (13 / 1120 * (derivative^[4] q).eval (x + 3 * h / 2)
          + 1 / 96 * ((derivative^[4] q).eval (x + h) + (derivative^[4] q).eval (x + 2 * h))
          + 17 / 6720 * ((derivative^[4] q).eval (x + h / 2)
              + (derivative^[4] q).eval (x + 5 * h / 2)))) ∧
    ((13 : K) / 1890 + 2 * (2 / 945) = 1 / 90 ∧ (13 : K) / 1120 + 2 * (1 / 96) + 2 * (17 / 6720) = 3 / 80) :=
  ⟨poly_panel13_gen q P hP hq x h, poly_panel38_gen q P hP hq x h, by norm_num, by norm_num⟩

/-- The library's own `indefinite_integral` of `cs` is an antiderivative, so the hypothesis
`derivative P = q` of the theorems below is satisfiable; and the fourth derivative of a polynomial of
degree ≤ 4 is the constant `24·c₄`. -/
theorem antiderivative_exists (cs : List K) :
    derivative (ofCoeffs (simpleInteg cs)) = ofCoeffs cs ∧
    (∀ x, (ofCoeffs (simpleInteg cs)).eval x = evalSimple (simpleInteg cs) x) ∧
    ((ofCoeffs cs).natDegree ≤ 4 → derivative^[4] (ofCoeffs cs) = C (24 * cs.getD 4 0)) := by
  refine ⟨derivative_ofCoeffs_simpleInteg cs, fun x => (evalSimple_eq _ x).symm, fun hd => ?_⟩
  rw [← coeff_ofCoeffs]
  exact iterate_derivative_four _ hd

omit [CharZero K] in
/-- **Both polynomial types.**  A `SimplePolynomial` with coefficient list `cs` evaluates like
`ofCoeffs cs` (whose coefficients are the entries of `cs`, so at most `d + 1` entries give degree
≤ `d`); an `IntermediatePolynomial` with variable list `[v]` whose terms are `c` or `c·v^k` (`Denotes`;
any order, repeated exponents and zero coefficients allowed) evaluates like the polynomial those terms
denote, provided `powf` is the power function at natural exponents; a constant one (no variables)
like the constant. -/
theorem both_types_evaluate (powf : K → K → K) :
    (∀ (var : Option Char) (cs : List K),
      Evaluates powf (.simple ⟨cs, var⟩) (ofCoeffs cs) ∧ (∀ i, (ofCoeffs cs).coeff i = cs.getD i 0) ∧
      ∀ d, cs.length ≤ d + 1 → (ofCoeffs cs).natDegree ≤ d) ∧
    ((∀ (x : K) (k : ℕ), powf x (k : K) = x ^ k) → ∀ (v : String) (ts : List (Term K)) (q : K[X]),
      Denotes v ts q → Evaluates powf (.inter ⟨ts, [v]⟩) q) ∧
    (∀ ts : List (Term K), (∀ t ∈ ts, t.vars = []) →
      Evaluates powf (.inter ⟨ts, []⟩) (C (ts.map (·.coef)).sum)) :=
  ⟨fun var cs => ⟨simple_evaluates powf var cs, coeff_ofCoeffs cs,
      fun d hd => natDegree_ofCoeffs_le cs d hd⟩,
    fun hpow v ts q h => inter_evaluates powf hpow v ts q h,
    fun ts hts => inter_const_evaluates powf ts hts⟩

end panels

section simpson
variable {K : Type} [Field K] [CharZero K]

omit [CharZero K] in
/-- With one segment the integrator is the trapezoid rule `(b − a)·(f(a) + f(b))/2`, whatever the
degree. -/
theorem one_segment_is_trapezoid (powf : K → K → K) (p : AnyPoly K) (q : K[X])
    (hev : Evaluates powf p q) (a b : K) :
    definiteIntegralP powf p a b 1 = .ok ((b - a) * (q.eval a + q.eval b) / 2) :=
  definiteIntegral_one hev a b

/-- … and the trapezoid rule is exact for degree ≤ 1. -/
theorem trapezoid_exact_linear (powf : K → K → K) (p : AnyPoly K) (q : K[X])
    (hev : Evaluates powf p q) (hdeg : q.natDegree ≤ 1) (P : K[X]) (hP : derivative P = q)
    (a b : K) :
    definiteIntegralP powf p a b 1 = .ok (P.eval b - P.eval a) := by
  have hd : (derivative q).natDegree ≤ 0 := (natDegree_derivative_le q).trans (by omega)
  unfold definiteIntegralP definiteIntegral
  rw [if_pos rfl, trapezoid_cubic q P hP (by omega) hev a b 1 le_rfl,
    eq_C_of_natDegree_le_zero hd, eval_C, eval_C, sub_self, mul_zero, add_zero]
  rfl

/-- **Exactness.**  For every segment count `n ≥ 2` — even, odd, or 3 — every interval and every
polynomial of degree ≤ 3 of either type, the composite Simpson integrator returns the integral. -/
theorem simpson_exact_cubic (powf : K → K → K) (p : AnyPoly K) (q : K[X])
    (hev : Evaluates powf p q) (hdeg : q.natDegree ≤ 3) (P : K[X]) (hP : derivative P = q)
    (a b : K) (n : ℕ) (hn : 2 ≤ n) :
    definiteIntegralP powf p a b n = .ok (P.eval b - P.eval a) :=
  definiteIntegral_exact_cubic q P hP hdeg hev a b n hn

/-- **Exact error for degree ≤ 4.**  `rule − integral` is `(b−a)·h⁴·f⁗/180` for even `n` and
`(b−a−3h)·h⁴·f⁗/180 + 3h⁵·f⁗/80` for odd `n` (the 3/8 panel on the last three segments), where
`f⁗ = 24·c₄` is constant. -/
theorem simpson_error_quartic_exact (powf : K → K → K) (p : AnyPoly K) (q : K[X])
    (hev : Evaluates powf p q) (hdeg : q.natDegree ≤ 4) (P : K[X]) (hP : derivative P = q)
    (a b : K) (n : ℕ) (hn : 2 ≤ n) :
    ∃ v, definiteIntegralP powf p a b n = .ok v ∧
      v - (P.eval b - P.eval a) =
        if n % 2 = 0 then (b - a) * ((b - a) / n) ^ 4 * (24 * q.coeff 4) / 180
        else (b - a - 3 * ((b - a) / n)) * ((b - a) / n) ^ 4 * (24 * q.coeff 4) / 180
          + 3 * ((b - a) / n) ^ 5 * (24 * q.coeff 4) / 80 := by
  have hnh := step_mul a b (show n ≠ 0 by omega)
  refine ⟨_, definiteIntegral_spec hev a b n hn (fun x => P.eval x) _ _
    (fun x => poly_panel13 _ P hP hdeg x _) (fun x => poly_panel38 _ P hP hdeg x _), ?_⟩
  rw [add_sub_cancel_left]
  generalize (b - a) / (n : K) = h at hnh ⊢
  by_cases hpar : n % 2 = 0
  · rw [if_pos hpar, if_pos hpar, ← hnh, ← cast_half_even (K := K) hpar]
    ring
  · rw [if_neg hpar, if_neg hpar, ← hnh,
      ← cast_half_odd (K := K) (show n % 2 = 1 by omega) (by omega)]
    ring

end simpson

section bounds
variable {K : Type} [Field K] [LinearOrder K] [IsStrictOrderedRing K]

/-- **Error bound, degree ≤ 4**, in terms of the coefficient: for every `n ≥ 2`,
`|rule − integral| ≤ |b−a|·h⁴·|f⁗|/80` with `f⁗ = 24·c₄`.  (For `n = 3` this is an equality.) -/
theorem simpson_error_quartic_partial (powf : K → K → K) (p : AnyPoly K) (q : K[X])
    (hev : Evaluates powf p q) (hdeg : q.natDegree ≤ 4) (P : K[X]) (hP : derivative P = q)
    (a b : K) (n : ℕ) (hn : 2 ≤ n) :
    ∃ v, definiteIntegralP powf p a b n = .ok v ∧
      |v - (P.eval b - P.eval a)| ≤ |b - a| * ((b - a) / n) ^ 4 * |24 * q.coeff 4| / 80 := by
  have hM : ∀ x, min a b ≤ x → x ≤ max a b → |(derivative^[4] q).eval x| ≤ |24 * q.coeff 4| :=
    fun x _ _ => by rw [iterate_derivative_four _ hdeg, eval_C]
  exact definiteIntegral_error_bound q P hP (by omega) hev a b _ n hn hM

/-- **The error bound of the statement, every degree 0 … 8**, every `n ≥ 2` (even, odd, 3), every
interval, both polynomial types: if `M` bounds `|f⁗|` on the interval then
`|rule − integral| ≤ |b−a|·h⁴·M/80`.  Holds over every ordered field (no analysis: `panels_degree8`). -/
theorem simpson_error_bound (powf : K → K → K) (p : AnyPoly K) (q : K[X])
    (hev : Evaluates powf p q) (hdeg : q.natDegree ≤ 8) (P : K[X]) (hP : derivative P = q)
    (a b M : K) (n : ℕ) (hn : 2 ≤ n)
    (hM : ∀ x, min a b ≤ x → x ≤ max a b → |(derivative^[4] q).eval x| ≤ M) :
    ∃ v, definiteIntegralP powf p a b n = .ok v ∧
      |v - (P.eval b - P.eval a)| ≤ |b - a| * ((b - a) / n) ^ 4 * M / 80 :=
  definiteIntegral_error_bound q P hP hdeg hev a b M n hn hM

/-- The same bound with no restriction on the degree — **outside the property** (whose polynomials
have degree 0 … 8; the identities of `panels_degree8` hold up to degree 9 and fail at 10) and **not
proved**: it needs the Peano-kernel argument over ℝ.  Kept visible only to mark where the proof stops. -/
def simpson_error_bound_any_degree (K : Type) [Field K] [LinearOrder K] [IsStrictOrderedRing K] :
    Prop :=
  ∀ (powf : K → K → K) (p : AnyPoly K) (q P : K[X]) (a b M : K) (n : ℕ),
    Evaluates powf p q → derivative P = q → 2 ≤ n →
    (∀ x, min a b ≤ x → x ≤ max a b → |(derivative^[4] q).eval x| ≤ M) →
    ∃ v, definiteIntegralP powf p a b n = .ok v ∧
      |v - (P.eval b - P.eval a)| ≤ |b - a| * ((b - a) / n) ^ 4 * M / 80

end bounds

section romberg_total
variable {S : Type} [Add S] [Sub S] [Mul S] [Div S] [Neg S] [OfNat S 0] [OfNat S 1] [NatCast S]
  [LT S] [DecidableRel (α := S) (· < ·)] [LE S] [DecidableRel (α := S) (· ≤ ·)]

/-- **Never a panic.**  For every scalar type (so for `Float` itself), polynomial of either type,
interval, iteration cap and tolerance, the outcome is a value or an error — never `panic`: every
table index stays below the dimension the source declares (`SV.Gen.rombergTableDim`, regenerated from
`vec![vec![0.0; N]; N]` on every run of the check), `2^iter`
fits `u32` and `4^(k−1)` fits `usize`.  The error is `MaxIterationsReached` or an evaluation error the
polynomial really produced. -/
theorem romberg_no_panic (powf : S → S → S) (p : AnyPoly S) (a b : S) (cap : ℕ) (tol : S) :
    (∃ v, rombergP powf p a b cap tol = .ok v) ∨
    rombergP powf p a b cap tol = .err .maxIterationsReached ∨
    (∃ e x, p.evalUni powf x = .error e ∧ rombergP powf p a b cap tol = .err (.functionError e)) := by
  have h := romberg_allowed (dim := SV.Gen.rombergTableDim) (by decide) (by decide)
    (p.evalUni powf) a b cap tol
  unfold rombergP
  cases hr : romberg SV.Gen.rombergTableDim (p.evalUni powf) a b cap tol with
  | ok v => exact Or.inl ⟨v, rfl⟩
  | err e =>
    rw [hr] at h
    cases e with
    | maxIterationsReached => exact Or.inr (Or.inl rfl)
    | functionError e =>
      obtain ⟨x, hx⟩ := h
      exact Or.inr (Or.inr ⟨e, x, hx, rfl⟩)
  | panic => rw [hr] at h; exact absurd h (by simp [Allowed])

/-- For a polynomial whose evaluation cannot fail (every `SimplePolynomial`, every univariate
`IntermediatePolynomial`): a value or `MaxIterationsReached`, nothing else. -/
theorem romberg_total_outcomes (powf : S → S → S) (p : AnyPoly S)
    (htot : ∀ x, ∃ y, p.evalUni powf x = .ok y) (a b : S) (cap : ℕ) (tol : S) :
    (∃ v, rombergP powf p a b cap tol = .ok v) ∨
    rombergP powf p a b cap tol = .err .maxIterationsReached := by
  rcases romberg_no_panic powf p a b cap tol with h | h | ⟨e, x, hx, _⟩
  · exact Or.inl h
  · exact Or.inr h
  · obtain ⟨y, hy⟩ := htot x
    rw [hy] at hx
    cases hx

omit [OfNat S 1] in
/-- The model's recursion bound (`fuel`, started at the clamped cap) is never what ends the loop:
any bound of at least `cap − iter` passes gives the same answer. -/
theorem romberg_fuel_irrelevant (f : S → Except PErr S) (a b tol : S) (cap fuel fuel' iter0 : ℕ)
    (T : Table S) (h1 : cap ≤ fuel + iter0) (h2 : cap ≤ fuel' + iter0) :
    rombergLoop f a b tol cap fuel iter0 T = rombergLoop f a b tol cap fuel' iter0 T :=
  rombergLoop_fuel f a b tol cap fuel fuel' iter0 T h1 h2

end romberg_total

section romberg_value
variable {K : Type} [Field K] [LinearOrder K] [IsStrictOrderedRing K]

/-- **Romberg is exact for degree ≤ 3** (extension): whenever it returns a value — whatever the cap
and the tolerance, converged or not in any sense — that value is the integral.  (The trapezoid sums
are `I + C/n²` exactly; the first extrapolation `(4T₂ₙ − Tₙ)/3` removes `C`, and the higher columns
are `(p·I − I)/(p − 1) = I`.) -/
theorem romberg_exact_cubic (powf : K → K → K) (p : AnyPoly K) (q : K[X])
    (hev : Evaluates powf p q) (hdeg : q.natDegree ≤ 3) (P : K[X]) (hP : derivative P = q)
    (a b : K) (cap : ℕ) (tol v : K) (h : rombergP powf p a b cap tol = .ok v) :
    v = P.eval b - P.eval a := by
  refine romberg_exact (P.eval b - P.eval a)
    ((b - a) ^ 2 / 12 * ((derivative q).eval b - (derivative q).eval a))
    _ _ a b tol cap ?_ v h
  intro m
  rw [trapezoid_cubic q P hP hdeg hev a b (2 ^ m) Nat.one_le_two_pow]
  congr 1
  have h4 : (4 : K) ^ m = ((2 ^ m : ℕ) : K) ^ 2 := by
    push_cast
    rw [← pow_mul, mul_comm, pow_mul]
    norm_num
  rw [h4, div_pow]
  ring

end romberg_value

/-- the hypotheses of the exactness and error theorems are satisfiable: a cubic over `ℚ` as a
`SimplePolynomial`, its antiderivative from the library's own `indefinite_integral`, and the conclusion
instantiated for an odd segment count -/
example : ∃ (cs : List ℚ) (P : ℚ[X]), (ofCoeffs cs).natDegree ≤ 3 ∧ derivative P = ofCoeffs cs ∧
    definiteIntegralP (fun x _ => x) (.simple ⟨cs, some 'x'⟩) 0 2 5 = .ok (P.eval 2 - P.eval 0) :=
  ⟨[1, 2, 3, 4], ofCoeffs (simpleInteg [1, 2, 3, 4]), natDegree_ofCoeffs_le _ 3 (by simp),
    derivative_ofCoeffs_simpleInteg _,
    simpson_exact_cubic _ _ _ (simple_evaluates _ _ _) (natDegree_ofCoeffs_le _ 3 (by simp)) _
      (derivative_ofCoeffs_simpleInteg _) 0 2 5 (by norm_num)⟩

/-- … and an `IntermediatePolynomial` `1 + 2x + 4x³` with a `powf` over `ℚ` that is the power function
at natural exponents: it `Evaluates`, and the model integrates it exactly with 5 segments -/
example : ∃ powf : ℚ → ℚ → ℚ, (∀ (x : ℚ) (k : ℕ), powf x (k : ℚ) = x ^ k) ∧
    Evaluates powf (.inter ⟨[⟨1, []⟩, ⟨2, [("x", ((1 : ℕ) : ℚ))]⟩, ⟨4, [("x", ((3 : ℕ) : ℚ))]⟩], ["x"]⟩)
      (C 1 + (C 2 * X ^ 1 + (C 4 * X ^ 3 + 0))) ∧
    definiteIntegralP powf
      (.inter ⟨[⟨1, []⟩, ⟨2, [("x", ((1 : ℕ) : ℚ))]⟩, ⟨4, [("x", ((3 : ℕ) : ℚ))]⟩], ["x"]⟩) 0 2 5
      = .ok 22 := by
  refine ⟨fun x y => if y.den = 1 then x ^ y.num.toNat else 0, fun x k => by simp, ?_, by decide +kernel⟩
  exact inter_evaluates _ (fun x k => by simp) "x" _ _
    (Denotes.const 1 (Denotes.pow 2 1 (Denotes.pow 4 3 Denotes.nil)))

/-- the model really computes: Simpson with 3 segments on `x³` over `[0, 3]` is `81/4`, and on `x⁴`
over `[0, 3]` it is `243/5 + 3·24/80` (the exact error term of `simpson_error_quartic_exact`) -/
example : definiteIntegralP (fun x _ => x) (.simple ⟨[0, 0, 0, (1 : ℚ)], some 'x'⟩) 0 3 3
    = .ok (81 / 4) := by decide +kernel
example : definiteIntegralP (fun x _ => x) (.simple ⟨[0, 0, 0, 0, (1 : ℚ)], some 'x'⟩) 0 3 3
    = .ok (243 / 5 + 3 * 24 / 80) := by decide +kernel

/-- Romberg does return values (so `romberg_exact_cubic` is not vacuous), and does return its
non-convergence error on the integral-zero input of D11 with a cap far beyond the table -/
example : rombergP (fun x _ => x) (.simple ⟨[1, 2, 3, (4 : ℚ)], some 'x'⟩) 0 2 5 1 = .ok 30 := by
  decide +kernel
example : rombergP (fun x _ => x) (.simple ⟨[0, 0, 0, (1 : ℚ)], some 'x'⟩) (-1) 1 1000 (-1)
    = .err .maxIterationsReached := by
  rcases romberg_total_outcomes (fun x _ => x) (.simple ⟨[0, 0, 0, (1 : ℚ)], some 'x'⟩)
    (fun x => ⟨_, simple_evaluates _ _ _ x⟩) (-1) 1 1000 (-1) with ⟨v, hv⟩ | h
  · exact absurd (romberg_ok hv) (by norm_num)
  · exact h

end SV.Props.C05
