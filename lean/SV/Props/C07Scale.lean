import SV.Model.C07
import SV.Lemmas.C07
import SV.Lemmas.C06
import Mathlib.Algebra.Order.Field.Basic
import Mathlib.Tactic.Ring
/-!
# C07 — Newton–Raphson does not see a constant factor of the function

Multiplying the target function (and with it its derivative) by a constant `c ≠ 0` changes neither
the Newton update `x − g(x)/g'(x)` nor the tests the algorithm makes — `g'(x) == 0` and the relative
step `|Δ/x|·100 < tol`, which looks at the iterates only — so the whole result (root / error kind /
passes) is unchanged (`newtonCore_scale`, `newton_scale_coeffs`).  The sections below do the same for
bisection, up to its absolute residual gate, and for a rescaling of the variable.
-/

namespace SV.Props.C07Scale
open SV SV.Poly SV.C07 Polynomial
open SV.C06 (SolveMode SErr target evOf targetPoly)
open SV.C06 (BState Res bisectPass bisectLoop bisectCore bisection finish signTest signumS midpoint gate)

variable {K : Type} [Field K] [LinearOrder K] [IsStrictOrderedRing K]

/-- `ev₂` is `c` times `ev`: same evaluation errors, values multiplied by `c` -/
def ScaledBy (c : K) (ev₂ ev : K → Except PErr K) : Prop :=
  ∀ x, ev₂ x = (ev x).map (c * ·)

/-- the Newton update is the same for `(c·g, c·g')` and for `(g, g')`: same evaluation error, the
derivative vanishes at the same points, and `x − (c·g)/(c·g') = x − g/g'` -/
theorem newtonStep_scale {c : K} (hc : c ≠ 0) {ev₂ ev dv₂ dv : K → Except PErr K}
    (hev : ScaledBy c ev₂ ev) (hdv : ScaledBy c dv₂ dv) (xo : K) :
    newtonStep ev₂ dv₂ xo = newtonStep ev dv xo := by
  unfold newtonStep
  rw [hev xo, hdv xo]
  cases ev xo with
  | error e => rfl
  | ok gv =>
    cases dv xo with
    | error e => rfl
    | ok d =>
      simp only [Except.map, beq_iff_eq, mul_eq_zero, hc, false_or]
      rw [mul_div_mul_left _ _ hc]

theorem newtonLoop_scale {c : K} (hc : c ≠ 0) {ev₂ ev dv₂ dv : K → Except PErr K}
    (hev : ScaledBy c ev₂ ev) (hdv : ScaledBy c dv₂ dv) (tol : K) (fuel k : Nat) (xo : K) :
    newtonLoop ev₂ dv₂ tol fuel k xo = newtonLoop ev dv tol fuel k xo := by
  induction fuel generalizing k xo with
  | zero => unfold newtonLoop; rw [newtonStep_scale hc hev hdv]
  | succ n ih =>
    unfold newtonLoop; rw [newtonStep_scale hc hev hdv]
    cases newtonStep ev dv xo with
    | fail e => rfl
    | poisoned => rfl
    | next x => simp only [ih]

theorem newtonCore_scale {c : K} (hc : c ≠ 0) {ev₂ ev dv₂ dv : K → Except PErr K}
    (hev : ScaledBy c ev₂ ev) (hdv : ScaledBy c dv₂ dv) (x0 tol : K) (itermax : Nat) :
    newtonCore ev₂ dv₂ x0 tol itermax = newtonCore ev dv x0 tol itermax :=
  newtonLoop_scale hc hev hdv tol _ _ _

theorem newtonCore_scale_fun {c : K} (hc : c ≠ 0) {g₂ g g₂' g' : K → K}
    (hg : ∀ x, g₂ x = c * g x) (hg' : ∀ x, g₂' x = c * g' x) (x0 tol : K) (itermax : Nat) :
    newtonCore (evOf g₂) (evOf g₂') x0 tol itermax = newtonCore (evOf g) (evOf g') x0 tol itermax :=
  newtonCore_scale hc (fun x => by simp [evOf, Except.map, hg]) (fun x => by simp [evOf, Except.map, hg'])
    x0 tol itermax

omit [LinearOrder K] [IsStrictOrderedRing K] in
private theorem targetPoly_map_mul (c : K) (cs : List K) (mode : SolveMode) :
    targetPoly (cs.map (c * ·)) mode = C c * targetPoly cs mode := by
  cases mode
  · exact ofCoeffsFrom_map_mul c 0 cs
  · show derivative (ofCoeffsFrom 0 (cs.map (c * ·))) = C c * derivative (ofCoeffsFrom 0 cs)
    rw [ofCoeffsFrom_map_mul, derivative_C_mul]

/-- `newton_raphson_method` on a dense polynomial, both modes -/
theorem newton_scale_coeffs (powf : K → K → K) {c : K} (hc : c ≠ 0) (cs : List K) (v : Option Char)
    (x0 tol : K) (itermax : Nat) (mode : SolveMode) :
    newton powf (.simple ⟨cs.map (c * ·), v⟩) x0 tol itermax mode =
      newton powf (.simple ⟨cs, v⟩) x0 tol itermax mode := by
  rw [newton_simple, newton_simple]
  apply newtonCore_scale_fun hc
  · intro x; rw [targetPoly_map_mul, eval_mul, eval_C]
  · intro x; rw [targetPoly_map_mul, derivative_C_mul, eval_mul, eval_C]

/-- `−7·(x² − 4)` from `5/2`, 10 % tolerance: a root is returned, after two passes -/
example : newton (fun _ _ => 0) (.simple ⟨[-4, 0, 1].map ((-7 : ℚ) * ·), none⟩) (5 / 2) 10 5 .root
    = ⟨.ok (3281 / 1640), 2⟩ :=
  NRes.ext (by decide +kernel) (by decide +kernel)

/-! ## bisection

The loop of the bisection model (`SV.C06`) looks at the function only through the sign of
`f(lower)·f(mid)` and through `f(lower) == 0`, both unchanged by `g ↦ c·g` for every `c ≠ 0`
(also negative `c`: the product picks up `c²`).  So the passes and the point handed to the residual
gate are the same.  The gate `|g(x)| < 1e-4` after the loop is an absolute test, part of the
property's statement, and the only place where `c` is seen: the final `Ok(x)` / `NoConvergence`
verdict is not invariant (`bisect_gate_not_scale_invariant`). -/
section bisection

/-- a pass sees `(c·a)(c·b) = c²·ab`, which has the sign of `ab`, and `c·a = 0` exactly when `a = 0` -/
theorem bisectPass_scale {c : K} (hc : c ≠ 0) {ev₂ ev : K → Except PErr K}
    (hev : ScaledBy c ev₂ ev) (first : Bool) (st : BState K) :
    bisectPass ev₂ first st = bisectPass ev first st := by
  have hcc : 0 < c * c := mul_self_pos.mpr hc
  rw [SV.C06.bisectPass_eq, SV.C06.bisectPass_eq, hev, hev]
  cases ev st.lower with
  | error e => rfl
  | ok fl =>
    cases ev ((st.lower + st.upper) / 2) with
    | error e => rfl
    | ok fm =>
      exact congrArg Except.ok (SV.C06.passOf_congr
        (by rw [mul_mul_mul_comm]
            exact ⟨fun h => (pos_iff_neg_of_mul_neg h).mp hcc, mul_neg_of_pos_of_neg hcc⟩)
        (by rw [mul_mul_mul_comm]; exact mul_pos_iff_of_pos_left hcc)
        (by rw [mul_eq_zero, or_iff_right hc]) first st)

/-- where the loop of `bisection` leaves: with a finished result (evaluation error, or the cap), or
with the state and pass count it hands to the residual gate (`finish`) -/
def bisectPre (ev : K → Except PErr K) (tol : K) : Nat → Nat → BState K → Res K ⊕ (BState K × Nat)
  | 0, k, st =>
    match bisectPass ev (k == 0) st with
    | .error e => .inl ⟨.err (.functionError e), k + 1, st.lower, st.upper⟩
    | .ok st' => .inl ⟨.err .maxIterationsReached, k + 1, st'.lower, st'.upper⟩
  | rem + 1, k, st =>
    match bisectPass ev (k == 0) st with
    | .error e => .inl ⟨.err (.functionError e), k + 1, st.lower, st.upper⟩
    | .ok st' =>
      if sabs st'.aerr < tol then .inr (st', k + 1)
      else bisectPre ev tol rem (k + 1) st'

theorem bisectPre_scale {c : K} (hc : c ≠ 0) {ev₂ ev : K → Except PErr K}
    (hev : ScaledBy c ev₂ ev) (tol : K) (rem k : Nat) (st : BState K) :
    bisectPre ev₂ tol rem k st = bisectPre ev tol rem k st := by
  induction rem generalizing k st with
  | zero => unfold bisectPre; rw [bisectPass_scale hc hev]
  | succ n ih =>
    unfold bisectPre; rw [bisectPass_scale hc hev]
    cases bisectPass ev (k == 0) st with
    | error e => rfl
    | ok st' => simp only [ih]

omit [IsStrictOrderedRing K] in
private theorem finish_scale_out {c : K} {ev₂ ev : K → Except PErr K}
    (hev : ScaledBy c ev₂ ev) (st : BState K) (p : Nat) :
    (finish ev₂ st p).out = (finish ev st p).out ∨
      ((finish ev₂ st p).out = .ok st.x ∧ (finish ev st p).out = .err .noConvergence) ∨
      ((finish ev₂ st p).out = .err .noConvergence ∧ (finish ev st p).out = .ok st.x) := by
  unfold finish
  rw [hev st.x]
  cases ev st.x with
  | error e => exact Or.inl rfl
  | ok v =>
    simp only [Except.map]
    split_ifs
    · exact Or.inl rfl
    · exact Or.inr (Or.inl ⟨rfl, rfl⟩)
    · exact Or.inr (Or.inr ⟨rfl, rfl⟩)
    · exact Or.inl rfl

theorem bisectLoop_scale_bracket {c : K} (hc : c ≠ 0) {ev₂ ev : K → Except PErr K}
    (hev : ScaledBy c ev₂ ev) (tol : K) (rem k : Nat) (st : BState K) :
    (bisectLoop ev₂ tol rem k st).passes = (bisectLoop ev tol rem k st).passes ∧
    (bisectLoop ev₂ tol rem k st).lower = (bisectLoop ev tol rem k st).lower ∧
    (bisectLoop ev₂ tol rem k st).upper = (bisectLoop ev tol rem k st).upper :=
  SV.C06.bisectLoop_congr_bracket (bisectPass_scale hc hev) tol rem k st

/-- the outcomes on `c·g` and on `g` are equal, or `Ok(x)` on one side and `NoConvergence` on the
other: the gate decided differently.  (That it is the same candidate `x` is in `finish_scale_out`, not
in this statement.) -/
theorem bisectLoop_scale_out_upToGate {c : K} (hc : c ≠ 0) {ev₂ ev : K → Except PErr K}
    (hev : ScaledBy c ev₂ ev) (tol : K) (rem k : Nat) (st : BState K) :
    (bisectLoop ev₂ tol rem k st).out = (bisectLoop ev tol rem k st).out ∨
      (∃ x, (bisectLoop ev₂ tol rem k st).out = .ok x ∧
        (bisectLoop ev tol rem k st).out = .err .noConvergence) ∨
      (∃ x, (bisectLoop ev₂ tol rem k st).out = .err .noConvergence ∧
        (bisectLoop ev tol rem k st).out = .ok x) := by
  rcases SV.C06.bisectLoop_congr (bisectPass_scale hc hev) tol rem k st with h | ⟨st', p, h₂, h₁⟩
  · exact Or.inl (congrArg Res.out h)
  · rw [h₂, h₁]
    rcases finish_scale_out hev st' p with h | h | h
    · exact Or.inl h
    · exact Or.inr (Or.inl ⟨_, h⟩)
    · exact Or.inr (Or.inr ⟨_, h⟩)

/-- `0 < |c| ≤ 1`: a root returned for `g` passes the gate for `c·g` a fortiori -/
theorem bisectLoop_scale_ok_of_le_one {c : K} (hc : c ≠ 0) (hc1 : |c| ≤ 1)
    {ev₂ ev : K → Except PErr K} (hev : ScaledBy c ev₂ ev) (tol : K) (rem k : Nat) (st : BState K)
    (x : K) (h : (bisectLoop ev tol rem k st).out = .ok x) :
    bisectLoop ev₂ tol rem k st = bisectLoop ev tol rem k st := by
  rcases SV.C06.bisectLoop_congr (bisectPass_scale hc hev) tol rem k st with h' | ⟨st', p, h₂, h₁⟩
  · exact h'
  · rw [h₁] at h
    obtain ⟨rfl, y, hy, hg⟩ := SV.C06.finish_out_ok h
    have h₂' : (finish ev₂ st' p).out = .ok st'.x :=
      SV.C06.finish_ok_of_small (y := c * y) (by rw [hev, hy]; rfl)
        (by rw [abs_mul]; exact lt_of_le_of_lt (mul_le_of_le_one_left (abs_nonneg y) hc1) hg)
    rw [h₂, h₁, SV.C06.finish_eta ev₂, SV.C06.finish_eta ev, h₂', h]

theorem bisectCore_scale_bracket {c : K} (hc : c ≠ 0) {ev₂ ev : K → Except PErr K}
    (hev : ScaledBy c ev₂ ev) (lo init hi tol : K) (itermax : Nat) :
    (bisectCore ev₂ lo init hi tol itermax).passes = (bisectCore ev lo init hi tol itermax).passes ∧
    (bisectCore ev₂ lo init hi tol itermax).lower = (bisectCore ev lo init hi tol itermax).lower ∧
    (bisectCore ev₂ lo init hi tol itermax).upper = (bisectCore ev lo init hi tol itermax).upper := by
  unfold bisectCore
  split_ifs
  · exact ⟨rfl, rfl, rfl⟩
  · exact bisectLoop_scale_bracket hc hev tol _ _ _

/-- `g(x) = (x − 1/3)/10⁵` on `[0, 1]` with a 50 % tolerance stops after three passes at `x = 3/8` and
returns it, because `|g(3/8)| < 1e-4`; the same run on `10⁵·g` reaches the same `x = 3/8` and answers
`NoConvergence`. -/
theorem bisect_gate_not_scale_invariant :
    (bisectCore (evOf fun x : ℚ => (x - 1 / 3) / 100000) 0 (1 / 2) 1 50 10).out = .ok (3 / 8) ∧
    (bisectCore (evOf fun x : ℚ => 100000 * ((x - 1 / 3) / 100000)) 0 (1 / 2) 1 50 10).out
      = .err .noConvergence := by
  constructor <;> decide +kernel

/-- `bisection` on a dense polynomial, both modes -/
theorem bisection_scale_coeffs_bracket (powf : K → K → K) {c : K} (hc : c ≠ 0) (cs : List K)
    (v : Option Char) (lo init hi tol : K) (itermax : Nat) (mode : SolveMode) :
    (bisection powf (.simple ⟨cs.map (c * ·), v⟩) lo init hi tol itermax mode).passes =
      (bisection powf (.simple ⟨cs, v⟩) lo init hi tol itermax mode).passes ∧
    (bisection powf (.simple ⟨cs.map (c * ·), v⟩) lo init hi tol itermax mode).lower =
      (bisection powf (.simple ⟨cs, v⟩) lo init hi tol itermax mode).lower ∧
    (bisection powf (.simple ⟨cs.map (c * ·), v⟩) lo init hi tol itermax mode).upper =
      (bisection powf (.simple ⟨cs, v⟩) lo init hi tol itermax mode).upper := by
  rw [SV.C06.bisection_simple, SV.C06.bisection_simple]
  apply bisectCore_scale_bracket hc
  intro x
  simp only [evOf, Except.map, targetPoly_map_mul, eval_mul, eval_C]

end bisection

/-! ## rescaling the variable

The stopping test of Newton's method is relative (`|Δ/x|·100 < tol`), so it does not see the unit in
which `x` is measured: the iteration for `t ↦ g(t/s)` from `s·x0` is `s` times the iteration for `g`
from `x0`, pass by pass, with the same verdict. -/
section rescale

def NRes.scale (s : K) (r : NRes K) : NRes K :=
  ⟨match r.out with | .ok x => .ok (s * x) | .err e => .err e | .panic => .panic, r.passes⟩

/-- the stopping test does not see a common factor `s ≠ 0` of the two iterates -/
theorem converged_scale_x {s : K} (hs : s ≠ 0) (x xo tol : K) :
    converged (s * x) (s * xo) tol = converged x xo tol := by
  rw [Bool.eq_iff_iff, SV.C07.converged_iff, SV.C07.converged_iff, ← mul_sub, abs_mul, abs_mul,
    mul_assoc, mul_left_comm tol, mul_lt_mul_iff_right₀ (abs_pos.mpr hs)]
  simp only [ne_eq, mul_eq_zero, hs, false_or]

omit [LinearOrder K] [IsStrictOrderedRing K] in
theorem newtonMap_rescale {s : K} (hs : s ≠ 0) (g g' : K → K) (x : K) :
    newtonMap (fun t => g (t / s)) (fun t => g' (t / s) / s) (s * x) = s * newtonMap g g' x := by
  have hquot : g x / (g' x / s) = s * (g x / g' x) := by
    rw [div_div_eq_mul_div, mul_comm, mul_div_assoc]
  simp only [newtonMap, mul_div_cancel_left₀ _ hs]
  rw [hquot, mul_sub]

/-- `t ↦ g'(t/s)/s` is the derivative of `t ↦ g(t/s)` (chain rule, supplied by hand: `g'` is any
function here) -/
theorem newtonLoop_rescale {s : K} (hs : s ≠ 0) (g g' : K → K) (tol : K) (fuel k : Nat) (xs : K) :
    newtonLoop (evOf fun t => g (t / s)) (evOf fun t => g' (t / s) / s) tol fuel k (s * xs) =
      NRes.scale s (newtonLoop (evOf g) (evOf g') tol fuel k xs) := by
  induction fuel generalizing k xs with
  | zero =>
    rw [newtonLoop_evOf_zero, newtonLoop_evOf_zero]
    rfl
  | succ n ih =>
    have hd : g' (s * xs / s) / s = 0 ↔ g' xs = 0 := by
      rw [mul_div_cancel_left₀ _ hs, div_eq_zero_iff, or_iff_left hs]
    rw [newtonLoop_evOf_succ, newtonLoop_evOf_succ, newtonMap_rescale hs, converged_scale_x hs]
    simp only [hd]
    split_ifs
    · rfl
    · rfl
    · exact ih (k + 1) _

theorem newtonCore_rescale {s : K} (hs : s ≠ 0) (g g' : K → K) (x0 tol : K) (itermax : Nat) :
    newtonCore (evOf fun t => g (t / s)) (evOf fun t => g' (t / s) / s) (s * x0) tol itermax =
      NRes.scale s (newtonCore (evOf g) (evOf g') x0 tol itermax) :=
  newtonLoop_rescale hs g g' tol _ _ _

/-- Arithmetic only: the step from `1/2` to `1` passes an absolute test `|Δ| < 1`, the same step in a
unit ten times smaller (`5 → 10`) does not; no such test occurs in the model, whose relative test
gives the same answer on both (`converged_scale_x`). -/
theorem abs_step_test_not_rescale_invariant :
    (|(1 : ℚ) - 1 / 2| < 1 ∧ ¬ |10 * (1 : ℚ) - 10 * (1 / 2)| < 1) ∧
      converged (10 * (1 : ℚ)) (10 * (1 / 2)) 1 = converged (1 : ℚ) (1 / 2) 1 := by
  refine ⟨⟨by norm_num, by norm_num⟩, converged_scale_x (by norm_num) _ _ _⟩

end rescale

end SV.Props.C07Scale
