import SV.Props.C14
import SV.Lemmas.Fold
/-!
# C14 — the Hessenberg reduction on already reduced input; the skip test is an exact zero test

The skip test of the code (`x = Σ_{i=k+1}^{n-1} h[i][k]²`, `norm_x = x.sqrt()`,
`if norm_x == 0.0 { continue }`) looks at the WHOLE sub-column from row `k+1` on — the sub-diagonal
entry `h[k+1][k]` included.  So the class of inputs on which every pass is skipped is not "upper
Hessenberg" but "every column `k < n-2` is zero below the diagonal" (upper triangular, except that the
last sub-diagonal entry `A[n-1][n-2]` is free — no pass looks at it).  For that class the reduction
returns `(A, I)` exactly (`hessenberg_of_triangular`).  For an upper Hessenberg input with a non-zero
sub-diagonal entry the reflector IS applied (it flips the sign of that entry — see the `ℚ` example),
so `(A, I)` is NOT what the code returns there; idempotence holds on the triangular class only
(`hessenberg_idem_of_triangular`).

The last examples are the `ℚ` witness that the skip test is an exact zero test: a sub-column
`(0, 10⁻¹²)ᵀ` is not skipped.
-/
namespace SV.Props.C14Laws
open SV SV.C14 Finset

variable {K : Type} [Field K] [LinearOrder K] [IsStrictOrderedRing K] [Inhabited K]

set_option linter.unusedSectionVars false in
/-- the hypothesis `sqrt 0 = 0` follows from the hypothesis on `sqrt` the other C14 theorems use -/
theorem sqrt_zero_of_isSqrt (sqrt : K → K)
    (hs : ∀ x : K, 0 ≤ x → sqrt x * sqrt x = x ∧ 0 ≤ sqrt x) : sqrt 0 = 0 :=
  mul_self_eq_zero.mp (hs 0 le_rfl).1

omit [LinearOrder K] [IsStrictOrderedRing K] in
theorem colNormSq_zero (n k : Nat) (H : Mat K)
    (hz : ∀ i, k < i → i < n → H.get i k = 0) : colNormSq n k H = 0 := by
  rw [colNormSq_eq]
  apply Finset.sum_eq_zero
  intro t ht
  have := Finset.mem_range.mp ht
  rw [hz (k + 1 + t) (by omega) (by omega), mul_zero]

/-- **One pass on a column that is zero below the diagonal takes the skip branch**: the state
`(h, q)` is returned unchanged, whatever `q` is.  Only `sqrt 0 = 0` is used of `sqrt`. -/
theorem step_of_zero_subcol (sqrt : K → K) (h0 : sqrt 0 = 0) (n k : Nat) (s : Mat K × Mat K)
    (hz : ∀ i, k < i → i < n → s.1.get i k = 0) : step sqrt n k s = s := by
  apply SV.Props.C14.step_skip
  show sqrt (colNormSq n k s.1) = 0
  rw [colNormSq_zero n k s.1 hz, h0]

/-- **The reduction is the identity on already reduced input, with `Q = I` exactly.**  If `A` is
square and every column `k < n-2` is zero below the diagonal (`A[i][k] = 0` for `k < i < n`; this is
what the code's skip test reads: the whole sub-column from row `k+1`), then every pass of the loop
is skipped and `hessenberg` returns `(A, I)` — the very same buffer, no entry recomputed. -/
theorem hessenberg_of_triangular (sqrt : K → K) (h0 : sqrt 0 = 0) (A : Mat K) (hsq : A.h = A.w)
    (hz : ∀ i k, k + 2 < A.h → k < i → i < A.h → A.get i k = 0) :
    hessenberg sqrt A = .ok (A, Mat.ident A.h) := by
  rw [hessenberg_eq_fold sqrt A hsq, foldl_fix]
  intro k hk
  have hk' : k < A.h - 2 := List.mem_range.mp hk
  exact step_of_zero_subcol sqrt h0 A.h k _ fun i hi hin => hz i k (by omega) hi hin

/-- the same for upper TRIANGULAR input (`A[i][j] = 0` whenever `j < i`) -/
theorem hessenberg_of_upper_triangular (sqrt : K → K) (h0 : sqrt 0 = 0) (A : Mat K)
    (hsq : A.h = A.w) (hz : ∀ i j, j < i → i < A.h → A.get i j = 0) :
    hessenberg sqrt A = .ok (A, Mat.ident A.h) :=
  hessenberg_of_triangular sqrt h0 A hsq fun i k _ hi hin => hz i k hi hin

/-- **Idempotence on the class the skip test supports**: if a run returned `(H, Q)` and `H` is
square with zero columns below the diagonal (for `k < n-2`), a second run on `H` returns `(H, I)`.
This is `hessenberg_of_triangular` at `H` (`_hr` is not used); the `H` of a run that reflected has
a non-zero sub-diagonal entry and is outside the class. -/
theorem hessenberg_idem_of_triangular (sqrt : K → K) (h0 : sqrt 0 = 0) (A H Q : Mat K)
    (_hr : hessenberg sqrt A = .ok (H, Q)) (hsq : H.h = H.w)
    (hz : ∀ i k, k + 2 < H.h → k < i → i < H.h → H.get i k = 0) :
    hessenberg sqrt H = .ok (H, Mat.ident H.h) :=
  hessenberg_of_triangular sqrt h0 H hsq hz

/-- **A run on such an input, run again on its own result, is the same result** -/
theorem hessenberg_twice_of_triangular (sqrt : K → K) (h0 : sqrt 0 = 0) (A : Mat K)
    (hsq : A.h = A.w) (hz : ∀ i k, k + 2 < A.h → k < i → i < A.h → A.get i k = 0) :
    (hessenberg sqrt A).bind (fun r => hessenberg sqrt r.1) = hessenberg sqrt A := by
  rw [hessenberg_of_triangular sqrt h0 A hsq hz]
  exact hessenberg_of_triangular sqrt h0 A hsq hz

/-- a rational "square root" exact on `0`, `9` and `10⁻²⁴` -/
private def sq (x : Rat) : Rat :=
  if x = 9 then 3 else if x = 1 / 10 ^ 24 then 1 / 10 ^ 12 else 0

/-- an upper triangular 4×4 matrix, except for the free entry `T[3][2] = 7` -/
private def T : Mat Rat := ⟨4, 4, #[1, 2, 3, 4, 0, 5, 6, 7, 0, 0, 8, 9, 0, 0, 7, 1]⟩

example : hessenberg sq T = .ok (T, Mat.ident 4) :=
  hessenberg_of_triangular sq (by decide +kernel) T rfl fun i k hk hi hin =>
    (by decide +kernel : ∀ i < 4, ∀ k < 2, k < i → T.get i k = 0) i hin k
      (by have : k + 2 < 4 := hk; omega) hi

example (A : Mat ℝ) (hsq : A.h = A.w) (hz : ∀ i j, j < i → i < A.h → A.get i j = 0) :
    hessenberg Real.sqrt A = .ok (A, Mat.ident A.h) :=
  hessenberg_of_upper_triangular Real.sqrt Real.sqrt_zero A hsq hz

/-- **"Upper Hessenberg" is NOT enough**: the 3×3 upper Hessenberg matrix with first column
`(1, 3, 0)ᵀ` is not skipped (the test reads `h[1][0]` too, `norm_x = 3`); the reflector flips the
sign of the sub-diagonal entry, `H[1][0] = -3`, and `Q ≠ I` (`Q[1][1] = -1`). -/
example : (match hessenberg sq (⟨3, 3, #[1, 2, 3, 3, 1, 0, 0, 0, 1]⟩ : Mat Rat) with
    | .ok (H, Q) => H.get 1 0 == -3 && H.get 2 0 == 0 && Q.get 1 1 == -1 | _ => false) = true := by
  decide +kernel

/-- **The skip test is an EXACT zero test**: the sub-column `(0, 10⁻¹²)ᵀ` (`norm_x = 10⁻¹²`, far
below any absolute tolerance such as `1e-10`) is NOT skipped: the reflector is applied, `H[2][0] = 0`
and `H[1][0] = -10⁻¹²` afterwards, and `Q` is not the identity (`Q[1][1] = 0`, `Q[1][2] = -1`) — so the result differs from the `(A, I)` a
skipping implementation would return. -/
example : (match hessenberg sq (⟨3, 3, #[1, 2, 3, 0, 1, 0, 1 / 10 ^ 12, 0, 1]⟩ : Mat Rat) with
    | .ok (H, Q) => H.get 2 0 == 0 && H.get 1 0 == -1 / 10 ^ 12 && Q.get 1 1 == 0 && Q.get 1 2 == -1
        && Q.a != (Mat.ident 3 : Mat Rat).a
    | _ => false) = true := by
  decide +kernel

end SV.Props.C14Laws
