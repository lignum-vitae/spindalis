import SV.Lemmas.C19Show
import SV.Lemmas.C19Norm
/-!
# C19 — rendering a parsed tree to text and parsing that text again denotes the same function

`display fmtDec e` is the model of `Display for Expr` (`fmtDec` = the shortest decimal `{}` prints for an
exact decimal literal).  The theorems are about every *well-formed* tree `Wf e` (`SV.Lemmas.C19Print`):
literals unsigned, variables one ASCII letter other than `e`/`E`, prefix nodes unary minus, postfix nodes
`!`, binary nodes never the temporary `·` nor `!`.  `parse_wf` shows that these are the trees the pipeline
`lex`, `parseTokens`, `fold` produces, so nothing about the parser is assumed.

"The same" is `norm e' = norm e`: equal up to `paren` flags (the printer adds parentheses where folding
lost a flag) and up to the spelling of literals (`1.50` is printed `1.5`); `display_reparse_eval` turns this
into equality of values under every interpretation of variables, constants, functions, `!`, `%`, `^`.

The proof is `SV.C19.render_displays` (`SV.Lemmas.C19Show`): the lexer reads the printed text as the tokens
the printer meant (number spellings lex back to the canonical literal, no two spellings run into each
other), and the Pratt parser reads those tokens back as a tree with the same `norm` (they are a canonical
reading `SV.C19.CR`, every operand at the level at which `fmt_operand` decided about its parentheses, and the parser
returns every canonical reading: `SV.C19.CR.reads`).
-/
namespace SV.Props.C19Display
open SV SV.Text SV.C19

/-- The trees of the pipeline are well formed: the lexer's tokens are, the parser keeps it, folding keeps it. -/
theorem parse_wf (s : List Char) (ts : List (Tok Dec)) (e : Expr Dec) (hl : lex s = .ok ts)
    (hp : parseTokens ts = .ok e) : Wf e ∧ Wf (fold decTests e) :=
  have h := parseTokens_wf hp (lex_wf hl)
  ⟨h, fold_wf h⟩

/-- the statement of the display clause, for one tree -/
def display_reparse_statement (e : Expr Dec) : Prop :=
  ∃ ts' e', lex (display fmtDec e).toList = .ok ts' ∧ parseTokens ts' = .ok e' ∧ norm e' = norm e

/-- **Rendering a well-formed tree to text and parsing that text again gives the same tree** up to `paren`
flags and literal spelling. -/
theorem display_reparse (e : Expr Dec) (h : Wf e) : display_reparse_statement e := by
  obtain ⟨ts, e', hn, hs, hr⟩ := render_displays h
  exact ⟨ts, e', hs.lex, hr.parse, hn⟩

/-- For every text the pipeline accepts, both the unfolded tree and the folded tree (what `parser` returns)
are displayed as text that parses back to the same tree. -/
theorem display_reparse_pipeline (s : List Char) (ts : List (Tok Dec)) (e : Expr Dec) (hl : lex s = .ok ts)
    (hp : parseTokens ts = .ok e) :
    display_reparse_statement e ∧ display_reparse_statement (fold decTests e) :=
  have h := parse_wf s ts e hl hp
  ⟨display_reparse e h.1, display_reparse (fold decTests e) h.2⟩

/-- …and therefore denotes the same function: the re-parsed tree has the same value (or is undefined at
the same points) under every semantics of variables, constants, functions, `!`, `%` and `^`. -/
theorem display_reparse_eval (e : Expr Dec) (h : Wf e) :
    ∃ ts' e', lex (display fmtDec e).toList = .ok ts' ∧ parseTokens ts' = .ok e' ∧
      ∀ S : Sem ℚ, eval S (e'.map Dec.val) = eval S (e.map Dec.val) := by
  obtain ⟨ts', e', h1, h2, h3⟩ := display_reparse e h
  exact ⟨ts', e', h1, h2, eval_eq_of_norm_eq h3⟩

/-! non-vacuity: trees where folding lost the flag, a unary minus under `^`, a juxtaposition -/

/-- `(x + y + 0) * 2` after folding: the sum has lost its flag -/
def lostFlag : Expr Dec := .bin .mul (.bin .add (.var "x") (.var "y") false) (.num ⟨false, 2, 0⟩) false

example : display fmtDec lostFlag = "(x + y) * 2" := by rfl
example : (lex (display fmtDec lostFlag).toList).toOption.map parseTokens =
    some (.ok (.bin .mul (.bin .add (.var "x") (.var "y") true) (.num ⟨false, 2, 0⟩) false)) := by rfl
example : Wf lostFlag :=
  .bin _ (by decide) (by decide)
    (.bin _ (by decide) (by decide) (.var ⟨'x', rfl, by decide, by decide, by decide⟩)
      (.var ⟨'y', rfl, by decide, by decide, by decide⟩)) (.num rfl)

example : display fmtDec (.bin .caret (.pre .sub (.var "x")) (.num ⟨false, 150, 2⟩) false) = "(-x) ^ 1.5" := by rfl
example : display fmtDec (.bin .mul (.num ⟨false, 2, 0⟩) (.bin .caret (.var "x") (.num ⟨false, 2, 0⟩) false) false) =
    "2x^2" := by rfl
example : norm (.num ⟨false, 150, 2⟩) = .num ⟨false, 15, 1⟩ := by rfl

end SV.Props.C19Display
