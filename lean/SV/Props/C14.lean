import SV.Lemmas.C14
import Mathlib.Analysis.Real.Sqrt
/-!
# C14 — Hessenberg reduction is an orthogonal similarity to upper-Hessenberg form

`K` is any linearly ordered field and `sqrt : K → K` any function with `∀ x ≥ 0, sqrt x * sqrt x = x ∧ 0 ≤ sqrt x` (satisfiable: `Real.sqrt`,
see the `example` below).  The theorems are about `SV.C14.hessenberg`, `step`, `leftPhase`,
`rightPhase`, `reflOf`, `vvec` — the same generic definitions the driver runs at `Float` with
`Float.sqrt` and compares bit for bit with `hessenberg_reduction` on every run of the check.

"Each to within n·eps·‖A‖ rounding" is proved with rounding error 0 (exact arithmetic): the
algorithm is the right algorithm for every matrix of every size; the rounding envelope itself is
measured by the exact-rational oracle of the check, not proved.
-/
namespace SV.Props.C14
open SV SV.C14 Finset Matrix
open SV.Props.C18 (SqrtSpec)

variable {K : Type} [Field K] [LinearOrder K] [IsStrictOrderedRing K] [Inhabited K]

/-- the hypothesis on the `sqrt` parameter is satisfiable -/
example : ∀ x : ℝ, 0 ≤ x → Real.sqrt x * Real.sqrt x = x ∧ 0 ≤ Real.sqrt x :=
  fun x hx => ⟨Real.mul_self_sqrt hx, Real.sqrt_nonneg x⟩

/-- **Reflector coefficients.**  With the code's `sign`, `u1`, `v`, `tau` for column `k` of an
`n × n` matrix and `‖x‖ ≠ 0` (the branch that is not skipped): `tau·(vᵀv) = 2`, `u1 ≠ 0` (the
division `h[(k+1+i,k)] / u1` is safe) and `|u1| ≥ ‖x‖` (the sign choice avoids cancellation). -/
theorem reflector_tau (sqrt : K → K)
    (hs : ∀ x : K, 0 ≤ x → sqrt x * sqrt x = x ∧ 0 ≤ sqrt x)
    (n k : Nat) (hk : k + 1 < n) (H : Mat K) (hne : (reflOf sqrt n k H).norm ≠ 0) :
    (reflOf sqrt n k H).tau * (∑ t ∈ range (n - (k + 1)),
        vvec k H (reflOf sqrt n k H).u1 t * vvec k H (reflOf sqrt n k H).u1 t) = 2 ∧
    (reflOf sqrt n k H).u1 ≠ 0 ∧
    (reflOf sqrt n k H).norm ≤ |(reflOf sqrt n k H).u1| := by
  obtain ⟨h1, h2, h3, _⟩ := reflOf_facts sqrt hs n k hk H hne
  exact ⟨h3, h1, h2⟩

/-- non-vacuity of `hne`: the first column `(2, 3, 4)ᵀ` of a real 3 × 3 matrix has sub-column
`(3, 4)`, whose norm is not zero -/
example : (reflOf Real.sqrt 3 0 (Mat.tab 3 3 fun i _ => (i : ℝ) + 2)).norm ≠ 0 := by
  intro h0
  have hs : ∀ x : ℝ, 0 ≤ x → Real.sqrt x * Real.sqrt x = x ∧ 0 ≤ Real.sqrt x :=
    fun x hx => ⟨Real.mul_self_sqrt hx, Real.sqrt_nonneg x⟩
  have h := subcol_zero_of_norm_zero Real.sqrt hs 3 0 _ h0 1 (by norm_num) (by norm_num)
  rw [Mat.get_tab _ (by norm_num) (by norm_num)] at h
  norm_num at h

/-- `‖x‖` of the code really is the Euclidean norm of the sub-column: its square is `Σ x_t²` and
it is non-negative; it is zero only if the whole sub-column is zero (the skip test is exact). -/
theorem norm_spec (sqrt : K → K)
    (hs : ∀ x : K, 0 ≤ x → sqrt x * sqrt x = x ∧ 0 ≤ sqrt x) (n k : Nat) (H : Mat K) :
    (reflOf sqrt n k H).norm * (reflOf sqrt n k H).norm
        = ∑ t ∈ range (n - (k + 1)), H.get (k + 1 + t) k * H.get (k + 1 + t) k ∧
    0 ≤ (reflOf sqrt n k H).norm ∧
    ((reflOf sqrt n k H).norm = 0 → ∀ i, k + 1 ≤ i → i < n → H.get i k = 0) := by
  have h := hs _ (colNormSq_nonneg n k H)
  exact ⟨by rw [← colNormSq_eq]; exact h.1, h.2, subcol_zero_of_norm_zero sqrt hs n k H⟩

section
-- the statements of this section take every class of the `variable` line, used or not
set_option linter.unusedSectionVars false

/-- **The reflector is a symmetric involution**, hence orthogonal: for any vector `w` and `tau`
with `tau·(wᵀw) = 2`, `P = 1 − tau·w wᵀ` satisfies `Pᵀ = P` and `P * P = 1`. -/
theorem reflector_orthogonal {m : Nat} (w : Fin m → K) (tau : K) (h : tau * (w ⬝ᵥ w) = 2) :
    (1 - tau • vecMulVec w w)ᵀ = 1 - tau • vecMulVec w w ∧
      (1 - tau • vecMulVec w w) * (1 - tau • vecMulVec w w) = 1 := by
  constructor
  · rw [transpose_sub, transpose_one, transpose_smul, transpose_vecMulVec]
  · have hXX : (tau • vecMulVec w w) * (tau • vecMulVec w w)
        = tau • vecMulVec w w + tau • vecMulVec w w := by
      rw [Matrix.smul_mul, Matrix.mul_smul, vecMulVec_mul_vecMulVec, vecMulVec_smul, smul_smul,
        smul_smul, mul_assoc, h, mul_two, add_smul]
    rw [sub_mul, mul_sub, mul_sub, one_mul, one_mul, mul_one, hXX, sub_add_cancel_left,
      sub_neg_eq_add, sub_add_cancel]

/-- `reflM n k tau v` is `diag(1_{k+1}, 1 − tau·v vᵀ)`, entry by entry. -/
theorem reflM_is_diag (n k : Nat) (tau : K) (v : Nat → K) (i j : Fin n) :
    reflM n k tau v i j =
      if i.val < k + 1 ∨ j.val < k + 1 then (if i = j then 1 else 0)
      else (if i = j then 1 else 0) - tau * (v (i.val - (k + 1)) * v (j.val - (k + 1))) := by
  rw [reflM, Matrix.sub_apply, Matrix.one_apply, Matrix.smul_apply, vecMulVec_apply, smul_eq_mul]
  show _ - tau * (wvN k v i.val * wvN k v j.val) = _
  by_cases hi : i.val < k + 1
  · rw [if_pos (Or.inl hi), wvN_of_lt v hi, zero_mul, mul_zero, sub_zero]
  · by_cases hj : j.val < k + 1
    · rw [if_pos (Or.inr hj), wvN_of_lt v hj, mul_zero, mul_zero, sub_zero]
    · rw [if_neg (not_or.mpr ⟨hi, hj⟩), wvN_of_le v (not_lt.mp hi), wvN_of_le v (not_lt.mp hj)]

/-- … and for the code's `tau`, `v` it is symmetric and its own inverse. -/
theorem code_reflector_orthogonal (sqrt : K → K)
    (hs : ∀ x : K, 0 ≤ x → sqrt x * sqrt x = x ∧ 0 ≤ sqrt x)
    (n k : Nat) (hk : k + 1 < n) (H : Mat K) (hne : (reflOf sqrt n k H).norm ≠ 0) :
    (reflM n k (reflOf sqrt n k H).tau (vvec k H (reflOf sqrt n k H).u1))ᵀ
        = reflM n k (reflOf sqrt n k H).tau (vvec k H (reflOf sqrt n k H).u1) ∧
    reflM n k (reflOf sqrt n k H).tau (vvec k H (reflOf sqrt n k H).u1)
        * reflM n k (reflOf sqrt n k H).tau (vvec k H (reflOf sqrt n k H).u1) = 1 := by
  refine reflector_orthogonal _ _ ?_
  rw [wv_dot n k (by omega)]
  exact (reflOf_facts sqrt hs n k hk H hne).2.2.1

/-- **The reflector zeroes the sub-column**: after the left phase, column `k` holds
`sign·‖x‖` (i.e. `∓‖x‖`) in row `k+1` and exactly `0` in the rows `k+2 ..`. -/
theorem reflector_zeroes (sqrt : K → K)
    (hs : ∀ x : K, 0 ≤ x → sqrt x * sqrt x = x ∧ 0 ≤ sqrt x)
    (n k : Nat) (hk : k + 1 < n) (H : Mat K) (hne : (reflOf sqrt n k H).norm ≠ 0) :
    (leftPhase n k (reflOf sqrt n k H).tau (vvec k H (reflOf sqrt n k H).u1) H).get (k + 1) k
        = (reflOf sqrt n k H).sign * (reflOf sqrt n k H).norm ∧
    ∀ i, k + 2 ≤ i → i < n →
      (leftPhase n k (reflOf sqrt n k H).tau (vvec k H (reflOf sqrt n k H).u1) H).get i k = 0 := by
  obtain ⟨hu1, _, _, hvtx⟩ := reflOf_facts sqrt hs n k hk H hne
  -- since `tau·vᵀx = u1`, row `i` of column `k` becomes `x_i - v_i·u1`
  have hcol : ∀ i, k + 1 ≤ i → i < n →
      (leftPhase n k (reflOf sqrt n k H).tau (vvec k H (reflOf sqrt n k H).u1) H).get i k
        = H.get i k - vvec k H (reflOf sqrt n k H).u1 (i - (k + 1)) * (reflOf sqrt n k H).u1 :=
    fun i hi hin => by
      rw [leftPhase_get n k _ _ H hin (by omega), if_pos ⟨hi, le_refl k⟩,
        mul_comm (reflOf sqrt n k H).tau, mul_assoc, hvtx]
  constructor
  · rw [hcol _ (le_refl _) hk, Nat.sub_self, vvec_zero, one_mul]
    exact sub_sub_cancel _ _
  · intro i hi hin
    rw [hcol i (by omega) hin, vvec_of_ne_zero k H _ (by omega), Nat.add_sub_cancel' (by omega),
      div_mul_cancel₀ _ hu1, sub_self]

/-- **Each tabulated phase is a matrix product with `diag(1, P)`** on the corresponding side.
The left phase skips the columns `< k` (the code's `for col in k..n`): that is the same product
because those columns are already zero below row `k` — the hypothesis `hz`, which is part of
the loop invariant.  The right phase (used for `h` and for `q`) needs no hypothesis. -/
theorem phase_is_matmul (n k : Nat) (hk : k + 1 ≤ n) (tau : K) (v : Nat → K) (H : Mat K) :
    ((∀ j, j < k → ∀ i, k + 1 ≤ i → i < n → H.get i j = 0) →
      (leftPhase n k tau v H).toMatrix n n = reflM n k tau v * H.toMatrix n n) ∧
    (rightPhase n k tau v H).toMatrix n n = H.toMatrix n n * reflM n k tau v := by
  constructor
  · intro hz
    funext i j
    rw [reflM, Matrix.sub_mul, Matrix.one_mul, Matrix.smul_mul, vecMulVec_mul, Matrix.sub_apply,
      Matrix.smul_apply, vecMulVec_apply, smul_eq_mul]
    show (leftPhase n k tau v H).get i j
      = H.get i j - tau * (wvN k v i * ∑ l : Fin n, wv n k v l * H.get l j)
    rw [sum_wv n k hk v fun l => H.get l j, leftPhase_get n k tau v H i.isLt j.isLt]
    by_cases hi : k + 1 ≤ i.val
    · rw [wvN_of_le v hi]
      by_cases hj : k ≤ j.val
      · rw [if_pos ⟨hi, hj⟩, mul_assoc]
      · rw [if_neg fun h => hj h.2, Finset.sum_eq_zero, mul_zero, mul_zero, sub_zero]
        intro t ht
        have := Finset.mem_range.mp ht
        rw [hz j (by omega) (k + 1 + t) (by omega) (by omega), mul_zero]
    · rw [if_neg fun h => hi h.1, wvN_of_lt v (not_le.mp hi), zero_mul, mul_zero, sub_zero]
  · funext i j
    rw [reflM, Matrix.mul_sub, Matrix.mul_one, Matrix.mul_smul, mul_vecMulVec, Matrix.sub_apply,
      Matrix.smul_apply, vecMulVec_apply, smul_eq_mul, mulVec, dotProduct_comm]
    show (rightPhase n k tau v H).get i j
      = H.get i j - tau * ((∑ l : Fin n, wv n k v l * H.get i l) * wvN k v j)
    rw [sum_wv n k hk v fun l => H.get i l, rightPhase_get n k tau v H i.isLt j.isLt]
    by_cases hj : k + 1 ≤ j.val
    · rw [if_pos hj, wvN_of_le v hj, mul_comm (∑ t ∈ _, _), mul_assoc]
    · rw [if_neg hj, wvN_of_lt v (not_le.mp hj), mul_zero, mul_zero, sub_zero]

/-- **Skip branch**: when the sub-column norm is zero the pass changes nothing (and the column is
already reduced, `norm_spec`). -/
theorem step_skip (sqrt : K → K) (n k : Nat) (s : Mat K × Mat K)
    (h0 : (reflOf sqrt n k s.1).norm = 0) : step sqrt n k s = s :=
  if_pos (beq_iff_eq.mpr h0)

/-- the other branch, spelled out: left phase, right phase, accumulation into `q` -/
theorem step_reflect (sqrt : K → K) (n k : Nat) (s : Mat K × Mat K)
    (hne : (reflOf sqrt n k s.1).norm ≠ 0) :
    step sqrt n k s =
      (rightPhase n k (reflOf sqrt n k s.1).tau (vvec k s.1 (reflOf sqrt n k s.1).u1)
          (leftPhase n k (reflOf sqrt n k s.1).tau (vvec k s.1 (reflOf sqrt n k s.1).u1) s.1),
        rightPhase n k (reflOf sqrt n k s.1).tau (vvec k s.1 (reflOf sqrt n k s.1).u1) s.2) :=
  if_neg fun h => hne (beq_iff_eq.mp h)

/-- **Non-square input is rejected.** -/
theorem hessenberg_nonsquare (sqrt : K → K) (A : Mat K) (h : A.h ≠ A.w) :
    hessenberg sqrt A = .error .nonSquare := by
  unfold hessenberg
  rw [if_pos h]

/-- **Sizes ≤ 2 are returned unchanged with `Q = I`.** -/
theorem hessenberg_small (sqrt : K → K) (A : Mat K) (h : A.h = A.w) (h2 : A.h ≤ 2) :
    hessenberg sqrt A = .ok (A, Mat.ident A.h) := by
  unfold hessenberg
  rw [if_neg (not_not.mpr h), if_pos h2]

end

/-- what holds of `(h, q)` after the passes `0 .. k-1` on input `A` (all `n × n`) -/
structure Inv (n k : Nat) (A : Mat K) (s : Mat K × Mat K) : Prop where
  orth : (s.2.toMatrix n n)ᵀ * s.2.toMatrix n n = 1
  sim : s.2.toMatrix n n * s.1.toMatrix n n * (s.2.toMatrix n n)ᵀ = A.toMatrix n n
  zero : ∀ j, j < k → ∀ i, j + 1 < i → i < n → s.1.get i j = 0
  dims : s.1.h = n ∧ s.1.w = n ∧ s.2.h = n ∧ s.2.w = n

theorem reflect_inv (n k : Nat) (hk : k + 1 ≤ n) (tau : K) (v : Nat → K) (A : Mat K)
    (s : Mat K × Mat K) (h : Inv n k A s)
    (hvtv : tau * (∑ t ∈ range (n - (k + 1)), v t * v t) = 2)
    (hcol : ∀ i, k + 2 ≤ i → i < n → (leftPhase n k tau v s.1).get i k = 0) :
    Inv n (k + 1) A
      (rightPhase n k tau v (leftPhase n k tau v s.1), rightPhase n k tau v s.2) := by
  obtain ⟨hUT, hUU⟩ := reflector_orthogonal (wv n k v) tau (by rw [wv_dot n k hk]; exact hvtv)
  have hU := orth_sim_reflect (H := s.1.toMatrix n n) hUT hUU h.orth
  have e1 := (phase_is_matmul n k hk tau v s.1).1
    fun j hj i hi hin => h.zero j hj i (by omega) hin
  have e2 := (phase_is_matmul n k hk tau v (leftPhase n k tau v s.1)).2
  have e3 := (phase_is_matmul n k hk tau v s.2).2
  refine ⟨?_, ?_, fun j hj i hi hin => ?_, ⟨rfl, rfl, rfl, rfl⟩⟩
  · dsimp only
    rw [e3]
    exact hU.1
  · dsimp only
    rw [e3, e2, e1]
    exact hU.2.trans h.sim
  · dsimp only
    rw [rightPhase_get n k tau v _ hin (by omega), if_neg (by omega)]
    rcases Nat.lt_succ_iff_lt_or_eq.mp hj with hlt | rfl
    · rw [leftPhase_get n k tau v _ hin (by omega), if_neg (by omega)]
      exact h.zero j hlt i hi hin
    · exact hcol i (by omega) hin

theorem step_inv (sqrt : K → K) (hs : SqrtSpec sqrt) (n k : Nat) (hk : k + 1 < n) (A : Mat K)
    (s : Mat K × Mat K) (h : Inv n k A s) : Inv n (k + 1) A (step sqrt n k s) := by
  rw [step]
  split
  · next h0 =>
    refine ⟨h.orth, h.sim, fun j hj i hi hin => ?_, h.dims⟩
    rcases Nat.lt_succ_iff_lt_or_eq.mp hj with hlt | rfl
    · exact h.zero j hlt i hi hin
    · exact subcol_zero_of_norm_zero sqrt hs n j s.1 (beq_iff_eq.mp h0) i (by omega) hin
  · next h0 =>
    have hne : (reflOf sqrt n k s.1).norm ≠ 0 := fun e => h0 (beq_iff_eq.mpr e)
    exact reflect_inv n k (by omega) _ _ A s h (reflOf_facts sqrt hs n k hk s.1 hne).2.2.1
      (reflector_zeroes sqrt hs n k hk s.1 hne).2

theorem fold_inv (sqrt : K → K) (hs : SqrtSpec sqrt) (n : Nat) (A : Mat K) (hh : A.h = n)
    (hw : A.w = n) (m : Nat) (hm : m ≤ n - 2) :
    Inv n m A ((List.range m).foldl (fun s k => step sqrt n k s) (A, Mat.ident n)) := by
  induction m with
  | zero =>
    refine ⟨?_, ?_, fun j hj => absurd hj (Nat.not_lt_zero j), ⟨hh, hw, rfl, rfl⟩⟩
    · dsimp only [List.range_zero, List.foldl_nil]
      rw [toMatrix_ident, transpose_one, Matrix.one_mul]
    · dsimp only [List.range_zero, List.foldl_nil]
      rw [toMatrix_ident, transpose_one, Matrix.one_mul, Matrix.mul_one]
  | succ m ih =>
    rw [foldl_range_succ]
    exact step_inv sqrt hs n m (by omega) A _ (ih (by omega))

theorem hessenberg_inv (sqrt : K → K) (hs : SqrtSpec sqrt) (A H Q : Mat K) (hsq : A.h = A.w)
    (hr : hessenberg sqrt A = .ok (H, Q)) : Inv A.h (A.h - 2) A (H, Q) := by
  rw [hessenberg_eq_fold sqrt A hsq] at hr
  exact Except.ok.inj hr ▸ fold_inv sqrt hs A.h A rfl hsq.symm (A.h - 2) le_rfl

/-- **Main theorem, every size `n`.**  For every square `A` the reduction returns `(H, Q)`, both
`n × n`, with `QᵀQ = 1`, `Q H Qᵀ = A` and every entry of `H` below the first sub-diagonal equal
to zero.  (Induction over the passes with the invariant `Inv`; the skip branch is the
identity step.) -/
theorem hessenberg_correct (sqrt : K → K)
    (hs : ∀ x : K, 0 ≤ x → sqrt x * sqrt x = x ∧ 0 ≤ sqrt x) (A : Mat K) (hsq : A.h = A.w) :
    ∃ H Q, hessenberg sqrt A = .ok (H, Q) ∧
      (H.h = A.h ∧ H.w = A.h ∧ Q.h = A.h ∧ Q.w = A.h) ∧
      (Q.toMatrix A.h A.h)ᵀ * Q.toMatrix A.h A.h = 1 ∧
      Q.toMatrix A.h A.h * H.toMatrix A.h A.h * (Q.toMatrix A.h A.h)ᵀ = A.toMatrix A.h A.h ∧
      ∀ i j, j + 1 < i → i < A.h → H.get i j = 0 := by
  have inv := hessenberg_inv sqrt hs A _ _ hsq (hessenberg_eq_fold sqrt A hsq)
  exact ⟨_, _, hessenberg_eq_fold sqrt A hsq, inv.dims, inv.orth, inv.sim,
    fun i j hij hi => inv.zero j (by omega) i hij hi⟩

/-- Consequence: the trace is preserved. -/
theorem hessenberg_trace (sqrt : K → K)
    (hs : ∀ x : K, 0 ≤ x → sqrt x * sqrt x = x ∧ 0 ≤ sqrt x) (A H Q : Mat K) (hsq : A.h = A.w)
    (hr : hessenberg sqrt A = .ok (H, Q)) :
    (H.toMatrix A.h A.h).trace = (A.toMatrix A.h A.h).trace := by
  have inv := hessenberg_inv sqrt hs A H Q hsq hr
  exact trace_of_orth_sim inv.orth inv.sim

/-- Consequence: the Frobenius norm is preserved (`Σ H_ij² = Σ A_ij²`). -/
theorem hessenberg_frobenius (sqrt : K → K)
    (hs : ∀ x : K, 0 ≤ x → sqrt x * sqrt x = x ∧ 0 ≤ sqrt x) (A H Q : Mat K) (hsq : A.h = A.w)
    (hr : hessenberg sqrt A = .ok (H, Q)) :
    ∑ i ∈ range A.h, ∑ j ∈ range A.h, H.get i j * H.get i j
      = ∑ i ∈ range A.h, ∑ j ∈ range A.h, A.get i j * A.get i j := by
  have inv := hessenberg_inv sqrt hs A H Q hsq hr
  rw [sum_sq_eq_trace, sum_sq_eq_trace]
  exact frobenius_of_orth_sim inv.orth inv.sim

end SV.Props.C14
