import SV.Props.C08
/-!
# C08 — algebraic laws of the Gaussian-elimination model

Corollaries of soundness + uniqueness (`SV.Props.C08.gauss_sound`, `gauss_unique`) that hold for
every size, every matrix and every positive tolerance: the answer is linear in the right-hand side,
zero for the zero right-hand side, and does not depend on the order in which the equations are
written.  A "robustness tweak" that special-cases particular right-hand sides, rows or magnitudes
breaks one of these.
-/
set_option linter.unusedSectionVars false

namespace SV.Props.C08Laws
open SV SV.C08 SV.Subst SV.Gauss SV.Props.C08 Finset

variable {K : Type} [Field K] [LinearOrder K] [IsStrictOrderedRing K] [Inhabited K]

/-- **Linearity in the right-hand side.**  If the solver answers `x` for `(A, b)`, `y` for `(A, c)`
and `z` for `(A, d)` where `d = α b + β c` entrywise, then `z = α x + β y` entrywise — for every
size and every positive tolerance. -/
theorem gauss_linear_rhs (A : Mat K) (b c d : Array K) (tol α β : K) (x y z : Array K)
    (htol : 0 < tol)
    (hd : ∀ i, i < A.h → vget d i = α * vget b i + β * vget c i)
    (hx : gaussSolve A b tol = .ok x) (hy : gaussSolve A c tol = .ok y)
    (hz : gaussSolve A d tol = .ok z) :
    ∀ i, i < A.h → vget z i = α * vget x i + β * vget y i := by
  obtain ⟨_, sx⟩ := gauss_sound A b tol x htol hx
  obtain ⟨_, sy⟩ := gauss_sound A c tol y htol hy
  intro i hi
  refine (gauss_unique A d tol z htol hz (fun j => α * vget x j + β * vget y j) ?_ i hi).symm
  intro r hr
  rw [hd r hr, ← sx r hr, ← sy r hr, Finset.mul_sum, Finset.mul_sum, ← Finset.sum_add_distrib]
  apply Finset.sum_congr rfl
  intro j _
  ring

/-- **Homogeneity** (the case `β = 0` of linearity, without a second solve): scaling the right-hand
side by `α` scales the answer by `α`. -/
theorem gauss_smul_rhs (A : Mat K) (b d : Array K) (tol α : K) (x z : Array K) (htol : 0 < tol)
    (hd : ∀ i, i < A.h → vget d i = α * vget b i)
    (hx : gaussSolve A b tol = .ok x) (hz : gaussSolve A d tol = .ok z) :
    ∀ i, i < A.h → vget z i = α * vget x i := by
  intro i hi
  rw [gauss_linear_rhs A b b d tol α 0 x x z htol
    (fun r hr => by rw [hd r hr, zero_mul, add_zero]) hx hx hz i hi, zero_mul, add_zero]

/-- **Zero right-hand side.**  An accepted system whose right-hand side is zero in every entry is
answered with the zero vector. -/
theorem gauss_zero_rhs (A : Mat K) (b : Array K) (tol : K) (x : Array K) (htol : 0 < tol)
    (hb : ∀ i, i < A.h → vget b i = 0) (hx : gaussSolve A b tol = .ok x) :
    ∀ i, i < A.h → vget x i = 0 := by
  intro i hi
  rw [gauss_smul_rhs A b b tol 0 x x htol (fun r hr => by rw [hb r hr, mul_zero]) hx hx i hi,
    zero_mul]

/-- **The order of the equations does not matter.**  `(A', b')` lists equations of `(A, b)`: row
`i` of `A'` is row `σ i` of `A` and `b'[i] = b[σ i]` (in particular: `σ` a permutation of the row
indices).  If both calls return a vector, the two vectors are equal entry by entry. -/
theorem gauss_row_permutation_of_ok (A A' : Mat K) (b b' : Array K) (tol tol' : K) (σ : ℕ → ℕ)
    (x x' : Array K) (htol : 0 < tol) (htol' : 0 < tol')
    (hh : A'.h = A.h) (hσ : ∀ i, i < A.h → σ i < A.h)
    (hA : ∀ i j, i < A.h → j < A.h → A'.get i j = A.get (σ i) j)
    (hb : ∀ i, i < A.h → vget b' i = vget b (σ i))
    (hx : gaussSolve A b tol = .ok x) (hx' : gaussSolve A' b' tol' = .ok x') :
    ∀ i, i < A.h → vget x' i = vget x i := by
  obtain ⟨_, sx⟩ := gauss_sound A b tol x htol hx
  intro i hi
  refine (gauss_unique A' b' tol' x' htol' hx' (fun j => vget x j) ?_ i (hh ▸ hi)).symm
  intro r hr
  rw [hh] at hr ⊢
  rw [hb r hr, ← sx (σ r) (hσ r hr)]
  apply Finset.sum_congr rfl
  intro j hj
  rw [hA r j hr (by simpa using hj)]

theorem gauss_row_permutation_of_ok_array (A A' : Mat K) (b b' : Array K) (tol tol' : K)
    (σ : ℕ → ℕ) (x x' : Array K) (htol : 0 < tol) (htol' : 0 < tol')
    (hh : A'.h = A.h) (hσ : ∀ i, i < A.h → σ i < A.h)
    (hA : ∀ i j, i < A.h → j < A.h → A'.get i j = A.get (σ i) j)
    (hb : ∀ i, i < A.h → vget b' i = vget b (σ i))
    (hx : gaussSolve A b tol = .ok x) (hx' : gaussSolve A' b' tol' = .ok x') : x' = x := by
  have h := gauss_row_permutation_of_ok A A' b b' tol tol' σ x x' htol htol' hh hσ hA hb hx hx'
  have s1 := (gauss_sound A b tol x htol hx).1
  have s2 := (gauss_sound A' b' tol' x' htol' hx').1
  exact array_ext_vget (by omega) fun i hi => h i (by omega)

/-- **Acceptance does not depend on the right-hand side.**  For every matrix (any shape), every
tolerance (any sign) and any two right-hand sides of the same length, the solver refuses both with
the same error or answers both with a vector: the pivot search, the row exchanges and the tolerance
tests read the matrix and the scale vector only. -/
theorem gauss_acceptance_independent_of_rhs (A : Mat K) (b c : Array K) (tol : K)
    (hbc : b.size = c.size) :
    (∀ e, gaussSolve A b tol = .err e ↔ gaussSolve A c tol = .err e) ∧
    ((∃ x, gaussSolve A b tol = .ok x) ↔ (∃ y, gaussSolve A c tol = .ok y)) := by
  rcases gaussSolve_shape A b tol with ⟨h1, h2, h3⟩ | ⟨e, he, hall⟩
  swap
  · rw [he, hall A c tol rfl rfl hbc.symm]
    exact ⟨fun _ => Iff.rfl, Iff.rfl⟩
  rw [gaussSolve_square A b tol rfl h1 h2 h3, gaussSolve_square A c tol rfl h1 (h2.trans hbc) h3]
  split
  · exact ⟨fun _ => Iff.rfl, Iff.rfl⟩
  · have hsim := forwardElim_rhs tol (Nat.pos_of_ne_zero h3) A b c (vtab A.h (rowScale A A.h))
    generalize forwardElim tol A.h { m := A, r := b, s := vtab A.h (rowScale A A.h) } = o at hsim
    generalize forwardElim tol A.h { m := A, r := c, s := vtab A.h (rowScale A A.h) } = o' at hsim
    cases hsim with
    | none => exact ⟨fun _ => Iff.rfl, Iff.rfl⟩
    | some _ => exact ⟨fun _ => ⟨nofun, nofun⟩, fun _ => ⟨_, rfl⟩, fun _ => ⟨_, rfl⟩⟩

theorem gauss_singular_independent_of_rhs (A : Mat K) (b c : Array K) (tol : K)
    (hbc : b.size = c.size) :
    gaussSolve A b tol = .err .singular ↔ gaussSolve A c tol = .err .singular :=
  (gauss_acceptance_independent_of_rhs A b c tol hbc).1 .singular

def identity (n : ℕ) : Mat K := Mat.tab n n fun i j => if i = j then 1 else 0

/-- **Identity system (partial).**  Whenever the solver answers the system `I x = b` with a positive
tolerance, the answer is `b` itself, entry by entry, for every size.  Not proved: that the identity
is accepted for every `n ≥ 1` and `0 < tol ≤ 1` (it is
checked for `n = 1, 2, 3` by the examples below; by `gauss_acceptance_independent_of_rhs` acceptance
for one right-hand side of length `n` gives it for all). -/
theorem gauss_identity_partial (n : ℕ) (b : Array K) (tol : K) (x : Array K) (htol : 0 < tol)
    (hx : gaussSolve (identity n) b tol = .ok x) : ∀ i, i < n → vget x i = vget b i := by
  obtain ⟨_, sx⟩ := gauss_sound (identity n) b tol x htol hx
  intro i hi
  have h := sx i hi
  have hh : (identity (K := K) n).h = n := rfl
  rw [hh] at h
  rw [← h, Finset.sum_eq_single i]
  · rw [identity, Mat.get_tab _ hi hi]; simp
  · intro j hj hji
    rw [identity, Mat.get_tab _ hi (by simpa using hj), if_neg (Ne.symm hji), zero_mul]
  · intro hni; exact absurd (by simpa using hi) hni

/-- **Identity system, given acceptance for one right-hand side (partial).**  If the identity of
size `n` is accepted for some right-hand side `c`, then for every `b` of the same length the solver
returns exactly the array `b`.  Not proved: acceptance itself for every
`n ≥ 1`, `0 < tol ≤ 1` (checked for `n = 1, 2, 3` below). -/
theorem gauss_identity_of_accepted_partial (n : ℕ) (b c : Array K) (tol : K) (htol : 0 < tol)
    (hbc : b.size = c.size) (hc : ∃ y, gaussSolve (identity n) c tol = .ok y) :
    gaussSolve (identity n) b tol = .ok b := by
  obtain ⟨x, hx⟩ := (gauss_acceptance_independent_of_rhs (identity n) b c tol hbc).2.mpr hc
  have s1 : x.size = n := (gauss_sound (identity n) b tol x htol hx).1
  have s2 : n = b.size := (gaussSolve_ok hx).2.1
  rw [hx, array_ext_vget (s1.trans s2) fun i hi => gauss_identity_partial n b tol x htol hx i (by omega)]

/-- the identity is accepted and answered with `b` (n = 1, 2, 3; tolerance 1) -/
example : gaussSolve (identity 1 : Mat ℚ) #[7] 1 = .ok #[7] := by decide +kernel
example : gaussSolve (identity 2 : Mat ℚ) #[7, -3] 1 = .ok #[7, -3] := by decide +kernel
example : gaussSolve (identity 3 : Mat ℚ) #[7, -3, 1 / 2] 1 = .ok #[7, -3, 1 / 2] := by
  decide +kernel

/-- linearity instantiated: `[[3,6],[5,-8]]` with `b = [12,2]`, `c = [3,5]`, `d = 2b + 3c` -/
example : ∀ i, i < 2 → vget (#[7, 2] : Array ℚ) i = 2 * vget (#[2, 1] : Array ℚ) i
    + 3 * vget (#[1, 0] : Array ℚ) i :=
  gauss_linear_rhs (⟨2, 2, #[3, 6, 5, -8]⟩ : Mat ℚ) #[12, 2] #[3, 5] #[33, 19]
    (1 / 1000000000000) 2 3 #[2, 1] #[1, 0] #[7, 2] (by norm_num)
    (by decide +kernel) (by decide +kernel) (by decide +kernel) (by decide +kernel)

/-- the equations in the other order give the same answer -/
example : gaussSolve (⟨2, 2, #[5, -8, 3, 6]⟩ : Mat ℚ) #[2, 12] (1 / 1000000000000) = .ok #[2, 1] := by
  decide +kernel

end SV.Props.C08Laws
