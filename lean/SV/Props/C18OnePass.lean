import SV.Props.C18
import Mathlib.Algebra.Order.Round

/-!
# C18 — the "textbook one-pass" variance formula versus the two-pass form of the code

`std_dev` computes the variance in two passes: first the mean, then `Σ (x - mean)²`.  A rewrite to
the one-pass formula `Σ x² − (Σ x)²/n` is *the same value in exact arithmetic*
(`variance_one_pass_identity`, `stdDev_eq_one_pass`), and both forms are translation invariant in
exact arithmetic (`variance_translation_exact`).  So any difference between the two in floating
point is purely a rounding effect — and it is not a small one: in a toy decimal arithmetic with 3
significant digits, run through the model's own generic `stdDev`, the two-pass form is right to
0.05 % on `[100, 101, 102]` while the one-pass form returns variance `0`
(`one_pass_loses_everything`).  This is the content of the property's "to within rounding": the
two-pass form has the error bound `SV.Props.C18Rounding.variance_rounding`; the one-pass form has
no bound of that shape (relative to the variance) at all.
-/

namespace SV.Props.C18OnePass
open SV SV.C18

/-- the one-pass variance, written with the model's own primitives (`fsum`, `powi`, the `NatCast`
of the scalar) so that it can be run in any arithmetic the model can be run in:
`(Σ x² − (Σ x)² / n) / d` with `d = denom k n` -/
def onePassVar {S : Type} [Add S] [Sub S] [Mul S] [Div S] [Neg S] [OfNat S 0] [OfNat S 1]
    [NatCast S] (k : Kind) (xs : List S) : S :=
  (fsum (xs.map fun x => powi x 2) - powi (fsum xs) 2 / (xs.length : S))
    / (denom k xs.length : S)

variable {K : Type} [Field K] [LinearOrder K] [IsStrictOrderedRing K]

/-- `SV.C18.ssd_eq_one_pass` with `ssd` unfolded -/
theorem variance_one_pass_identity (xs : List K) (h : xs.length ≠ 0) :
    (xs.map fun x => (x - xs.sum / (xs.length : K)) ^ 2).sum
      = (xs.map fun x => x ^ 2).sum - xs.sum ^ 2 / (xs.length : K) :=
  ssd_eq_one_pass xs h

omit [LinearOrder K] [IsStrictOrderedRing K] in
theorem onePassVar_eq (k : Kind) (xs : List K) :
    onePassVar k xs
      = ((xs.map fun x => x ^ 2).sum - xs.sum ^ 2 / (xs.length : K)) / (denom k xs.length : K) := by
  simp only [onePassVar, fsum_eq, powi_eq_pow]

theorem onePassVar_eq_ssd (k : Kind) (xs : List K) (h : xs.length ≠ 0) :
    onePassVar k xs = ssd xs / (denom k xs.length : K) := by
  rw [onePassVar_eq, ssd_eq_one_pass xs h]

theorem stdDev_eq_one_pass (sqrt : K → K) (k : Kind) (xs : List K) :
    stdDev sqrt k xs
      = if denom k xs.length = 0 then none else some (sqrt (onePassVar k xs)) := by
  rw [stdDev_eq]
  split_ifs with h0
  · rfl
  · rw [onePassVar_eq_ssd k xs (length_ne_zero_of_denom h0)]

/-- the second conjunct is `SV.Props.C18.std_translate` (it does not need `h`): the translation
dependence of the one-pass formula observed in floating point is purely a rounding effect -/
theorem variance_translation_exact (sqrt : K → K) (k : Kind) (xs : List K) (c : K)
    (h : denom k xs.length ≠ 0) :
    onePassVar k (xs.map fun x => x + c) = onePassVar k xs
    ∧ stdDev sqrt k (xs.map fun x => x + c) = stdDev sqrt k xs := by
  have hn : xs.length ≠ 0 := length_ne_zero_of_denom h
  refine ⟨?_, SV.Props.C18.std_translate sqrt k xs c⟩
  rw [onePassVar_eq_ssd k _ (by rwa [List.length_map]), onePassVar_eq_ssd k xs hn, ssd_translate,
    List.length_map]

/-- round to the nearest multiple of `s` -/
def rndTo (s q : ℚ) : ℚ := (round (q / s) : ℚ) * s

/-- round to 3 significant decimal digits (for `1/10 ≤ |q| < 10⁷`; `0` and magnitudes outside
that range are left exact, which is irrelevant for the witness) -/
def rnd3 (q : ℚ) : ℚ :=
  let a := |q|
  if a < 1 / 10 then q
  else if a < 1 then rndTo (1 / 1000) q
  else if a < 10 then rndTo (1 / 100) q
  else if a < 100 then rndTo (1 / 10) q
  else if a < 1000 then rndTo 1 q
  else if a < 10000 then rndTo 10 q
  else if a < 100000 then rndTo 100 q
  else if a < 1000000 then rndTo 1000 q
  else if a < 10000000 then rndTo 10000 q
  else q

/-- a number of the toy arithmetic: a rational, every operation on which is rounded by `rnd3` -/
structure D3 where
  val : ℚ
deriving DecidableEq

instance : Add D3 := ⟨fun a b => ⟨rnd3 (a.val + b.val)⟩⟩
instance : Sub D3 := ⟨fun a b => ⟨rnd3 (a.val - b.val)⟩⟩
instance : Mul D3 := ⟨fun a b => ⟨rnd3 (a.val * b.val)⟩⟩
instance : Div D3 := ⟨fun a b => ⟨rnd3 (a.val / b.val)⟩⟩
instance : Neg D3 := ⟨fun a => ⟨-a.val⟩⟩
instance : OfNat D3 0 := ⟨⟨0⟩⟩
instance : OfNat D3 1 := ⟨⟨1⟩⟩
instance : NatCast D3 := ⟨fun n => ⟨rnd3 n⟩⟩

/-- the witness sample `[100, 101, 102]`: all three are exactly representable with 3 digits; the
true population variance is `2/3` -/
def sample3 : List D3 := [⟨100⟩, ⟨101⟩, ⟨102⟩]

/-- In `D3` (unit roundoff `5·10⁻³`), on `[100, 101, 102]` with exact population variance `2/3` by
both formulas: the model's two-pass `stdDev`, run with `sqrt := id` so that the variance itself is
visible, returns `0.667` (within 0.05 % of `2/3`; stated with 1 %), the one-pass formula returns
`0`.  So the one-pass rewrite of `std_dev`, an identity in exact arithmetic, is not "the same to
within rounding" in the sense of `SV.Props.C18Rounding.variance_rounding`. -/
theorem one_pass_loses_everything :
    onePassVar (S := ℚ) .population [100, 101, 102] = 2 / 3
    ∧ stdDev (S := ℚ) id .population [100, 101, 102] = some (2 / 3)
    ∧ stdDev id .population sample3 = some ⟨667 / 1000⟩
    ∧ |(667 / 1000 : ℚ) - 2 / 3| ≤ (1 / 100) * (2 / 3)
    ∧ onePassVar .population sample3 = ⟨0⟩ := by
  refine ⟨by decide +kernel, by decide +kernel, by decide +kernel, by norm_num, by decide +kernel⟩

/-- the same loss is a translation effect: moved to `[-1, 0, 1]` (subtract 101) the one-pass
formula is right to 3 digits in the same arithmetic -/
theorem one_pass_translation_dependent :
    onePassVar .population ([⟨-1⟩, ⟨0⟩, ⟨1⟩] : List D3) = ⟨667 / 1000⟩
    ∧ onePassVar .population sample3 = ⟨0⟩ :=
  ⟨by decide +kernel, one_pass_loses_everything.2.2.2.2⟩

/-- non-vacuity of the exact-arithmetic theorems over `ℚ` -/
example : onePassVar (S := ℚ) .sample ([1, 2, 4].map fun x => x + 1000) = 7 / 3
    ∧ onePassVar (S := ℚ) .sample [1, 2, 4] = 7 / 3 := by
  refine ⟨by decide +kernel, by decide +kernel⟩

end SV.Props.C18OnePass
