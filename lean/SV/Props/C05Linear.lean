import SV.Model.C05
import SV.Lemmas.C05
import SV.Lemmas.C05Romberg
import SV.Lemmas.Mat
import Mathlib.Algebra.Order.Field.Basic
import Mathlib.Algebra.Order.Field.Rat
import Mathlib.Algebra.BigOperators.Intervals
import Mathlib.Tactic.Ring
import Mathlib.Tactic.NormNum
/-!
# C05 — structural laws of the quadrature rules (every integrand, interval, segment count)

For a total integrand `tot F = fun x => .ok (F x)` over a linearly ordered field each rule of the model is
a sum of panels (`SV.Lemmas.C05`), and what one panel does gives linearity in the integrand,
translation invariance `rule (F(· − t)) (a + t) (b + t) n = rule F a b n`, and reversal
`rule F b a n = − rule F a b n` for the trapezoid rule and for `definiteIntegral` with even `n`.  For odd
`n` reversal fails at `n = 5` (witness over `ℚ`): the 3/8 panel always sits at the `end` argument.

`romberg` (the whole function with early exit, cap and panics) sees the integrand only through the
trapezoid values and is homogeneous in them (`romberg_scaled`), its stopping test being a relative
change: hence `romberg (c·F) = c·romberg F` for `c ≠ 0`, `romberg F b a = −romberg F a b`, translation
invariance.  For the same reason its result is not additive in the integrand; without the stopping
test one pass keeps the table entries linear in the integrand (`rombergRow_linear`,
`rombergFill_linear`; the induction over the passes from `zeros_linT` is not carried out).
`definiteIntegralP` / `rombergP` inherit the laws on both polynomial types through `Evaluates`.
-/
set_option linter.unusedSectionVars false

namespace SV.Props.C05Linear
open SV SV.Poly SV.C05 Finset Polynomial

variable {K : Type} [Field K] [LinearOrder K] [IsStrictOrderedRing K]

/-- a total integrand: evaluation never fails and returns `F x` -/
def tot (F : K → K) : K → Except PErr K := fun x => .ok (F x)

omit [Field K] [LinearOrder K] [IsStrictOrderedRing K] in
theorem tot_ok (F : K → K) (x : K) : tot F x = .ok (F x) := rfl

theorem segments_cases (n : ℕ) : n = 1 ∨ n % 2 = 0 ∨ n % 2 = 1 ∧ 3 ≤ n := by omega

theorem trapezoid_linear (F G : K → K) (α β a b : K) (n : Nat) :
    ∃ vF vG, trapezoid (tot F) a b n = .ok vF ∧ trapezoid (tot G) a b n = .ok vG ∧
      trapezoid (tot fun x => α * F x + β * G x) a b n = .ok (α * vF + β * vG) :=
  ⟨_, _, trapezoid_eq_sum (tot_ok F) a b n, trapezoid_eq_sum (tot_ok G) a b n, by
    rw [trapezoid_eq_sum (tot_ok _)]
    simp only [panelT_lin, sum_add_distrib, mul_sum]⟩

theorem simpson13_linear (F G : K → K) (α β h s : K) (m : Nat) :
    ∃ vF vG, simpson13 (tot F) h s m = .ok vF ∧ simpson13 (tot G) h s m = .ok vG ∧
      simpson13 (tot fun x => α * F x + β * G x) h s m = .ok (α * vF + β * vG) :=
  ⟨_, _, simpson13_eq (tot_ok F) h s m, simpson13_eq (tot_ok G) h s m, by
    rw [simpson13_eq (tot_ok _)]
    simp only [panel13_lin, sum_add_distrib, mul_sum]⟩

theorem simpson38_linear (F G : K → K) (α β h p0 p1 p2 p3 : K) :
    ∃ vF vG, simpson38 (tot F) h p0 p1 p2 p3 = .ok vF ∧ simpson38 (tot G) h p0 p1 p2 p3 = .ok vG ∧
      simpson38 (tot fun x => α * F x + β * G x) h p0 p1 p2 p3 = .ok (α * vF + β * vG) := by
  refine ⟨_, _, rfl, rfl, ?_⟩
  simp only [simpson38, tot, Except.ok.injEq]
  ring

/-- `definite_integral`, every segment count: `n = 1` trapezoid, even `n` (`0` included) 1/3 panels,
odd `n ≥ 3` a 3/8 panel and 1/3 panels -/
theorem definiteIntegral_linear (F G : K → K) (α β a b : K) (n : Nat) :
    ∃ vF vG, definiteIntegral (tot F) a b n = .ok vF ∧ definiteIntegral (tot G) a b n = .ok vG ∧
      definiteIntegral (tot fun x => α * F x + β * G x) a b n = .ok (α * vF + β * vG) := by
  rcases segments_cases n with rfl | hn | ⟨hn, h3⟩
  · refine ⟨_, _, definiteIntegral_one (tot_ok F) a b, definiteIntegral_one (tot_ok G) a b, ?_⟩
    rw [definiteIntegral_one (tot_ok _)]
    congr 1
    ring
  · refine ⟨_, _, definiteIntegral_even (tot_ok F) a b hn, definiteIntegral_even (tot_ok G) a b hn, ?_⟩
    rw [definiteIntegral_even (tot_ok _) a b hn]
    simp only [panel13_lin, sum_add_distrib, mul_sum]
  · refine ⟨_, _, definiteIntegral_odd (tot_ok F) a b hn h3,
      definiteIntegral_odd (tot_ok G) a b hn h3, ?_⟩
    rw [definiteIntegral_odd (tot_ok _) a b hn h3]
    simp only [panel13_lin, panel38_lin, sum_add_distrib, ← mul_sum]
    congr 1
    ring

theorem trapezoid_translate (F : K → K) (t a b : K) (n : Nat) :
    trapezoid (tot fun x => F (x - t)) (a + t) (b + t) n = trapezoid (tot F) a b n := by
  rw [trapezoid_eq_sum (tot_ok _), trapezoid_eq_sum (tot_ok F)]
  simp only [add_sub_add_right_eq_sub, add_right_comm a t, panelT_shift]

theorem simpson13_translate (F : K → K) (t h s : K) (m : Nat) :
    simpson13 (tot fun x => F (x - t)) h (s + t) m = simpson13 (tot F) h s m := by
  rw [simpson13_eq (tot_ok _), simpson13_eq (tot_ok F)]
  simp only [add_right_comm s t, panel13_shift]

theorem simpson38_translate (F : K → K) (t h p0 p1 p2 p3 : K) :
    simpson38 (tot fun x => F (x - t)) h (p0 + t) (p1 + t) (p2 + t) (p3 + t)
      = simpson38 (tot F) h p0 p1 p2 p3 := by
  simp only [simpson38, tot, add_sub_cancel_right]

theorem definiteIntegral_translate (F : K → K) (t a b : K) (n : Nat) :
    definiteIntegral (tot fun x => F (x - t)) (a + t) (b + t) n = definiteIntegral (tot F) a b n := by
  simp only [definiteIntegral, add_sub_add_right_eq_sub]
  simp only [add_sub_right_comm b t, trapezoid_translate, simpson38_translate, simpson13_translate]

/-- reversal of the interval: the node set is the same, the step changes sign (`sum_reverse`) -/
theorem trapezoid_reverse (F : K → K) (a b : K) (n : Nat) :
    ∃ v, trapezoid (tot F) a b n = .ok v ∧ trapezoid (tot F) b a n = .ok (-v) := by
  refine ⟨_, trapezoid_eq_sum (tot_ok F) a b n, ?_⟩
  obtain rfl | hn := eq_or_ne n 0
  · simp [trapezoid_eq_sum (tot_ok F)]
  have hh : (a - b) / (n : K) = -((b - a) / n) := by ring
  rw [trapezoid_eq_sum (tot_ok F), hh, sum_reverse (panelT F ((b - a) / n))
    (panelT F (-((b - a) / n))) (add_steps a b hn) (panelT_neg F _)]

/-- even `n`: only 1/3 panels are used, and the set of panels is the same in both directions -/
theorem definiteIntegral_reverse_even (F : K → K) (a b : K) (n : Nat) (hn : n % 2 = 0) :
    ∃ v, definiteIntegral (tot F) a b n = .ok v ∧ definiteIntegral (tot F) b a n = .ok (-v) := by
  refine ⟨_, definiteIntegral_even (tot_ok F) a b hn, ?_⟩
  obtain rfl | h0 := eq_or_ne n 0
  · simp [definiteIntegral_even (tot_ok F)]
  have hh : (a - b) / (n : K) = -((b - a) / n) := by ring
  rw [definiteIntegral_even (tot_ok F) b a hn, hh, mul_neg, sum_reverse (panel13 F ((b - a) / n))
    (panel13 F (-((b - a) / n))) (add_steps_even a b h0 hn) (panel13_neg F _)]

/-- Reversal is not a law of `definite_integral` for odd `n`: the 3/8 panel is always put at the `end`
argument, so with `n = 5` and `x⁵` on `[0, 5]` over `ℚ` the two directions give `10485/4` and
`−10465/4`. -/
theorem definiteIntegral_reverse_odd_fails :
    definiteIntegral (tot fun x : ℚ => x ^ 5) 0 5 5 = .ok (10485 / 4) ∧
    definiteIntegral (tot fun x : ℚ => x ^ 5) 5 0 5 = .ok (-10465 / 4) := by
  decide +kernel

/-- a rewrite of the step in this form can differ at `f64` by rounding only -/
theorem width_split (a b : K) (n : Nat) : (b - a) / (n : K) = b / (n : K) - a / (n : K) := sub_div b a _

def mapOk {ε α β : Type} (f : α → β) : Outcome ε α → Outcome ε β
  | .ok v => .ok (f v)
  | .err e => .err e
  | .panic => .panic

def scalePass (c : K) : Pass K → Pass K
  | .done o => .done (mapOk (c * ·) o)
  | .more T => .more (smulT c T)

private theorem eqZero_mul {c : K} (hc : c ≠ 0) (x : K) : eqZero (c * x) = eqZero x := by
  simp only [eqZero_eq, mul_eq_zero, hc, false_or]

private theorem rombergStop_smulT {c : K} (hc : c ≠ 0) (tol : K) (cap iter : Nat) (T : Table K) :
    rombergStop tol cap iter (smulT c T) = scalePass c (rombergStop tol cap iter T) := by
  unfold rombergStop
  simp only [get?_smulT]
  cases T.get? 1 (iter + 1) with
  | none => rfl
  | some x =>
    cases T.get? 2 iter with
    | none => rfl
    | some y =>
      simp only [Option.map_some]
      have e : sabs (sabs (c * x - c * y) / (c * x)) = sabs (sabs (x - y) / x) := by
        rw [← mul_sub]
        simp only [sabs_eq_abs, abs_div, abs_mul, abs_abs]
        rw [mul_div_mul_left _ _ (abs_ne_zero.mpr hc)]
      rw [e, eqZero_mul hc]
      split
      · split <;> rfl
      · rfl

/-- One pass from the `c`-scaled table gives the `c`-scaled pass: the Richardson columns are linear
(`rombergRow_smulT`) and the stopping test — a relative change, and `x == 0` — does not see `c ≠ 0`
(`rombergStop_smulT`).  The integrand enters through `htr` only. -/
theorem rombergPass_scaled {c : K} (hc : c ≠ 0) (f₁ f₂ : K → Except PErr K) (a₁ b₁ a₂ b₂ : K)
    (htr : ∀ n, ∃ v, trapezoid f₁ a₁ b₁ n = .ok v ∧ trapezoid f₂ a₂ b₂ n = .ok (c * v))
    (tol : K) (cap iter : Nat) (T : Table K) :
    rombergPass f₂ a₂ b₂ tol cap iter (smulT c T) = scalePass c (rombergPass f₁ a₁ b₁ tol cap iter T) := by
  unfold rombergPass
  split
  · rfl
  · obtain ⟨v, h1, h2⟩ := htr (2 ^ iter)
    rw [h1, h2]
    simp only
    rw [set?_smulT]
    cases T.set? (iter + 1) 1 v with
    | none => rfl
    | some T1 =>
      simp only [Option.map_some]
      rw [rombergRow_smulT]
      cases rombergRow iter iter 2 T1 with
      | none => rfl
      | some T2 => simp only [Option.map_some]; exact rombergStop_smulT hc tol cap iter T2

private theorem rombergLoop_scaled {c : K} (hc : c ≠ 0) (f₁ f₂ : K → Except PErr K) (a₁ b₁ a₂ b₂ : K)
    (htr : ∀ n, ∃ v, trapezoid f₁ a₁ b₁ n = .ok v ∧ trapezoid f₂ a₂ b₂ n = .ok (c * v))
    (tol : K) (cap : Nat) :
    ∀ (fuel iter0 : Nat) (T : Table K),
      rombergLoop f₂ a₂ b₂ tol cap fuel iter0 (smulT c T)
        = mapOk (c * ·) (rombergLoop f₁ a₁ b₁ tol cap fuel iter0 T) := by
  intro fuel
  induction fuel with
  | zero =>
    intro iter0 T
    unfold rombergLoop
    rw [rombergPass_scaled hc f₁ f₂ a₁ b₁ a₂ b₂ htr]
    cases rombergPass f₁ a₁ b₁ tol cap (iter0 + 1) T <;> rfl
  | succ fuel ih =>
    intro iter0 T
    unfold rombergLoop
    rw [rombergPass_scaled hc f₁ f₂ a₁ b₁ a₂ b₂ htr]
    cases rombergPass f₁ a₁ b₁ tol cap (iter0 + 1) T with
    | done o => rfl
    | more T' => exact ih (iter0 + 1) T'

/-- the whole `romberg_definite`, early exit, cap and panics included: same error, same panic, the
returned value multiplied by `c` -/
theorem romberg_scaled {c : K} (hc : c ≠ 0) (f₁ f₂ : K → Except PErr K) (a₁ b₁ a₂ b₂ : K)
    (htr : ∀ n, ∃ v, trapezoid f₁ a₁ b₁ n = .ok v ∧ trapezoid f₂ a₂ b₂ n = .ok (c * v))
    (dim maxiter : Nat) (tol : K) :
    romberg dim f₂ a₂ b₂ maxiter tol = mapOk (c * ·) (romberg dim f₁ a₁ b₁ maxiter tol) := by
  unfold romberg
  split
  · rfl
  · obtain ⟨v, h1, h2⟩ := htr 1
    rw [h1, h2]
    simp only
    have := set?_smulT c (Table.zeros dim : Table K) 1 1 v
    rw [zeros_smulT] at this
    rw [this]
    cases (Table.zeros dim : Table K).set? 1 1 v with
    | none => rfl
    | some T =>
      simp only [Option.map_some]
      exact rombergLoop_scaled hc f₁ f₂ a₁ b₁ a₂ b₂ htr tol _ _ 0 T

theorem romberg_smul (F : K → K) {c : K} (hc : c ≠ 0) (a b : K) (dim maxiter : Nat) (tol : K) :
    romberg dim (tot fun x => c * F x) a b maxiter tol
      = mapOk (c * ·) (romberg dim (tot F) a b maxiter tol) := by
  apply romberg_scaled hc
  intro n
  obtain ⟨vF, vG, e1, _, e3⟩ := trapezoid_linear F (fun _ => 0) c 0 a b n
  refine ⟨vF, e1, ?_⟩
  simp only [mul_zero, add_zero, zero_mul] at e3
  exact e3

theorem romberg_reverse (F : K → K) (a b : K) (dim maxiter : Nat) (tol : K) :
    romberg dim (tot F) b a maxiter tol = mapOk (-1 * ·) (romberg dim (tot F) a b maxiter tol) := by
  apply romberg_scaled (by norm_num : (-1 : K) ≠ 0)
  intro n
  obtain ⟨v, e1, e2⟩ := trapezoid_reverse F a b n
  exact ⟨v, e1, by rw [e2]; simp⟩

theorem romberg_translate (F : K → K) (t a b : K) (dim maxiter : Nat) (tol : K) :
    romberg dim (tot fun x => F (x - t)) (a + t) (b + t) maxiter tol
      = romberg dim (tot F) a b maxiter tol := by
  rw [romberg_scaled one_ne_zero (tot F) _ a b _ _ fun n =>
    ⟨_, trapezoid_eq_sum (tot_ok F) a b n, by
      rw [trapezoid_translate, one_mul, trapezoid_eq_sum (tot_ok F)]⟩]
  cases romberg dim (tot F) a b maxiter tol <;> simp [mapOk]

def Rel3 (α β : K) : Option K → Option K → Option K → Prop
  | some u, some v, some w => w = α * u + β * v
  | none, none, none => True
  | _, _, _ => False

/-- the third table is entrywise `α·first + β·second`; on indices out of range `Rel3` forces the three
tables to have the same shape -/
def LinT (α β : K) (T₁ T₂ T₃ : Table K) : Prop :=
  ∀ i j, Rel3 α β (T₁.get? i j) (T₂.get? i j) (T₃.get? i j)

/-- `none` = the code panicked: on all three tables or on none -/
def LinOT (α β : K) : Option (Table K) → Option (Table K) → Option (Table K) → Prop
  | some T₁, some T₂, some T₃ => LinT α β T₁ T₂ T₃
  | none, none, none => True
  | _, _, _ => False

omit [LinearOrder K] [IsStrictOrderedRing K] in
private theorem rel3_cases {α β : K} {o₁ o₂ o₃ : Option K} (h : Rel3 α β o₁ o₂ o₃) :
    (o₁ = none ∧ o₂ = none ∧ o₃ = none) ∨
      ∃ u v, o₁ = some u ∧ o₂ = some v ∧ o₃ = some (α * u + β * v) := by
  cases o₁ <;> cases o₂ <;> cases o₃ <;> simp only [Rel3] at h
  · exact Or.inl ⟨rfl, rfl, rfl⟩
  · exact Or.inr ⟨_, _, rfl, rfl, by rw [h]⟩

omit [LinearOrder K] [IsStrictOrderedRing K] in
private theorem linOT_cases {α β : K} {o₁ o₂ o₃ : Option (Table K)} (h : LinOT α β o₁ o₂ o₃) :
    (o₁ = none ∧ o₂ = none ∧ o₃ = none) ∨
      ∃ T₁ T₂ T₃, o₁ = some T₁ ∧ o₂ = some T₂ ∧ o₃ = some T₃ ∧ LinT α β T₁ T₂ T₃ := by
  cases o₁ <;> cases o₂ <;> cases o₃ <;> simp only [LinOT] at h
  · exact Or.inl ⟨rfl, rfl, rfl⟩
  · exact Or.inr ⟨_, _, _, rfl, rfl, rfl, h⟩

private theorem set?_lin {α β : K} {T₁ T₂ T₃ : Table K} (H : LinT α β T₁ T₂ T₃) (i j : Nat)
    (u v : K) :
    LinOT α β (T₁.set? i j u) (T₂.set? i j v) (T₃.set? i j (α * u + β * v)) := by
  rcases rel3_cases (H i j) with ⟨e1, e2, e3⟩ | ⟨x, y, e1, e2, e3⟩
  · rw [Table.set?_none_of_get? e1, Table.set?_none_of_get? e2, Table.set?_none_of_get? e3]; trivial
  · obtain ⟨T₁', h1⟩ := Table.set?_some_of_get? e1 u
    obtain ⟨T₂', h2⟩ := Table.set?_some_of_get? e2 v
    obtain ⟨T₃', h3⟩ := Table.set?_some_of_get? e3 (α * u + β * v)
    rw [h1, h2, h3]
    have s1 := Table.set?_spec h1
    have s2 := Table.set?_spec h2
    have s3 := Table.set?_spec h3
    intro i' j'
    by_cases hij : i' = i ∧ j' = j
    · obtain ⟨rfl, rfl⟩ := hij
      rw [s1.1, s2.1, s3.1]
      rfl
    · have hne : i' ≠ i ∨ j' ≠ j := by omega
      rw [s1.2 i' j' hne, s2.2 i' j' hne, s3.2 i' j' hne]
      exact H i' j'

/-- the inner `for k` loop of Romberg keeps `T₃ = α·T₁ + β·T₂` and panics on all three tables or on none -/
theorem rombergRow_linear (α β : K) (iter : Nat) :
    ∀ (n k : Nat) (T₁ T₂ T₃ : Table K), LinT α β T₁ T₂ T₃ →
      LinOT α β (rombergRow iter n k T₁) (rombergRow iter n k T₂) (rombergRow iter n k T₃) := by
  intro n
  induction n with
  | zero => intro k T₁ T₂ T₃ H; exact H
  | succ n ih =>
    intro k T₁ T₂ T₃ H
    unfold rombergRow
    by_cases h32 : 32 ≤ k - 1
    · simp only [if_pos h32]; trivial
    · simp only [if_neg h32]
      rcases rel3_cases (H (2 + iter - k + 1) (k - 1)) with ⟨e1, e2, e3⟩ | ⟨u₁, u₂, e1, e2, e3⟩ <;>
      rcases rel3_cases (H (2 + iter - k) (k - 1)) with ⟨d1, d2, d3⟩ | ⟨v₁, v₂, d1, d2, d3⟩ <;>
      rw [e1, e2, e3, d1, d2, d3] <;> simp only
      · trivial
      · trivial
      · trivial
      · have e : (((4 ^ (k - 1) : ℕ) : K) * (α * u₁ + β * u₂) - (α * v₁ + β * v₂))
              / (((4 ^ (k - 1) : ℕ) : K) - lit 1)
            = α * ((((4 ^ (k - 1) : ℕ) : K) * u₁ - v₁) / (((4 ^ (k - 1) : ℕ) : K) - lit 1))
              + β * ((((4 ^ (k - 1) : ℕ) : K) * u₂ - v₂) / (((4 ^ (k - 1) : ℕ) : K) - lit 1)) := by
          ring
        rw [e]
        rcases linOT_cases (set?_lin H (2 + iter - k) k
          ((((4 ^ (k - 1) : ℕ) : K) * u₁ - v₁) / (((4 ^ (k - 1) : ℕ) : K) - lit 1))
          ((((4 ^ (k - 1) : ℕ) : K) * u₂ - v₂) / (((4 ^ (k - 1) : ℕ) : K) - lit 1)))
          with ⟨c1, c2, c3⟩ | ⟨T₁', T₂', T₃', c1, c2, c3, H'⟩
        · rw [c1, c2, c3]; trivial
        · rw [c1, c2, c3]; exact ih (k + 1) T₁' T₂' T₃' H'

/-- One pass of Romberg without the stopping test (`table[iter+1][1] = trapezoidal_rule(…, 2^iter)`, then
the Richardson columns) for `F`, `G` and `αF + βG`.  The result of `romberg_definite` itself is not
additive, because the early exit looks at a relative change; it is homogeneous (`romberg_smul`). -/
theorem rombergFill_linear (F G : K → K) (α β a b : K) (iter : Nat) (T₁ T₂ T₃ : Table K)
    (H : LinT α β T₁ T₂ T₃) :
    ∃ tF tG, trapezoid (tot F) a b (2 ^ iter) = .ok tF ∧ trapezoid (tot G) a b (2 ^ iter) = .ok tG ∧
      trapezoid (tot fun x => α * F x + β * G x) a b (2 ^ iter) = .ok (α * tF + β * tG) ∧
      LinOT α β ((T₁.set? (iter + 1) 1 tF).bind (rombergRow iter iter 2))
        ((T₂.set? (iter + 1) 1 tG).bind (rombergRow iter iter 2))
        ((T₃.set? (iter + 1) 1 (α * tF + β * tG)).bind (rombergRow iter iter 2)) := by
  obtain ⟨tF, tG, e1, e2, e3⟩ := trapezoid_linear F G α β a b (2 ^ iter)
  refine ⟨tF, tG, e1, e2, e3, ?_⟩
  rcases linOT_cases (set?_lin H (iter + 1) 1 tF tG) with ⟨c1, c2, c3⟩ | ⟨T₁', T₂', T₃', c1, c2, c3, H'⟩
  · rw [c1, c2, c3]; trivial
  · rw [c1, c2, c3]; exact rombergRow_linear α β iter iter 2 T₁' T₂' T₃' H'

/-- the table Romberg starts from, `vec![vec![0.0; dim]; dim]` -/
theorem zeros_linT (α β : K) (dim : Nat) :
    LinT α β (Table.zeros dim : Table K) (Table.zeros dim) (Table.zeros dim) := by
  intro i j
  cases h : (Table.zeros dim : Table K).get? i j with
  | none => trivial
  | some x =>
    have hx : x = 0 := by
      unfold Table.get? Table.zeros at h
      by_cases hi : i < dim
      · rw [Array.getElem?_replicate, if_pos hi] at h
        simp only at h
        by_cases hj : j < dim
        · rw [Array.getElem?_replicate, if_pos hj] at h
          cases h; rfl
        · rw [Array.getElem?_replicate, if_neg hj] at h; cases h
      · rw [Array.getElem?_replicate, if_neg hi] at h; cases h
    subst hx
    simp [Rel3]

omit [LinearOrder K] [IsStrictOrderedRing K] in
private theorem evalUni_eq_tot {powf : K → K → K} {p : AnyPoly K} {q : K[X]}
    (h : Evaluates powf p q) : p.evalUni powf = tot fun x => q.eval x := funext h

/-- `Evaluates powf p q` (`p.evalUni powf` is total and equals `q.eval`) covers both polynomial types -/
theorem definiteIntegralP_linear (powf : K → K → K) (p₁ p₂ p₃ : AnyPoly K) (q₁ q₂ : K[X]) (α β : K)
    (h₁ : Evaluates powf p₁ q₁) (h₂ : Evaluates powf p₂ q₂)
    (h₃ : Evaluates powf p₃ (C α * q₁ + C β * q₂)) (a b : K) (n : Nat) :
    ∃ v₁ v₂, definiteIntegralP powf p₁ a b n = .ok v₁ ∧ definiteIntegralP powf p₂ a b n = .ok v₂ ∧
      definiteIntegralP powf p₃ a b n = .ok (α * v₁ + β * v₂) := by
  unfold definiteIntegralP
  rw [evalUni_eq_tot h₁, evalUni_eq_tot h₂, evalUni_eq_tot h₃]
  simp only [eval_add, eval_mul, eval_C]
  exact definiteIntegral_linear _ _ α β a b n

theorem definiteIntegralP_translate (powf : K → K → K) (p p' : AnyPoly K) (q : K[X]) (t : K)
    (h : Evaluates powf p q) (h' : Evaluates powf p' (q.comp (X - C t))) (a b : K) (n : Nat) :
    definiteIntegralP powf p' (a + t) (b + t) n = definiteIntegralP powf p a b n := by
  unfold definiteIntegralP
  rw [evalUni_eq_tot h, evalUni_eq_tot h']
  simp only [eval_comp, eval_sub, eval_X, eval_C]
  exact definiteIntegral_translate (fun x => q.eval x) t a b n

theorem definiteIntegralP_reverse_even (powf : K → K → K) (p : AnyPoly K) (q : K[X])
    (h : Evaluates powf p q) (a b : K) (n : Nat) (hn : n % 2 = 0) :
    ∃ v, definiteIntegralP powf p a b n = .ok v ∧ definiteIntegralP powf p b a n = .ok (-v) := by
  unfold definiteIntegralP
  rw [evalUni_eq_tot h]
  exact definiteIntegral_reverse_even _ a b n hn

theorem rombergP_reverse (powf : K → K → K) (p : AnyPoly K) (q : K[X])
    (h : Evaluates powf p q) (a b : K) (maxiter : Nat) (tol : K) :
    rombergP powf p b a maxiter tol = mapOk (-1 * ·) (rombergP powf p a b maxiter tol) := by
  unfold rombergP
  rw [evalUni_eq_tot h]
  exact romberg_reverse _ a b _ maxiter tol

/-- `x²`, `x` and `2x² + 3x` on `[0, 1]` with 5 segments (3/8 + 1/3 panels), computed -/
example : definiteIntegral (tot fun x : ℚ => x ^ 2) 0 1 5 = .ok (1 / 3) ∧
    definiteIntegral (tot fun x : ℚ => x) 0 1 5 = .ok (1 / 2) ∧
    definiteIntegral (tot fun x : ℚ => 2 * x ^ 2 + 3 * x) 0 1 5 = .ok (2 * (1 / 3) + 3 * (1 / 2)) := by
  decide +kernel

example : ∃ vF vG, definiteIntegral (tot fun x : ℚ => x ^ 2) 0 1 5 = .ok vF ∧
    definiteIntegral (tot fun x : ℚ => x) 0 1 5 = .ok vG ∧
    definiteIntegral (tot fun x : ℚ => 2 * x ^ 2 + 3 * x) 0 1 5 = .ok (2 * vF + 3 * vG) :=
  definiteIntegral_linear _ _ 2 3 0 1 5

/-- `x⁴` on `[0, 2]`, `(x − 3)⁴` on `[3, 5]`, and `x⁴` on `[2, 0]`, 4 segments, computed — a quartic, so
the value `77/12` is not the integral `32/5` -/
example : definiteIntegral (tot fun x : ℚ => x ^ 4) 0 2 4 = .ok (77 / 12) ∧
    definiteIntegral (tot fun x : ℚ => (x - 3) ^ 4) (0 + 3) (2 + 3) 4 = .ok (77 / 12) ∧
    definiteIntegral (tot fun x : ℚ => x ^ 4) 2 0 4 = .ok (-(77 / 12)) := by
  decide +kernel

/-- `romberg` returns a value, so `romberg_reverse` is not about errors only -/
example : romberg 10 (tot fun x : ℚ => x ^ 3) 0 2 5 1 = .ok 4 ∧
    romberg 10 (tot fun x : ℚ => x ^ 3) 2 0 5 1 = .ok (-4) := by
  decide +kernel

example : ((7 : ℚ) - 3) / (5 : ℕ) = 7 / (5 : ℕ) - 3 / (5 : ℕ) := width_split 3 7 5

end SV.Props.C05Linear
