import SV.Model.C08
import SV.Lemmas.Subst
import SV.Lemmas.Gauss
import SV.Props.C08
/-!
# C08 — Gaussian elimination with scaled partial pivoting is invariant under row scaling

Multiplying row `i` of the system `(A, b)` by a non-zero factor `d i` (positive or negative) changes
nothing in what the solver does: the same rows are chosen as pivots in every step, the scaled-pivot
test `|a_kk| / scale_k < tol` gives the same verdict in every step, and the returned vector is the
same.  `gauss_row_scaling` is the equality of the complete outcomes — errors included, for every
tolerance, every shape; `gauss_row_scaling_pos` is the special case of positive factors.

That is the reason a test on an *absolute* quantity (`|a_kk| < tol`, `|factor| < tol`,
`|a_ik| < EPSILON`) cannot be part of this algorithm, while the *scaled* pivot test can: the former is
not invariant under the row scaling the algorithm is designed to be blind to
(`absolute_pivot_test_not_invariant`, `factor_test_not_invariant`).

Proof: a simulation between the two runs.  The two elimination states `{m, r, s}` stay related by
`m' i j = e i * m i j`, `r' i = e i * r i`, `s' i = |e i| * s i` for a vector `e` of non-zero factors
(`RowRel`; `e = d` at the start; a row exchange exchanges the same two rows in both runs, hence two
entries of `e`).  The ratios `|m i k / s i|` coincide, so the pivot search and the tolerance test
coincide (`pivotSearch_row_scaling`, `pivotSmall_row_scaling`); the elimination factor
`m i k / m k k` is multiplied by `e i / e k`, so the relation is kept (`elimStep_row_scaling`); each
row of back substitution is `(e b - e Σ) / (e u) = (b - Σ) / u` (`Subst.backLoop_row_scaled`).
-/
set_option linter.unusedSectionVars false

namespace SV.Props.C08Scale
open SV SV.C08 SV.Subst SV.Gauss Finset

variable {K : Type} [Field K] [LinearOrder K] [IsStrictOrderedRing K] [Inhabited K]

def rowScaled (d : ℕ → K) (A : Mat K) : Mat K := Mat.tab A.h A.w fun i j => d i * A.get i j

def vecScaled (d : ℕ → K) (b : Array K) : Array K := vtab b.size fun i => d i * vget b i

omit [LinearOrder K] [IsStrictOrderedRing K] in
@[simp] theorem rowScaled_h (d : ℕ → K) (A : Mat K) : (rowScaled d A).h = A.h := rfl
@[simp] theorem rowScaled_w (d : ℕ → K) (A : Mat K) : (rowScaled d A).w = A.w := rfl
omit [LinearOrder K] [IsStrictOrderedRing K] in
@[simp] theorem vecScaled_size (d : ℕ → K) (b : Array K) : (vecScaled d b).size = b.size := by
  simp [vecScaled, vtab]

omit [LinearOrder K] [IsStrictOrderedRing K] in
theorem get_rowScaled (d : ℕ → K) (A : Mat K) {i j : ℕ} (hi : i < A.h) (hj : j < A.w) :
    (rowScaled d A).get i j = d i * A.get i j := Mat.get_tab _ hi hj

omit [LinearOrder K] [IsStrictOrderedRing K] in
theorem vget_vecScaled (d : ℕ → K) (b : Array K) {i : ℕ} (hi : i < b.size) :
    vget (vecScaled d b) i = d i * vget b i := vget_vtab _ hi

/-- If the solver answers both the system and the row-scaled system (any factors, positive
tolerance), the two answers are the same vector: by `gauss_sound` the first answer solves the scaled
system too, and by `gauss_unique` the scaled system has no other solution.  `gauss_row_scaling` also
shows that the two runs answer or refuse together, and needs no assumption on the tolerance. -/
theorem gauss_ok_row_scaling_of_ok (A : Mat K) (b : Array K) (tol : K) (d : ℕ → K) (x x' : Array K)
    (htol : 0 < tol) (h : gaussSolve A b tol = .ok x)
    (h' : gaussSolve (rowScaled d A) (vecScaled d b) tol = .ok x') : x' = x := by
  obtain ⟨hsq, hb, _, _⟩ := gaussSolve_ok h
  obtain ⟨hsz, hx⟩ := C08.gauss_sound A b tol x htol h
  obtain ⟨hsz', _⟩ := C08.gauss_sound _ _ tol x' htol h'
  have hu := C08.gauss_unique _ _ tol x' htol h' (fun j => vget x j) (by
    intro i hi
    rw [rowScaled_h] at hi
    rw [rowScaled_h, vget_vecScaled d b (by omega), ← hx i hi, Finset.mul_sum]
    apply Finset.sum_congr rfl
    intro j hj
    rw [get_rowScaled d A hi (by have := Finset.mem_range.mp hj; omega), mul_assoc])
  rw [rowScaled_h] at hsz' hu
  exact array_ext_vget (by omega) fun i hi => (hu i (by omega)).symm

omit [Inhabited K] in
private theorem sabs_mul (e x : K) : sabs (e * x) = |e| * sabs x := by
  rw [sabs_eq_abs, sabs_eq_abs, abs_mul]

omit [Inhabited K] in
private theorem sabs_ratio {e : K} (he : e ≠ 0) (a s : K) :
    sabs (e * a / (|e| * s)) = sabs (a / s) := by
  rw [sabs_eq_abs, sabs_eq_abs, abs_div, abs_div, abs_mul, abs_mul, abs_abs,
    mul_div_mul_left _ _ (abs_ne_zero.mpr he)]

omit [Inhabited K] in
private theorem rowScale_fold {e : K} (he : 0 < e) (f g : ℕ → K) (l : List ℕ)
    (hfg : ∀ j ∈ l, g j = e * f j) (init : K) :
    l.foldl (fun sc j => if sc < g j then g j else sc) (e * init)
      = e * l.foldl (fun sc j => if sc < f j then f j else sc) init := by
  induction l generalizing init with
  | nil => rfl
  | cons a l ih =>
    simp only [List.foldl_cons]
    rw [hfg a (by simp)]
    have ih' := ih (fun j hj => hfg j (by simp [hj]))
    by_cases hlt : init < f a
    · rw [if_pos hlt, if_pos (mul_lt_mul_of_pos_left hlt he)]
      exact ih' _
    · rw [if_neg hlt, if_neg (fun hc => hlt (lt_of_mul_lt_mul_left hc he.le))]
      exact ih' _

theorem rowScale_rowScaled (d : ℕ → K) (A : Mat K) (hsq : A.h = A.w) {i : ℕ} (hi : i < A.h)
    (hd : d i ≠ 0) : rowScale (rowScaled d A) A.h i = |d i| * rowScale A A.h i := by
  unfold rowScale
  rw [get_rowScaled d A hi (by omega), sabs_mul]
  exact rowScale_fold (abs_pos.mpr hd) (fun j => sabs (A.get i j)) (fun j => sabs ((rowScaled d A).get i j)) _
    (fun j hj => by
      rw [List.mem_range'_1] at hj
      rw [get_rowScaled d A hi (by omega), sabs_mul]) _

/-- the state `st'` is the state `st` with row `i` of the matrix and of the right-hand side multiplied
by `e i`, and the scale entry `i` by `|e i|` -/
def RowRel (n : ℕ) (e : ℕ → K) (st st' : St K) : Prop :=
  (∀ i j, i < n → j < n → st'.m.get i j = e i * st.m.get i j) ∧
  (∀ i, i < n → vget st'.r i = e i * vget st.r i) ∧
  (∀ i, i < n → vget st'.s i = |e i| * vget st.s i)

def RowInv (n : ℕ) (st st' : St K) : Prop :=
  Shape n st ∧ Shape n st' ∧ ∃ e : ℕ → K, (∀ i, i < n → e i ≠ 0) ∧ RowRel n e st st'

theorem pivotSearch_row_scaling {n k : ℕ} {e : ℕ → K} {st st' : St K} (hk : k < n)
    (he : ∀ i, i < n → e i ≠ 0) (h : RowRel n e st st') :
    pivotSearch st'.m st'.s n k = pivotSearch st.m st.s n k := by
  obtain ⟨hm, _, hs⟩ := h
  unfold pivotSearch
  rw [hm k k hk hk, hs k hk, sabs_ratio (he k hk)]
  apply List.foldl_ext
  intro pb ii hii
  rw [List.mem_range'_1] at hii
  have hii' : ii < n := by omega
  simp only [hm ii k hii' hk, hs ii hii', sabs_ratio (he ii hii')]

theorem pivotSmall_row_scaling {n k : ℕ} {e : ℕ → K} {st st' : St K} (tol : K) (hk : k < n)
    (he : ∀ i, i < n → e i ≠ 0) (h : RowRel n e st st') :
    pivotSmall st' tol k = pivotSmall st tol k := by
  obtain ⟨hm, _, hs⟩ := h
  unfold pivotSmall
  rw [hm k k hk hk, hs k hk, sabs_ratio (he k hk)]

theorem partialPivot_row_scaling {n k : ℕ} {st st' : St K} (hk : k < n) (h : RowInv n st st') :
    RowInv n (partialPivot st n k) (partialPivot st' n k) := by
  obtain ⟨hs, hs', e, he, hm, hr, hsc⟩ := h
  have hg := fun {i} (hi : i < n) => partialPivot_get (k := k) hs hi
  have hg' := fun {i} (hi : i < n) => partialPivot_get (k := k) hs' hi
  simp only [pivotSearch_row_scaling hk he ⟨hm, hr, hsc⟩] at hg'
  obtain ⟨hkp, hpn⟩ := pivotSearch_bounds st.m st.s hk
  generalize (pivotSearch st.m st.s n k).1 = p at hg hg' hkp hpn
  have hsw : ∀ i, i < n → Equiv.swap p k i < n := fun i hi => (swap_facts hkp hpn i).2.2.1 hi
  -- the factors travel with their rows
  refine ⟨partialPivot_shape k hs, partialPivot_shape k hs', fun i => e (Equiv.swap p k i),
    fun i hi => he _ (hsw i hi), fun i j hi hj => ?_, fun i hi => ?_, fun i hi => ?_⟩
  · rw [(hg' hi).1 j hj, (hg hi).1 j hj, hm _ j (hsw i hi) hj]
  · rw [(hg' hi).2.1, (hg hi).2.1, hr _ (hsw i hi)]
  · rw [(hg' hi).2.2, (hg hi).2.2, hsc _ (hsw i hi)]

omit [LinearOrder K] [IsStrictOrderedRing K] [Inhabited K] in
/-- an elimination step on rows multiplied by `e`: the factor `a_ik / a_kk` is multiplied by
`e i / e k`, so row `i` of the result is again multiplied by `e i` -/
private theorem scale_elim {ei ek : K} (hek : ek ≠ 0) (a c p q : K) :
    ei * a - ei * c / (ek * p) * (ek * q) = ei * (a - c / p * q) := by
  rw [← mul_div_mul_left c p hek]
  ring

theorem elimStep_row_scaling {n k : ℕ} {st st' : St K} (hk : k < n) (h : RowInv n st st') :
    RowInv n (elimStep st n k) (elimStep st' n k) := by
  obtain ⟨hs, hs', e, he, hm, hr, hsc⟩ := h
  refine ⟨elimStep_shape k hs, elimStep_shape k hs', e, he, fun i j hi hj => ?_, fun i hi => ?_, hsc⟩
  · rw [elimStep_m st' hi hj, elimStep_m st hi hj, elimA, elimA]
    simp only [fnM, hm i j hi hj, hm i k hi hk, hm k k hk hk, hm k j hk hj]
    split
    · exact scale_elim (he k hk) _ _ _ _
    · rfl
  · rw [elimStep_r st' hi, elimStep_r st hi, elimB, elimB]
    simp only [fnM, fnR, hr i hi, hm i k hi hk, hm k k hk hk, hr k hk]
    split
    · exact scale_elim (he k hk) _ _ _ _
    · rfl

def RunRel (n : ℕ) : Option (St K) → Option (St K) → Prop
  | none, none => True
  | some a, some b => RowInv n a b
  | _, _ => False

theorem forwardElim_row_scaling (tol : K) {n : ℕ} (hn : 0 < n) {st st' : St K}
    (h : RowInv n st st') : RunRel n (forwardElim tol n st) (forwardElim tol n st') := by
  have hsim := forwardElim_sim tol hn (RowInv n)
    (fun k _ _ hk h => partialPivot_row_scaling hk h) (fun k _ _ hk h => elimStep_row_scaling hk h)
    (fun k _ _ hk ⟨_, _, _, he, hrel⟩ => pivotSmall_row_scaling tol hk he hrel) h
  generalize forwardElim tol n st = o at hsim
  generalize forwardElim tol n st' = o' at hsim
  cases hsim with
  | none => trivial
  | some hab => exact hab

theorem backSubst_row_scaling {n : ℕ} (hn : 0 < n) {st st' : St K} (h : RowInv n st st')
    (sol : Array K) (hsol : n ≤ sol.size) :
    backSubst st'.m n st'.r sol = backSubst st.m n st.r sol := by
  obtain ⟨⟨s1, s2, s3, _⟩, ⟨t1, t2, t3, _⟩, e, he, hm, hr, _⟩ := h
  rw [backSubst_eq_ok _ n _ sol hn t1.ge t2.ge t3.ge hsol,
    backSubst_eq_ok _ n _ sol hn s1.ge s2.ge s3.ge hsol,
    backCore_eq_backLoop _ hn, backCore_eq_backLoop _ hn,
    backLoop_row_scaled he hm hr n sol (le_refl n)]

theorem init_row_scaling (A : Mat K) (b : Array K) (d : ℕ → K) (hsq : A.h = A.w)
    (hb : A.h = b.size) (hd : ∀ i, i < A.h → d i ≠ 0) :
    RowInv A.h { m := A, r := b, s := vtab A.h (rowScale A A.h) }
      { m := rowScaled d A, r := vecScaled d b,
        s := vtab A.h (rowScale (rowScaled d A) A.h) } := by
  refine ⟨⟨rfl, hsq.symm, hb.symm, by simp [vtab]⟩,
    ⟨rfl, hsq.symm, by simpa using hb.symm, by simp [vtab]⟩, d, hd, ?_, ?_, ?_⟩
  · intro i j hi hj
    exact get_rowScaled d A hi (by omega)
  · intro i hi
    exact vget_vecScaled d b (by omega)
  · intro i hi
    dsimp only
    rw [vget_vtab _ hi, vget_vtab _ hi, rowScale_rowScaled d A hsq hi (hd i hi)]

/-- **Invariance under row scaling.**  For every linearly ordered field, every matrix `A`
(any shape), right-hand side `b`, tolerance `tol` (any sign) and row factors `d` that are non-zero
on the rows of `A`, the solver returns for the row-scaled system `(D A, D b)` exactly what it returns
for `(A, b)`: the same error, or the same vector.  In particular the pivot order and the singularity
verdict do not depend on the scaling of the equations. -/
theorem gauss_row_scaling (A : Mat K) (b : Array K) (tol : K) (d : ℕ → K)
    (hd : ∀ i, i < A.h → d i ≠ 0) :
    gaussSolve (rowScaled d A) (vecScaled d b) tol = gaussSolve A b tol := by
  rcases gaussSolve_shape A b tol with ⟨h1, h2, h3⟩ | ⟨e, he, hall⟩
  swap
  · rw [he, hall _ _ tol (rowScaled_h d A) (rowScaled_w d A) (vecScaled_size d b)]
  have h2' : (rowScaled d A).h = (vecScaled d b).size := by simpa using h2
  have hn : 0 < A.h := Nat.pos_of_ne_zero h3
  rw [gaussSolve_square A b tol rfl h1 h2 h3, gaussSolve_square (rowScaled d A) (vecScaled d b) tol (rowScaled_h d A) h1 h2' h3]
  have hany : (List.range A.h).any (fun i => vget (vtab A.h (rowScale (rowScaled d A) A.h)) i == 0)
      = (List.range A.h).any (fun i => vget (vtab A.h (rowScale A A.h)) i == 0) := by
    rw [Bool.eq_iff_iff, any_scale_zero, any_scale_zero]
    exact exists_congr fun i => and_congr_right fun hi => by
      rw [rowScale_rowScaled d A h1 hi (hd i hi), mul_eq_zero, abs_eq_zero, or_iff_right (hd i hi)]
  rw [hany]
  split
  · rfl
  · have hfe := forwardElim_row_scaling tol hn (init_row_scaling A b d h1 h2 hd)
    generalize forwardElim tol A.h { m := A, r := b, s := vtab A.h (rowScale A A.h) } = o1 at hfe ⊢
    generalize forwardElim tol A.h (St.mk (rowScaled d A) (vecScaled d b)
      (vtab A.h (rowScale (rowScaled d A) A.h))) = o2 at hfe ⊢
    cases o1 <;> cases o2
    · rfl
    · exact hfe.elim
    · exact hfe.elim
    · rename_i sa sb
      obtain ⟨⟨_, _, _, _⟩, _, e, he, hm, hr, _⟩ := id hfe
      dsimp only
      rw [backCore_eq_backLoop _ hn, backCore_eq_backLoop _ hn,
        backLoop_row_scaled he hm hr A.h _ (le_refl _)]

theorem gauss_row_scaling_pos (A : Mat K) (b : Array K) (tol : K) (d : ℕ → K)
    (hd : ∀ i, i < A.h → 0 < d i) :
    gaussSolve (rowScaled d A) (vecScaled d b) tol = gaussSolve A b tol :=
  gauss_row_scaling A b tol d fun i hi => ne_of_gt (hd i hi)

/-- The run of `forward_elimination` itself: on the row-scaled system it is flagged exactly when it
is flagged on the original system, and otherwise the two final states (triangular matrix, right-hand
side, scale vector) are related by non-zero row factors. -/
theorem forwardElim_row_scaling_init (A : Mat K) (b : Array K) (tol : K) (d : ℕ → K)
    (hsq : A.h = A.w) (hb : A.h = b.size) (hn : A.h ≠ 0) (hd : ∀ i, i < A.h → d i ≠ 0) :
    RunRel A.h (forwardElim tol A.h { m := A, r := b, s := vtab A.h (rowScale A A.h) })
      (forwardElim tol A.h { m := rowScaled d A, r := vecScaled d b,
                             s := vtab A.h (rowScale (rowScaled d A) A.h) }) :=
  forwardElim_row_scaling tol (Nat.pos_of_ne_zero hn) (init_row_scaling A b d hsq hb hd)

theorem gauss_singular_row_scaling (A : Mat K) (b : Array K) (tol : K) (d : ℕ → K)
    (hd : ∀ i, i < A.h → d i ≠ 0) :
    gaussSolve (rowScaled d A) (vecScaled d b) tol = .err .singular ↔
      gaussSolve A b tol = .err .singular := by
  rw [gauss_row_scaling A b tol d hd]

/-- A test of the pivot against an absolute threshold, `|a_kk| < tol`, is *not* invariant under
positive row scaling: `[[1]]` passes `tol = 1/100`, the same equation multiplied by `1/1000` does
not.  (The scaled test `|a_kk| / scale_k < tol` of the algorithm is: `pivotSmall_row_scaling`.) -/
theorem absolute_pivot_test_not_invariant :
    ∃ (A : Mat ℚ) (d : ℕ → ℚ) (tol : ℚ), (∀ i, 0 < d i) ∧
      ¬ (sabs ((rowScaled d A).get 0 0) < tol ↔ sabs (A.get 0 0) < tol) := by
  refine ⟨⟨1, 1, #[1]⟩, fun _ => 1 / 1000, 1 / 100, fun _ => by norm_num, ?_⟩
  decide +kernel

/-- A test of the elimination factor against an absolute threshold, `|a_ik / a_kk| < tol`, is not
invariant either: the factor of row `1` of `[[1,0],[1,1]]` is `1`, after multiplying row `1` by
`1/1000` it is `1/1000`. -/
theorem factor_test_not_invariant :
    ∃ (A : Mat ℚ) (d : ℕ → ℚ) (tol : ℚ), (∀ i, 0 < d i) ∧
      ¬ (sabs ((rowScaled d A).get 1 0 / (rowScaled d A).get 0 0) < tol ↔
          sabs (A.get 1 0 / A.get 0 0) < tol) := by
  refine ⟨⟨2, 2, #[1, 0, 1, 1]⟩, fun i => if i = 0 then 1 else 1 / 1000, 1 / 100, fun i => ?_, ?_⟩
  · dsimp only; split_ifs <;> norm_num
  · decide +kernel

/-- the second unit test of gaussian_elim.rs with row 0 multiplied by 1024 and row 1 by 1/3 -/
example : gaussSolve (rowScaled (fun i => if i = 0 then 1024 else 1 / 3) (⟨2, 2, #[3, 6, 5, -8]⟩ : Mat ℚ))
    (vecScaled (fun i => if i = 0 then 1024 else 1 / 3) #[12, 2]) (1 / 1000000000000)
    = .ok #[2, 1] := by
  decide +kernel
/-- the same with a negative factor -/
example : gaussSolve (rowScaled (fun i => if i = 0 then -7 else 1 / 3) (⟨2, 2, #[3, 6, 5, -8]⟩ : Mat ℚ))
    (vecScaled (fun i => if i = 0 then -7 else 1 / 3) #[12, 2]) (1 / 1000000000000)
    = .ok #[2, 1] := by
  decide +kernel
/-- the theorem applied: whatever the (positive) factors, the answer is that of the unscaled system -/
example (d : ℕ → ℚ) (hd : ∀ i, 0 < d i) :
    gaussSolve (rowScaled d (⟨2, 2, #[3, 6, 5, -8]⟩ : Mat ℚ)) (vecScaled d #[12, 2])
      (1 / 1000000000000) = .ok #[2, 1] := by
  rw [gauss_row_scaling_pos _ _ _ d fun i _ => hd i]
  decide +kernel
/-- a singular system stays refused, however its rows are scaled -/
example (d : ℕ → ℚ) (hd : ∀ i, d i ≠ 0) :
    gaussSolve (rowScaled d (⟨2, 2, #[1, 2, 2, 4]⟩ : Mat ℚ)) (vecScaled d #[1, 1])
      (1 / 1000000000000) = .err .singular := by
  rw [gauss_row_scaling _ _ _ d fun i _ => hd i]
  decide +kernel
/-- a zero factor is excluded for a reason: it turns a regular system into a singular one -/
example : gaussSolve (rowScaled (fun _ => 0) (⟨2, 2, #[3, 6, 5, -8]⟩ : Mat ℚ))
    (vecScaled (fun _ => 0) #[12, 2]) (1 / 1000000000000) = .err .singular := by
  decide +kernel

end SV.Props.C08Scale
