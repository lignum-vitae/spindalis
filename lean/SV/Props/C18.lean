import SV.Lemmas.C18
import Mathlib.Analysis.SpecialFunctions.Pow.Real
/-!
# C18 — descriptive statistics equal their textbook definitions

`K` is any linearly ordered field; `sqrt` is a parameter constrained by `SqrtSpec` (satisfiable only
where non-negative elements have square roots: `Real.sqrt`, not over `ℚ`); the geometric mean is over
`ℝ` with `Real.exp`/`Real.log`.  The same `SV.C18.arithMean`, `geomMean`, `stdDev` run at `Float` in
the driver (with `Float.exp/log/sqrt`) and are compared bit for bit with
`spindalis::utils::{arith_mean, geom_mean, std_dev}` on every run of the check.
`none` is the NaN the code returns from its guards.
-/
namespace SV.Props.C18
open SV SV.C18

variable {K : Type} [Field K] [LinearOrder K] [IsStrictOrderedRing K]

/-- the hypothesis is satisfiable: the real square root -/
example : SqrtSpec Real.sqrt := fun x hx => ⟨Real.mul_self_sqrt hx, Real.sqrt_nonneg x⟩

/-- the textbook variance with denominator `d` -/
def variance (d : Nat) (xs : List K) : K :=
  (xs.map fun x => (x - xs.sum / (xs.length : K)) ^ 2).sum / (d : K)

omit [LinearOrder K] [IsStrictOrderedRing K] in
theorem variance_eq (d : Nat) (xs : List K) : variance d xs = ssd xs / (d : K) := rfl

section
-- the next five statements make no use of the order of `K`
set_option linter.unusedSectionVars false

theorem mean_eq_formula (xs : List K) (m : K) (h : arithMean xs = some m) :
    xs.length ≠ 0 ∧ m = xs.sum / (xs.length : K) := by
  rw [arithMean_eq, Option.ite_none_left_eq_some, Option.some.injEq] at h
  exact ⟨h.1, h.2.symm⟩

theorem std_eq_formula (sqrt : K → K) (k : Kind) (xs : List K) (s : K)
    (h : stdDev sqrt k xs = some s) :
    denom k xs.length ≠ 0 ∧ s = sqrt (variance (denom k xs.length) xs) := by
  rw [stdDev_eq, Option.ite_none_left_eq_some, Option.some.injEq] at h
  exact ⟨h.1, h.2.symm⟩

theorem mean_nan_iff (xs : List K) : arithMean xs = none ↔ xs.length = 0 :=
  arithMean_eq_none_iff

theorem geom_nan_iff (exp ln : K → K) (xs : List K) : geomMean exp ln xs = none ↔ xs.length = 0 :=
  geomMean_eq_none_iff

/-- NaN exactly when the denominator is 0: the empty sample, or one element with the sample kind
(`n.saturating_sub(1) = 0`; the code returns NaN from its guard, it does not compute 0/0) -/
theorem std_nan_iff (sqrt : K → K) (k : Kind) (xs : List K) :
    stdDev sqrt k xs = none ↔ (xs.length = 0 ∨ (k = .sample ∧ xs.length = 1)) := by
  rw [stdDev_eq_none_iff, denom_eq_zero_iff]

end

/-- `min ≤ mean ≤ max` for every non-empty sample, the minimum and maximum being attained -/
theorem mean_between (xs : List K) (m : K) (h : arithMean xs = some m) :
    (∃ a ∈ xs, (∀ x ∈ xs, a ≤ x) ∧ a ≤ m) ∧ (∃ b ∈ xs, (∀ x ∈ xs, x ≤ b) ∧ m ≤ b) := by
  obtain ⟨hn, rfl⟩ := mean_eq_formula xs m h
  have hne : xs ≠ [] := mt List.length_eq_zero_iff.mpr hn
  obtain ⟨a, ha, hamin⟩ := exists_min xs hne
  obtain ⟨b, hb, hbmax⟩ := exists_max xs hne
  exact ⟨⟨a, ha, hamin, mean_ge_of_forall_ge xs hn a hamin⟩,
    ⟨b, hb, hbmax, mean_le_of_forall_le xs hn b hbmax⟩⟩

theorem variance_nonneg (k : Kind) (xs : List K) : 0 ≤ variance (denom k xs.length) xs :=
  div_nonneg (ssd_nonneg xs) (Nat.cast_nonneg _)

theorem std_nonneg (sqrt : K → K) (hs : SqrtSpec sqrt) (k : Kind) (xs : List K) (s : K)
    (h : stdDev sqrt k xs = some s) : 0 ≤ s := by
  obtain ⟨_, rfl⟩ := std_eq_formula sqrt k xs s h
  exact (hs _ (variance_nonneg k xs)).2

/-- its square is the variance (so "equal to the defining formula" does not depend on which
square root function is used) -/
theorem std_sq (sqrt : K → K) (hs : SqrtSpec sqrt) (k : Kind) (xs : List K) (s : K)
    (h : stdDev sqrt k xs = some s) : s * s = variance (denom k xs.length) xs := by
  obtain ⟨_, rfl⟩ := std_eq_formula sqrt k xs s h
  exact (hs _ (variance_nonneg k xs)).1

/-- no hypothesis on `sqrt` is needed: the variances are equal -/
theorem std_translate (sqrt : K → K) (k : Kind) (xs : List K) (c : K) :
    stdDev sqrt k (xs.map fun x => x + c) = stdDev sqrt k xs := by
  rw [stdDev_eq, stdDev_eq, ssd_translate, List.length_map]

theorem mean_translate (xs : List K) (c : K) :
    arithMean (xs.map fun x => x + c) = (arithMean xs).map (· + c) := by
  rw [arithMean_eq, arithMean_eq, List.length_map]
  split_ifs with h0
  · rfl
  · rw [mean_map_add_const xs c h0]
    rfl

theorem std_scale (sqrt : K → K) (hs : SqrtSpec sqrt) (kd : Kind) (xs : List K) (k : K) :
    stdDev sqrt kd (xs.map fun x => k * x) = (stdDev sqrt kd xs).map (|k| * ·) := by
  rw [stdDev_eq, stdDev_eq, List.length_map, ssd_scale]
  split_ifs with h0
  · rfl
  · rw [mul_div_assoc, hs.mul (sq_nonneg k) (div_nonneg (ssd_nonneg xs) (Nat.cast_nonneg _)), hs.sq k]
    rfl

/-- `h1` forces `n ≥ 2`: for `n ≤ 1` the sample form is `none` (`std_nan_iff`) -/
theorem std_sample_pop (sqrt : K → K) (hs : SqrtSpec sqrt) (xs : List K) (ss sp : K)
    (h1 : stdDev sqrt .sample xs = some ss) (h2 : stdDev sqrt .population xs = some sp) :
    ss = sp * sqrt ((xs.length : K) / ((xs.length : K) - 1)) := by
  obtain ⟨d1, rfl⟩ := std_eq_formula sqrt .sample xs ss h1
  obtain ⟨d2, rfl⟩ := std_eq_formula sqrt .population xs sp h2
  rw [denom_sample] at d1
  rw [denom_population] at d2
  have hn : (0 : K) < (xs.length : K) := length_cast_pos d2
  have hn1 : (0 : K) < (xs.length : K) - 1 := by
    rw [← Nat.cast_pred (Nat.pos_of_ne_zero d2)]
    exact Nat.cast_pos.mpr (Nat.pos_of_ne_zero d1)
  rw [← hs.mul (variance_nonneg .population xs) (div_nonneg hn.le hn1.le), variance_eq, variance_eq,
    denom_population, denom_sample, div_mul_div_cancel₀ hn.ne', Nat.cast_pred (Nat.pos_of_ne_zero d2)]

theorem geom_def (xs : List ℝ) (g : ℝ) (hpos : ∀ x ∈ xs, 0 < x)
    (h : geomMean Real.exp Real.log xs = some g) :
    g = xs.prod ^ ((1 : ℝ) / (xs.length : ℝ)) := by
  rw [geomMean_eq, Option.ite_none_left_eq_some, Option.some.injEq] at h
  rw [← h.2, ← Real.log_list_prod (fun x hx => (hpos x hx).ne'),
    Real.rpow_def_of_pos (List.prod_pos hpos), mul_one_div]

/-- what the oracle of the check compares, in exact rationals -/
theorem geom_pow (xs : List ℝ) (g : ℝ) (hpos : ∀ x ∈ xs, 0 < x)
    (h : geomMean Real.exp Real.log xs = some g) : g ^ xs.length = xs.prod := by
  have h0 : (xs.length : ℝ) ≠ 0 :=
    Nat.cast_ne_zero.mpr fun e => by rw [(geom_nan_iff _ _ xs).mpr e] at h; cases h
  rw [geom_def xs g hpos h, ← Real.rpow_natCast, ← Real.rpow_mul (List.prod_pos hpos).le,
    one_div_mul_cancel h0, Real.rpow_one]

example : arithMean ([1, 2, 3, 6] : List ℚ) = some 3 := by decide +kernel
example : arithMean ([] : List ℚ) = none := rfl
example (sqrt : ℚ → ℚ) : stdDev sqrt .sample ([5] : List ℚ) = none := rfl
example (sqrt : ℚ → ℚ) : stdDev sqrt .population ([] : List ℚ) = none := rfl
example (sqrt : ℚ → ℚ) :
    stdDev sqrt .population ([2, 4, 4, 4, 5, 5, 7, 9] : List ℚ) = some (sqrt 4) :=
  stdDev_of_variance sqrt (by decide) (by decide +kernel)
example (sqrt : ℚ → ℚ) :
    stdDev sqrt .sample ([2, 4, 4, 4, 5, 5, 7, 9] : List ℚ) = some (sqrt (32 / 7)) :=
  stdDev_of_variance sqrt (by decide) (by decide +kernel)
example : ∃ g, geomMean Real.exp Real.log ([2, 8] : List ℝ) = some g ∧ g ^ 2 = 16 := by
  refine ⟨_, rfl, ?_⟩
  have := geom_pow ([2, 8] : List ℝ) _ (by simp) rfl
  norm_num at this ⊢
  exact this

end SV.Props.C18
