import Mathlib.Analysis.SpecialFunctions.Pow.Real
import Mathlib.Analysis.SpecialFunctions.Sqrt
/-!
# C19 — why a "power of a power" folding rule is not a folding rule

The rewrite `(b^n)^r ↦ b` for literal exponents with `n·r = 1` looks like one more rule for `fold_operations`
(it is not one: `SV.Props.C19FoldLaws.fold_pow_pow_kept`).  Over ℝ with `Real.rpow` (the mathematical meaning of
`f64::powf` on its natural domain) it is sound exactly for non-negative bases:

* `pow_pow_fold_sound_nonneg`: `0 ≤ x → n·r = 1 → (x^n)^r = x` — on the positive evaluation points an oracle cannot see it;
* `pow_pow_fold_unsound`: `((−3)^2)^(1/2) = 3 ≠ −3` — the unfolded value is finite and differs from the folded one, so the
  clause "constant folding never changes the value of an expression whose unfolded value is finite" fails;
* `pow_pow_fold_even_abs`: for an even natural `n = 2m ≥ 2`, `(x^n)^(1/n) = |x|` for every real `x`.

This is the reason the folding clause of the C19 oracle evaluates at negative points and at zero as well.
-/

namespace SV.Props.C19PowPow
open Real

/-- the rewrite is sound on non-negative bases -/
theorem pow_pow_fold_sound_nonneg (x n r : ℝ) (hx : 0 ≤ x) (h : n * r = 1) : (x ^ n) ^ r = x := by
  rw [← Real.rpow_mul hx, h, Real.rpow_one]

/-- … and unsound on a negative base: the unfolded value `3` is finite, the folded value is `−3` -/
theorem pow_pow_fold_unsound : (((-3 : ℝ) ^ (2 : ℝ)) ^ ((1 : ℝ) / 2) = 3) ∧ ((2 : ℝ) * (1 / 2) = 1) ∧ (3 : ℝ) ≠ -3 := by
  refine ⟨?_, by norm_num, by norm_num⟩
  have h9 : ((-3 : ℝ) ^ (2 : ℝ)) = 9 := by
    rw [show (2 : ℝ) = ((2 : ℕ) : ℝ) by norm_num, Real.rpow_natCast]
    norm_num
  rw [h9, show (9 : ℝ) = 3 ^ (2 : ℝ) by
    rw [show (2 : ℝ) = ((2 : ℕ) : ℝ) by norm_num, Real.rpow_natCast]; norm_num]
  exact pow_pow_fold_sound_nonneg 3 2 (1 / 2) (by norm_num) (by norm_num)

/-- for an even exponent the unfolded expression is the absolute value -/
theorem pow_pow_fold_even_abs (x : ℝ) (m : ℕ) (hm : 0 < m) :
    (x ^ ((2 * m : ℕ) : ℝ)) ^ ((1 : ℝ) / ((2 * m : ℕ) : ℝ)) = |x| := by
  have hpos : (0 : ℝ) < ((2 * m : ℕ) : ℝ) := by exact_mod_cast Nat.mul_pos (by norm_num) hm
  have e : x ^ ((2 * m : ℕ) : ℝ) = |x| ^ ((2 * m : ℕ) : ℝ) := by
    rw [Real.rpow_natCast, Real.rpow_natCast, pow_mul, pow_mul, sq_abs]
  rw [e]
  exact pow_pow_fold_sound_nonneg |x| _ _ (abs_nonneg x) (by field_simp)

end SV.Props.C19PowPow
