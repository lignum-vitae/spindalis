import SV.Model.C15
import SV.Lemmas.C15
/-!
# C15 — gradient descent can only stall at the least-squares optimum

When may the descent loop of `GradientDescentRegression::fit` (`gdStep`) stop early?  One pass leaves the weights
unchanged iff **both** gradient sums vanish, i.e. iff the weights solve the normal equations (every data set, every
step `α ≠ 0`), and from such a point every further pass stays there, so stopping is sound exactly there.  A zero
*slope* gradient alone is not such a point: whenever `α · mean(x²) = 1` it occurs after the first pass from the
code's starting point `(mean y, 0)`, for all data, while the intercept's gradient is `slope₁ · mean x`; the family
`resonant_gd` of the harness (harness/src/c15.rs) generates exactly these data.
-/
set_option linter.unusedSectionVars false

namespace SV.Props.C15Stationary
open SV SV.C15 SV.C18 Finset

variable {K : Type} [Field K] [LinearOrder K] [IsStrictOrderedRing K] [Inhabited K]

theorem gd_fixed_point_iff (α : K) (hα : α ≠ 0) (x y : List K) (hn : y.length ≠ 0) (w : K × K) :
    gdStep α x y w = w ↔
      ((x.zip y).map fun p => w.1 + w.2 * p.1 - p.2).sum = 0 ∧
      ((x.zip y).map fun p => (w.1 + w.2 * p.1 - p.2) * p.1).sum = 0 := by
  have hnK : (y.length : K) ≠ 0 := Nat.cast_ne_zero.mpr hn
  rw [gdStep_eq, Prod.ext_iff]
  simp only [sub_eq_self, mul_eq_zero, hα, false_or, div_eq_zero_iff, hnK, or_false]

/-- the right-hand side is `NormalEqs [w.1, w.2] x y`, unfolded by `SV.C15.normalEqs_pair` -/
theorem gd_fixed_point_iff_normalEqs (α : K) (hα : α ≠ 0) (x y : List K) (hn : y.length ≠ 0) (w : K × K) :
    gdStep α x y w = w ↔
      ((x.zip y).map fun p => p.2 - (w.1 + w.2 * p.1)).sum = 0 ∧
      ((x.zip y).map fun p => (p.2 - (w.1 + w.2 * p.1)) * p.1).sum = 0 := by
  rw [gd_fixed_point_iff α hα x y hn w,
    sum_map_eq_mul (x.zip y) (fun p => p.2 - (w.1 + w.2 * p.1)) (fun p => w.1 + w.2 * p.1 - p.2)
      (-1) fun p => by ring,
    sum_map_eq_mul (x.zip y) (fun p => (p.2 - (w.1 + w.2 * p.1)) * p.1)
      (fun p => (w.1 + w.2 * p.1 - p.2) * p.1) (-1) fun p => by ring,
    neg_one_mul, neg_one_mul, neg_eq_zero, neg_eq_zero]

theorem gd_loop_stationary (α : K) (x y : List K) (w : K × K) (h : gdStep α x y w = w) (k : Nat) :
    gdLoop α x y k w = w := by
  rw [gdLoop_eq_iterate, Function.iterate_fixed h]

/-- a vanishing slope gradient alone is not convergence: `x = [-1,0,1]`, `y = [1,1,1]`, weights `(0,0)`:
the slope's gradient sum is 0, the pass still moves the intercept -/
theorem slope_gradient_zero_is_not_convergence :
    (((([-1, 0, 1] : List ℚ).zip [1, 1, 1]).map fun p => ((0 : ℚ) + 0 * p.1 - p.2) * p.1).sum = 0) ∧
    gdStep (1 : ℚ) [-1, 0, 1] [1, 1, 1] (0, 0) ≠ (0, 0) := by
  constructor
  · norm_num
  · rw [gdStep_eq]
    norm_num

/-- `SV.C15.grad_sums` with the factors of `Σ y·x` in the other order -/
theorem grad_sums_affine (x y : List K) (hxy : x.length = y.length) (w : K × K) :
    ((x.zip y).map fun p => w.1 + w.2 * p.1 - p.2).sum
        = (y.length : K) * w.1 + w.2 * x.sum - y.sum ∧
    ((x.zip y).map fun p => (w.1 + w.2 * p.1 - p.2) * p.1).sum
        = w.1 * x.sum + w.2 * (x.map fun xi => xi ^ 2).sum - ((x.zip y).map fun p => p.2 * p.1).sum := by
  have hc : ((x.zip y).map fun p => p.2 * p.1) = (x.zip y).map fun p => p.1 * p.2 :=
    List.map_congr_left fun p _ => mul_comm _ _
  rw [hc]
  exact grad_sums x y hxy w

/-- **resonance**: if `α · mean(x²) = 1`, then after the first pass from the code's starting point `(mean y, 0)` the
intercept has not moved, the slope's gradient sum is exactly 0 — for every data set — and the intercept's gradient sum
on that second pass is `slope₁ · Σx`, which is not 0 unless the data are centred or uncorrelated.  An exit test on the
slope's gradient alone therefore stops here, one pass after the start, wherever the optimum is. -/
theorem gd_resonant_second_pass (α : K) (x y : List K) (hxy : x.length = y.length) (hn : y.length ≠ 0)
    (hres : α * ((x.map fun xi => xi ^ 2).sum / (y.length : K)) = 1) :
    (gdStep α x y (y.sum / (y.length : K), 0)).1 = y.sum / (y.length : K) ∧
    ((x.zip y).map fun p => ((gdStep α x y (y.sum / (y.length : K), 0)).1
        + (gdStep α x y (y.sum / (y.length : K), 0)).2 * p.1 - p.2) * p.1).sum = 0 ∧
    ((x.zip y).map fun p => (gdStep α x y (y.sum / (y.length : K), 0)).1
        + (gdStep α x y (y.sum / (y.length : K), 0)).2 * p.1 - p.2).sum
      = (gdStep α x y (y.sum / (y.length : K), 0)).2 * x.sum := by
  have hm : (y.length : K) * (y.sum / (y.length : K)) = y.sum :=
    mul_div_cancel₀ _ (Nat.cast_ne_zero.mpr hn)
  obtain ⟨g0, g1⟩ := grad_sums x y hxy (y.sum / (y.length : K), 0)
  obtain ⟨a0, a1⟩ := grad_sums x y hxy (gdStep α x y (y.sum / (y.length : K), 0))
  have hw := gdStep_eq α x y (y.sum / (y.length : K), 0)
  rw [g0, g1] at hw
  dsimp only at hw
  rw [hm] at hw
  have h1 : (gdStep α x y (y.sum / (y.length : K), 0)).1 = y.sum / (y.length : K) := by
    rw [hw]
    ring
  refine ⟨h1, ?_, ?_⟩
  · rw [a1, h1, hw]
    linear_combination
      -(y.sum / (y.length : K) * x.sum - ((x.zip y).map fun p => p.1 * p.2).sum) * hres
  · rw [a0, h1, hm]
    ring

/-- the resonance hypothesis is satisfiable with a stable step and un-centred data: `x = [4,3,2,1,1,1,0,0]`
(`mean x² = 4`, `α = 1/4`, `Σx = 12`) -/
example : (1 / 4 : ℚ) * ((([4, 3, 2, 1, 1, 1, 0, 0] : List ℚ).map fun xi => xi ^ 2).sum / ((8 : ℕ) : ℚ)) = 1 := by
  norm_num

end SV.Props.C15Stationary
