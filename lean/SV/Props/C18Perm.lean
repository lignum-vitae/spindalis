import SV.Lemmas.C18
import Mathlib.Data.List.Perm.Basic
import Mathlib.Data.List.Rotate
/-!
# C18 — the descriptive statistics do not depend on the order of the sample

`arith_mean`, `std_dev` (both kinds) and `geom_mean` read the sample with a left-to-right fold
(`iter().sum()`).  In exact arithmetic the result of each of them is the same for every
rearrangement of the sample: for every `xs` and every permutation `ys` of it (`List.Perm xs ys`) the
whole outcome — the value, or the NaN (`none`) returned by the guards for too short samples — is
equal (`arithMean_perm`, `stdDev_perm`, `geomMean_perm`).  Nothing is assumed about the function
parameters `sqrt`, `exp`, `ln`: the arguments handed to them are already equal.

Hence a function that "loses its first element" (or any element chosen by position) cannot be equal
to this model: the mean of a strictly decreasing sample is strictly larger than the mean of the
sample without its first element (`mean_tail_lt_of_decreasing`), and `xs ↦ mean (tail xs)` is not
order independent (`drop_first_not_perm_invariant`), whereas `arithMean` is.

Proof: `fsum_eq` (the fold from `-0.0` is `List.sum`), `List.Perm.sum_eq`, `List.Perm.map`,
`List.Perm.length_eq`.
-/
namespace SV.Props.C18Perm
open SV SV.C18

section field
variable {K : Type} [Field K]

theorem fsum_perm {xs ys : List K} (h : xs.Perm ys) : fsum xs = fsum ys := by
  rw [fsum_eq, fsum_eq, h.sum_eq]

theorem meanRaw_perm {xs ys : List K} (h : xs.Perm ys) : meanRaw xs = meanRaw ys := by
  unfold meanRaw
  rw [fsum_perm h, h.length_eq]

theorem arithMean_perm {xs ys : List K} (h : xs.Perm ys) : arithMean xs = arithMean ys := by
  unfold arithMean
  rw [meanRaw_perm h, h.length_eq]

theorem stdDev_perm (sqrt : K → K) (k : Kind) {xs ys : List K} (h : xs.Perm ys) :
    stdDev sqrt k xs = stdDev sqrt k ys := by
  unfold stdDev
  simp only
  rw [meanRaw_perm h, h.length_eq, fsum_perm (h.map _)]

theorem stdDev_population_perm (sqrt : K → K) {xs ys : List K} (h : xs.Perm ys) :
    stdDev sqrt .population xs = stdDev sqrt .population ys :=
  stdDev_perm sqrt .population h

theorem stdDev_sample_perm (sqrt : K → K) {xs ys : List K} (h : xs.Perm ys) :
    stdDev sqrt .sample xs = stdDev sqrt .sample ys :=
  stdDev_perm sqrt .sample h

theorem stdDev_none_perm (sqrt : K → K) (k : Kind) {xs ys : List K} (h : xs.Perm ys) :
    stdDev sqrt k xs = none ↔ stdDev sqrt k ys = none := by
  rw [stdDev_perm sqrt k h]

theorem geomMean_perm (exp ln : K → K) {xs ys : List K} (h : xs.Perm ys) :
    geomMean exp ln xs = geomMean exp ln ys := by
  unfold geomMean
  rw [fsum_perm (h.map ln), h.length_eq]

theorem stats_perm (sqrt exp ln : K → K) {xs ys : List K} (h : xs.Perm ys) :
    arithMean xs = arithMean ys ∧
    stdDev sqrt .population xs = stdDev sqrt .population ys ∧
    stdDev sqrt .sample xs = stdDev sqrt .sample ys ∧
    geomMean exp ln xs = geomMean exp ln ys :=
  ⟨arithMean_perm h, stdDev_perm sqrt _ h, stdDev_perm sqrt _ h, geomMean_perm exp ln h⟩

theorem arithMean_append_comm (xs ys : List K) : arithMean (xs ++ ys) = arithMean (ys ++ xs) :=
  arithMean_perm List.perm_append_comm

theorem stdDev_append_comm (sqrt : K → K) (k : Kind) (xs ys : List K) :
    stdDev sqrt k (xs ++ ys) = stdDev sqrt k (ys ++ xs) :=
  stdDev_perm sqrt k List.perm_append_comm

theorem geomMean_append_comm (exp ln : K → K) (xs ys : List K) :
    geomMean exp ln (xs ++ ys) = geomMean exp ln (ys ++ xs) :=
  geomMean_perm exp ln List.perm_append_comm

theorem arithMean_cons_eq_concat (a : K) (xs : List K) :
    arithMean (a :: xs) = arithMean (xs ++ [a]) :=
  arithMean_append_comm [a] xs

theorem stdDev_cons_eq_concat (sqrt : K → K) (k : Kind) (a : K) (xs : List K) :
    stdDev sqrt k (a :: xs) = stdDev sqrt k (xs ++ [a]) :=
  stdDev_append_comm sqrt k [a] xs

theorem geomMean_cons_eq_concat (exp ln : K → K) (a : K) (xs : List K) :
    geomMean exp ln (a :: xs) = geomMean exp ln (xs ++ [a]) :=
  geomMean_append_comm exp ln [a] xs

theorem arithMean_reverse (xs : List K) : arithMean xs.reverse = arithMean xs :=
  arithMean_perm (List.reverse_perm xs)

theorem stdDev_reverse (sqrt : K → K) (k : Kind) (xs : List K) :
    stdDev sqrt k xs.reverse = stdDev sqrt k xs :=
  stdDev_perm sqrt k (List.reverse_perm xs)

theorem geomMean_reverse (exp ln : K → K) (xs : List K) :
    geomMean exp ln xs.reverse = geomMean exp ln xs :=
  geomMean_perm exp ln (List.reverse_perm xs)

theorem arithMean_rotate (xs : List K) (n : Nat) : arithMean (xs.rotate n) = arithMean xs :=
  arithMean_perm (List.rotate_perm xs n)

theorem stdDev_rotate (sqrt : K → K) (k : Kind) (xs : List K) (n : Nat) :
    stdDev sqrt k (xs.rotate n) = stdDev sqrt k xs :=
  stdDev_perm sqrt k (List.rotate_perm xs n)

theorem geomMean_rotate (exp ln : K → K) (xs : List K) (n : Nat) :
    geomMean exp ln (xs.rotate n) = geomMean exp ln xs :=
  geomMean_perm exp ln (List.rotate_perm xs n)

end field

section ordered
variable {K : Type} [Field K] [LinearOrder K] [IsStrictOrderedRing K]

theorem mean_tail_lt_of_first_largest (a : K) (t : List K) (hne : t ≠ [])
    (hlt : ∀ x ∈ t, x < a) (m m' : K)
    (h : arithMean (a :: t) = some m) (h' : arithMean t = some m') : m' < m := by
  rw [arithMean_eq, Option.ite_none_left_eq_some, Option.some.injEq] at h h'
  obtain ⟨-, rfl⟩ := h
  obtain ⟨hlen, rfl⟩ := h'
  have hn : (0 : K) < (t.length : K) := length_cast_pos hlen
  -- the mean `μ` of the tail is below `a`, and `μ < (a + n·μ)/(n + 1)` says no more than that
  have hs := mean_lt_of_forall_lt t hne a hlt
  rw [List.sum_cons, List.length_cons, Nat.cast_succ, lt_div_iff₀ (add_pos hn one_pos), mul_add,
    mul_one, div_mul_cancel₀ _ hn.ne', add_comm]
  exact add_lt_add_left hs _

theorem mean_tail_lt_of_decreasing (xs : List K) (hdec : xs.Pairwise (· > ·))
    (hlen : 2 ≤ xs.length) (m m' : K)
    (h : arithMean xs = some m) (h' : arithMean xs.tail = some m') : m' < m := by
  match xs, hdec, hlen, h, h' with
  | a :: t, hdec, hlen, h, h' =>
    have hne : t ≠ [] := by
      intro e; subst e; simp at hlen
    exact mean_tail_lt_of_first_largest a t hne
      (fun x hx => (List.pairwise_cons.mp hdec).1 x hx) m m' h h'

end ordered

example : arithMean ([3, 1, 2] : List ℚ) = some 2 ∧ arithMean ([1, 2, 3] : List ℚ) = some 2 := by
  decide +kernel

example : arithMean ([3, 1, 2] : List ℚ) = arithMean ([1, 2, 3] : List ℚ) :=
  arithMean_perm (by decide)

example (sqrt : ℚ → ℚ) :
    stdDev sqrt .sample ([9, 2, 4] : List ℚ) = stdDev sqrt .sample ([2, 4, 9] : List ℚ) :=
  stdDev_perm sqrt .sample (by decide)

/-- the deviation is a defined value there, not a NaN on both sides -/
example (sqrt : ℚ → ℚ) : stdDev sqrt .sample ([9, 2, 4] : List ℚ) = some (sqrt 13) :=
  stdDev_of_variance sqrt (by decide) (by decide +kernel)

example (exp ln : ℚ → ℚ) :
    geomMean exp ln ([9, 2, 4] : List ℚ) = geomMean exp ln ([2, 4, 9] : List ℚ) :=
  geomMean_perm exp ln (by decide)

theorem drop_first_changes_mean :
    arithMean ([3, 2, 1] : List ℚ) = some 2 ∧
    arithMean ([3, 2, 1] : List ℚ).tail = some (3 / 2) ∧
    arithMean ([3, 2, 1] : List ℚ).tail ≠ arithMean ([3, 2, 1] : List ℚ) := by
  decide +kernel

/-- a mean that loses the first element of its input is not order independent: on the sample 3,2,1
and its permutation 1,2,3 it gives 3/2 and 5/2.  By `arithMean_perm` the model gives 2 on both, so
such a function is not the model. -/
theorem drop_first_not_perm_invariant :
    ∃ xs ys : List ℚ, xs.Perm ys ∧ arithMean xs = arithMean ys ∧
      arithMean xs.tail ≠ arithMean ys.tail :=
  ⟨[3, 2, 1], [1, 2, 3], by decide, arithMean_perm (by decide), by decide +kernel⟩

/-- no function that returns the mean of 2,1 on the sample 3,2,1 is equal to `arithMean` -/
theorem drop_first_ne_model (f : List ℚ → Option ℚ)
    (h1 : f [3, 2, 1] = arithMean ([2, 1] : List ℚ)) : f ≠ arithMean := by
  intro e
  rw [e] at h1
  exact absurd h1 (by decide +kernel)

/-- `sqrt` is arbitrary, so for the deviation only the arguments handed to it can be shown to
differ -/
theorem drop_first_changes_variance (sqrt : ℚ → ℚ) :
    stdDev sqrt .population ([3, 2, 1] : List ℚ) = some (sqrt (2 / 3)) ∧
    stdDev sqrt .population ([3, 2, 1] : List ℚ).tail = some (sqrt (1 / 4)) :=
  ⟨stdDev_of_variance sqrt (by decide) (by decide +kernel),
    stdDev_of_variance sqrt (by decide) (by decide +kernel)⟩

example : (3 / 2 : ℚ) < 2 :=
  mean_tail_lt_of_decreasing ([3, 2, 1] : List ℚ) (by decide) (by decide) 2 (3 / 2)
    drop_first_changes_mean.1 drop_first_changes_mean.2.1

end SV.Props.C18Perm
