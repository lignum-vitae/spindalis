import SV.Model.C11
import SV.Lemmas.Mat
import SV.Lemmas.C11
import SV.Lemmas.RoundingDot
import SV.Lemmas.RoundingNearest
import SV.Lemmas.RoundingEx
/-!
# C11, float half — rounding-error bound for `Arr2D::dot` ("float entries (rounding-bound oracle)")

`SV.Props.C11` proves that `SV.C11.dot` is the matrix product over every commutative semiring
(rounding error 0).  Here **the same definition** `SV.C11.dot` is run at the rounding scalar
`Fl M` of `SV.Lemmas.Rounding` (every `+`, `*` is the exact real operation followed by a rounding
with relative error `≤ u`), and the textbook bound for the inner product by recursive summation
(Higham, *Accuracy and Stability*, §3.1, (3.3)–(3.5)) is proved for every entry of the result, for
all shapes.

Counting what the model really does: the triple loop accumulates from `T::default() = 0`, so an
entry of an inner dimension `n = a.w` costs `n` multiplications and `n` additions (the first one,
`0 + a₀b₀`, is exact in IEEE but is charged one rounding by the model, which assumes nothing about
`rnd` except its relative accuracy).  Term `k` (0-based) goes through 1 multiplication and `n − k`
additions, hence carries `n + 1 − k ≤ n + 1` rounding factors: the constant is `γ_{n+1}`
(`γ_n` in Higham, who uses `0 + x = x`).  The 1×1 scalar shortcuts perform a single multiplication
per entry: one rounding, error `≤ u·|a·b|`.

For binary64 `u = 2⁻⁵³`; the hypothesis `(n+1)·u < 1` holds for every matrix that fits in memory.
NOT covered: overflow, underflow (a subnormal product loses relative accuracy), NaN/∞ entries, and
the conversion of decimal inputs to binary64 — see the header of `SV.Lemmas.Rounding`.
-/
namespace SV.Props.C11Rounding
open SV SV.C11 Finset

variable {M : FlModel}

/-- the model elaborates at the rounding scalar with no change -/
noncomputable example (a b : Mat (Fl M)) : Except DotErr (Mat (Fl M)) := dot a b

/-- **Componentwise weights.**  Conforming shapes: every entry of the computed product is
`Σ_k a_ik·b_kj·t_k`, where `t_k` is a product of at most `n + 1 − k` rounding factors
(`n = a.w`; including when a 1×1 operand makes the code take its scalar shortcut). -/
theorem dot_entry_weights (a b m : Mat (Fl M)) (hc : a.w = b.h) (hm : dot a b = .ok m) {i j : ℕ}
    (hi : i < a.h) (hj : j < b.w) :
    M.WSum (range a.w) (fun k => 1 + (a.w - k)) (fun k => (a.get i k).val * (b.get k j).val)
      (m.get i j).val := by
  by_cases ha : a.h = 1 ∧ a.w = 1
  · rw [dot_left_scalar a b ha, Except.ok.injEq] at hm
    subst hm
    obtain rfl : i = 0 := by omega
    rw [Mat.get_tab _ (by omega) hj, ha.2, range_one]
    refine (FlModel.WSum.single 0 ?_).mono fun k _ => Nat.le_add_right 1 _
    exact Fl.mul_fac _ _
  · by_cases hb : b.h = 1 ∧ b.w = 1
    · rw [dot_right_scalar a b ha hb, Except.ok.injEq] at hm
      subst hm
      obtain rfl : j = 0 := by omega
      rw [Mat.get_tab _ hi (by omega), hc, hb.1, range_one]
      refine (FlModel.WSum.single 0 ?_).mono fun k _ => Nat.le_add_right 1 _
      rw [mul_comm (a.get i 0).val]
      exact Fl.mul_fac _ _
    · rw [dot_general a b ha hb hc, Except.ok.injEq] at hm
      subst hm
      rw [Mat.get_tab _ hi hj, ← Nat.Ico_zero_eq_range]
      exact dot_wsum 0 a.w _ _

/-- **(B), backward form.**  If `(n+1)·u < 1` (`n = a.w` the inner dimension), every entry of the
computed product is the exact inner product of relatively perturbed data:
`c_ij = Σ_k a_ik·b_kj·(1 + θ_k)`, `|θ_k| ≤ γ_{n+1}` (Higham (3.4)). -/
theorem dot_entry_backward (a b m : Mat (Fl M)) (hc : a.w = b.h) (hm : dot a b = .ok m)
    (hu : ((a.w + 1 : ℕ) : ℝ) * M.u < 1) :
    ∀ i j, i < a.h → j < b.w → ∃ θ : ℕ → ℝ, (∀ k, |θ k| ≤ M.gamma (a.w + 1)) ∧
      (m.get i j).val = ∑ k ∈ range a.w, (a.get i k).val * (b.get k j).val * (1 + θ k) :=
  fun i j hi hj => (dot_entry_weights a b m hc hm hi hj).theta (fun k _ => by omega) hu

/-- **(B), forward form — the float half of property C11.**  For conforming shapes and
`(n+1)·u < 1`, every entry `c_ij` of `dot a b` computed in floating-point arithmetic satisfies
`|c_ij − Σ_k a_ik·b_kj| ≤ γ_{n+1} · Σ_k |a_ik|·|b_kj|` (Higham (3.5)), whatever branch the code
takes (triple loop or 1×1 shortcut). -/
theorem dot_entry_rounding (a b m : Mat (Fl M)) (hc : a.w = b.h) (hm : dot a b = .ok m)
    (hu : ((a.w + 1 : ℕ) : ℝ) * M.u < 1) :
    ∀ i j, i < a.h → j < b.w →
      |(m.get i j).val - ∑ k ∈ range a.w, (a.get i k).val * (b.get k j).val|
        ≤ M.gamma (a.w + 1) * ∑ k ∈ range a.w, |(a.get i k).val| * |(b.get k j).val| := by
  intro i j hi hj
  simpa only [abs_mul] using
    (dot_entry_weights a b m hc hm hi hj).abs_sub_le (fun k _ => by omega) hu

/-- A 1×1 left operand (conforming or not) scales the right one with a single rounding per entry:
relative error `≤ u`, no hypothesis on `u`. -/
theorem dot_scalar_left_rounding (a b m : Mat (Fl M)) (ha : a.h = 1 ∧ a.w = 1)
    (hm : dot a b = .ok m) :
    m.h = b.h ∧ m.w = b.w ∧ ∀ i j, i < b.h → j < b.w →
      |(m.get i j).val - (a.get 0 0).val * (b.get i j).val|
        ≤ M.u * |(a.get 0 0).val * (b.get i j).val| := by
  rw [dot_left_scalar a b ha, Except.ok.injEq] at hm
  subst hm
  refine ⟨rfl, rfl, fun i j hi hj => ?_⟩
  rw [Mat.get_tab _ hi hj]
  exact M.abs_rnd_sub_le _

theorem dot_scalar_right_rounding (a b m : Mat (Fl M)) (ha : ¬(a.h = 1 ∧ a.w = 1))
    (hb : b.h = 1 ∧ b.w = 1) (hm : dot a b = .ok m) :
    m.h = a.h ∧ m.w = a.w ∧ ∀ i j, i < a.h → j < a.w →
      |(m.get i j).val - (a.get i j).val * (b.get 0 0).val|
        ≤ M.u * |(a.get i j).val * (b.get 0 0).val| := by
  rw [dot_right_scalar a b ha hb, Except.ok.injEq] at hm
  subst hm
  refine ⟨rfl, rfl, fun i j hi hj => ?_⟩
  rw [Mat.get_tab _ hi hj, mul_comm (a.get i j).val]
  exact M.abs_rnd_sub_le _

/-- With exact arithmetic (`u = 0`) the bound collapses to the algebraic identity of
`SV.Props.C11.dot_entry`. -/
theorem dot_entry_rounding_ideal (a b m : Mat (Fl FlModel.ideal)) (hc : a.w = b.h)
    (hm : dot a b = .ok m) :
    ∀ i j, i < a.h → j < b.w →
      (m.get i j).val = ∑ k ∈ range a.w, (a.get i k).val * (b.get k j).val :=
  fun i j hi hj => (FlModel.eq_of_ideal_bound fun hu =>
    dot_entry_rounding a b m hc hm hu i j hi hj).symm

/-- **binary64, numerically.**  For round-to-nearest with a 53-bit significand
(`FlModel.binary64`, no exponent limits) and inner dimension `n < 2⁵²` the hypothesis on `u` is
automatic and `|c_ij − Σ_k a_ik·b_kj| ≤ (n+1)·2⁻⁵² · Σ_k |a_ik|·|b_kj|`. -/
theorem dot_entry_rounding_binary64 (a b m : Mat (Fl FlModel.binary64)) (hc : a.w = b.h)
    (hm : dot a b = .ok m) (hn : a.w + 1 ≤ 2 ^ 52) :
    ∀ i j, i < a.h → j < b.w →
      |(m.get i j).val - ∑ k ∈ range a.w, (a.get i k).val * (b.get k j).val|
        ≤ ((a.w + 1 : ℕ) : ℝ) * (2⁻¹ : ℝ) ^ 52
          * ∑ k ∈ range a.w, |(a.get i k).val| * |(b.get k j).val| :=
  fun i j hi hj => FlModel.abs_le_binary64 hn fun hu => dot_entry_rounding a b m hc hm hu i j hi hj

/-- the hypotheses are satisfiable in a model with `u > 0` whose rounding is not the identity, and
there the computed entry really differs from the exact one (so the bound is not `0 ≤ 0`):
`[1 1]·[1 1]ᵀ` with `rnd x = x·(1 + 1/16)` (`u = 1/8`) gives `((0+1)·r + 1·r)·r ≠ 2`. -/
example : ∃ (M : FlModel) (a b m : Mat (Fl M)), 0 < M.u ∧ a.w = b.h ∧ dot a b = .ok m ∧
    ((a.w + 1 : ℕ) : ℝ) * M.u < 1 ∧
    (m.get 0 0).val ≠ ∑ k ∈ range a.w, (a.get 0 k).val * (b.get k 0).val := by
  have hm : dot (⟨1, 2, #[1, 1]⟩ : Mat (Fl C09.Ex.M8)) ⟨2, 1, #[1, 1]⟩ = .ok _ :=
    dot_general _ _ (fun h => absurd h.2 (by decide)) (fun h => absurd h.1 (by decide)) rfl
  refine ⟨C09.Ex.M8, _, _, _, C09.Ex.M8_pos, rfl, hm, C09.Ex.M8_hyp (by decide), ?_⟩
  rw [Mat.get_tab _ (by decide) (by decide)]
  simp only [sumFrom, List.range', List.foldl, Mat.get, sum_range_succ, sum_range_zero,
    Fl.add_val, Fl.mul_val, Fl.zero_val, C09.Ex.M8_rnd]
  norm_num

end SV.Props.C11Rounding
