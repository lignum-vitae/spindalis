import SV.Model.C07
import SV.Lemmas.C07
/-!
# C07 — Newton–Raphson: results are near-roots; monotone cases reach the right root

Property theorems only (helper lemmas are in `SV.Lemmas.C07`).  The same `SV.C07.newton` runs at
`Float` in the driver and is compared with `spindalis::solvers::newton_raphson_method` (outcome,
returned bits, number of passes) on every run of the check.

Reading guide.  `newton powf p x0 tol itermax mode : NRes K` is the call
`newton_raphson_method(&p, x0, itermax, tol, mode)`; `NRes.out` is its outcome, `NRes.passes` the
number of loop passes.  `newtonCore ev dv …` is the same loop for arbitrary evaluation functions of
the target function and of its derivative; `evOf g` is the evaluation function of a total `g`.  For a
dense (`SimplePolynomial`) input `newton_simple` identifies `newton … mode` with
`newtonCore (evOf P.eval) (evOf P'.eval) …` where `P = targetPoly cs mode` (the polynomial, or its
formal derivative in extrema mode) and `P'` its formal derivative.

The model contains one rule that is not an arithmetic identity: a vanishing derivative leads to
`MaxIterationsReached` (the IEEE consequence of dividing by zero, see `SV.Model.C07`); it is stated
below as `newton_zero_derivative` and validated by the correspondence run on inputs that hit it.
-/
set_option linter.unusedSectionVars false

namespace SV.Props.C07
open SV SV.Poly SV.C07 Polynomial
open SV.C06 (SolveMode SErr target evOf targetPoly)

variable {K : Type} [Field K] [LinearOrder K] [IsStrictOrderedRing K]

/-- **Exit condition, any evaluation functions.**  A returned `x` is the Newton update
`x_old − g(x_old)/g'(x_old)` of the previous iterate, `g'(x_old) ≠ 0`, and the last step
`Δ = x − x_old` is below the requested relative tolerance, `|Δ|·100 < tol·|x|` — or the iteration
sits on `x = 0` and the step vanished (`Δ = 0`; the relative rule cannot be evaluated there). -/
theorem newton_exit_ev (ev dv : K → Except PErr K) (x0 tol : K) (itermax : Nat) (x : K)
    (h : (newtonCore ev dv x0 tol itermax).out = .ok x) :
    ∃ xo gv d, ev xo = .ok gv ∧ dv xo = .ok d ∧ d ≠ 0 ∧ x = xo - gv / d ∧
      ((x ≠ 0 ∧ |x - xo| * 100 < tol * |x|) ∨ (x = 0 ∧ x - xo = 0 ∧ 0 < tol)) := by
  obtain ⟨xo, gv, d, _, h1, h2, h3, h4, h5⟩ :=
    newtonLoop_ok ev dv tol (fun _ => True) (fun _ _ _ _ _ _ _ => trivial) _ _ _ _ trivial h
  refine ⟨xo, gv, d, h1, h2, h3, h4, ?_⟩
  rcases (converged_iff x xo tol).mp h5 with hc | ⟨e0, e1, ht⟩
  · exact Or.inl hc
  · exact Or.inr ⟨e0, by rw [e0, e1, sub_zero], ht⟩

/-- **Exit condition, both polynomial kinds and both modes.**  `q` is the polynomial the solver
works on (the input, or its derivative), `dq` the derivative `derivate_univariate` computed of it. -/
theorem newton_exit (powf : K → K → K) (p : AnyPoly K) (x0 tol : K) (itermax : Nat)
    (mode : SolveMode) (x : K) (h : (newton powf p x0 tol itermax mode).out = .ok x) :
    ∃ q dq xo gv d, target p mode = .ok q ∧ q.derivUni = .ok dq ∧
      q.evalUni powf xo = .ok gv ∧ dq.evalUni powf xo = .ok d ∧ d ≠ 0 ∧ x = xo - gv / d ∧
      ((x ≠ 0 ∧ |x - xo| * 100 < tol * |x|) ∨ (x = 0 ∧ x - xo = 0 ∧ 0 < tol)) := by
  rcases newton_cases powf p x0 tol itermax mode with ⟨e, he⟩ | ⟨q, dq, hq, hdq, he⟩
  · rw [he] at h
    cases h
  · rw [he] at h
    obtain ⟨xo, gv, d, h1, h2, h3, h4, h5⟩ := newton_exit_ev _ _ x0 tol itermax x h
    exact ⟨q, dq, xo, gv, d, hq, hdq, h1, h2, h3, h4, h5⟩

/-- **Exit condition for dense polynomials, through Mathlib's `Polynomial`.** -/
theorem newton_exit_simple (powf : K → K → K) (cs : List K) (v : Option Char) (x0 tol : K)
    (itermax : Nat) (mode : SolveMode) (x : K)
    (h : (newton powf (.simple ⟨cs, v⟩) x0 tol itermax mode).out = .ok x) :
    ∃ xo, (derivative (targetPoly cs mode)).eval xo ≠ 0 ∧
      x = xo - (targetPoly cs mode).eval xo / (derivative (targetPoly cs mode)).eval xo ∧
      ((x ≠ 0 ∧ |x - xo| * 100 < tol * |x|) ∨ (x = 0 ∧ x - xo = 0 ∧ 0 < tol)) := by
  rw [newton_simple] at h
  obtain ⟨xo, gv, d, h1, h2, h3, h4, h5⟩ := newton_exit_ev _ _ x0 tol itermax x h
  simp only [evOf, Except.ok.injEq] at h1 h2
  subst h1 h2
  exact ⟨xo, h3, h4, h5⟩

/-- non-vacuity: `x² − 4` from `5/2` with a 10 % tolerance returns after two passes -/
example : (newtonCore (evOf fun x : ℚ => x ^ 2 - 4) (evOf fun x : ℚ => 2 * x) (5 / 2) 10 5).out
    = .ok (3281 / 1640) := by
  decide +kernel

/-- **The NaN-poisoning rule of the model, made explicit**: a vanishing derivative at the current
iterate ends in `MaxIterationsReached` after all `max itermax 1` passes (in `f64`: `g/0` is `±inf`
or NaN, and no later stopping test can be true). -/
theorem newton_zero_derivative (g g' : K → K) (x0 tol : K) (itermax : Nat) (h0 : g' x0 = 0) :
    (newtonCore (evOf g) (evOf g') x0 tol itermax).out = .err .maxIterationsReached ∧
    (newtonCore (evOf g) (evOf g') x0 tol itermax).passes = max itermax 1 := by
  unfold newtonCore
  cases hi : itermax - 1 with
  | zero =>
    rw [newtonLoop_evOf_zero]
    exact ⟨rfl, by simp only; omega⟩
  | succ n =>
    rw [newtonLoop_evOf_succ, if_pos h0]
    exact ⟨rfl, by simp only; omega⟩

omit [IsStrictOrderedRing K] in
theorem newton_total_ev (ev dv : K → Except PErr K) (x0 tol : K) (itermax : Nat) :
    (newtonCore ev dv x0 tol itermax).out ≠ .panic ∧
    (newtonCore ev dv x0 tol itermax).passes ≤ max itermax 1 := by
  obtain ⟨h1, _, h3⟩ := newtonLoop_total ev dv tol (itermax - 1) 0 x0
  exact ⟨h1, by rw [newtonCore]; omega⟩

/-- Every call returns a value or an error value — never the `panic` outcome — after at most
`max itermax 1` loop passes (the loop body runs once even for `itermax = 0`). -/
theorem newton_total (powf : K → K → K) (p : AnyPoly K) (x0 tol : K) (itermax : Nat)
    (mode : SolveMode) :
    (newton powf p x0 tol itermax mode).out ≠ .panic ∧
    ((∃ x, (newton powf p x0 tol itermax mode).out = .ok x) ∨
      ∃ e, (newton powf p x0 tol itermax mode).out = .err e) ∧
    (newton powf p x0 tol itermax mode).passes ≤ max itermax 1 := by
  have key : (newton powf p x0 tol itermax mode).out ≠ .panic ∧
      (newton powf p x0 tol itermax mode).passes ≤ max itermax 1 := by
    rcases newton_cases powf p x0 tol itermax mode with ⟨e, he⟩ | ⟨q, dq, _, _, he⟩
    · rw [he]
      exact ⟨nofun, Nat.zero_le _⟩
    · rw [he]
      exact newton_total_ev _ _ x0 tol itermax
  exact ⟨key.1, Outcome.ok_or_err key.1, key.2⟩

/-- **Second-order residual bound.**  For a real polynomial `P` (the target function) a returned `x`
satisfies `|P(x)| ≤ (M/2)·(tol/100·|x|)²` for every bound `M` on `|P''|` between the previous iterate
and `x` — the last step really was below the requested relative tolerance, and Taylor's formula with
the Lagrange-size remainder turns that into a residual. -/
theorem newton_residual (P : ℝ[X]) (x0 tol : ℝ) (itermax : Nat) (x : ℝ)
    (h : (newtonCore (evOf fun t => P.eval t) (evOf fun t => (derivative P).eval t) x0 tol itermax).out
      = .ok x) :
    ∃ xo, (derivative P).eval xo ≠ 0 ∧ x = xo - P.eval xo / (derivative P).eval xo ∧
      ∀ M, (∀ t ∈ Set.uIcc xo x, |(derivative (derivative P)).eval t| ≤ M) →
        |P.eval x| ≤ M / 2 * (tol / 100 * |x|) ^ 2 := by
  obtain ⟨xo, _, h3, h4, h5⟩ := newtonLoop_evOf_ok _ _ tol (fun _ => True) (fun _ _ _ => trivial)
    _ _ _ _ trivial h
  refine ⟨xo, h3, h4, fun M hM => ?_⟩
  have hM0 : 0 ≤ M / 2 := div_nonneg (le_trans (abs_nonneg _) (hM xo Set.left_mem_uIcc)) two_pos.le
  have ht := taylor2 P xo x M hM
  -- the Newton step makes the first-order part vanish
  have hlin : P.eval x - P.eval xo - (derivative P).eval xo * (x - xo) = P.eval x := by
    rw [h4, newtonMap]
    field_simp
    ring
  rw [hlin] at ht
  have hstep : (x - xo) ^ 2 ≤ (tol / 100 * |x|) ^ 2 := by
    rw [← sq_abs (x - xo)]
    exact pow_le_pow_left₀ (abs_nonneg _) (abs_sub_le_of_converged h5) 2
  exact le_trans ht (mul_le_mul_of_nonneg_left hstep hM0)

/-- the same for a dense polynomial given by its coefficient list, in either mode -/
theorem newton_residual_simple (powf : ℝ → ℝ → ℝ) (cs : List ℝ) (v : Option Char) (x0 tol : ℝ)
    (itermax : Nat) (mode : SolveMode) (x : ℝ)
    (h : (newton powf (.simple ⟨cs, v⟩) x0 tol itermax mode).out = .ok x) :
    ∃ xo, x = xo - (targetPoly cs mode).eval xo / (derivative (targetPoly cs mode)).eval xo ∧
      ∀ M, (∀ t ∈ Set.uIcc xo x, |(derivative (derivative (targetPoly cs mode))).eval t| ≤ M) →
        |(targetPoly cs mode).eval x| ≤ M / 2 * (tol / 100 * |x|) ^ 2 := by
  rw [newton_simple] at h
  obtain ⟨xo, _, h2, h3⟩ := newton_residual _ x0 tol itermax x h
  exact ⟨xo, h2, h3⟩

/-- **One step.**  For `g = c·Π(X − rᵢ)` (`c ≠ 0`, `n` roots, `m` the largest) and `x > m`: `g'(x) ≠ 0`,
the Newton update stays `≥ m` and moves left by at least `(x − m)/n`
(because `g/g' = 1/Σ 1/(x − rᵢ)`). -/
theorem newton_monotone_step (c : K) (hc : c ≠ 0) (rs : List K) (m x : K) (hm : m < x)
    (h : ∀ r ∈ rs, r ≤ m) (hmem : m ∈ rs) :
    (derivative (C c * rootsProd rs)).eval x ≠ 0 ∧
    m ≤ x - (C c * rootsProd rs).eval x / (derivative (C c * rootsProd rs)).eval x ∧
    x - (C c * rootsProd rs).eval x / (derivative (C c * rootsProd rs)).eval x
      ≤ x - (x - m) / rs.length := by
  obtain ⟨hd, θ, h1, h2, e⟩ :=
    newtonMap_rootsProd hc hmem (x := x) fun r hr => Or.inl ⟨h r hr, hm.le⟩
  rw [newtonMap] at e
  rw [e, ← one_div_mul_eq_div]
  exact ⟨hd hm.ne', ((toward_mem (le_trans (by positivity) h1) h2).1 hm.le).1,
    sub_le_sub_left (mul_le_mul_of_nonneg_right h1 (sub_nonneg.mpr hm.le)) x⟩

/-- **Exit bound.**  Started at or to the right of the largest root `m`, whatever value the solver
returns lies in `[m, x0]` and within `(n − 1)·tol/100·|x|` of `m` — wherever `m` lies on the real
line, including `m = 0`, and for roots of any multiplicity. -/
theorem newton_monotone (c : K) (hc : c ≠ 0) (rs : List K) (m x0 tol : K) (itermax : Nat) (x : K)
    (h : ∀ r ∈ rs, r ≤ m) (hmem : m ∈ rs) (hx0 : m ≤ x0)
    (hout : (newtonCore (evOf fun t => (C c * rootsProd rs).eval t)
      (evOf fun t => (derivative (C c * rootsProd rs)).eval t) x0 tol itermax).out = .ok x) :
    m ≤ x ∧ x ≤ x0 ∧ x - m ≤ ((rs.length : K) - 1) * (tol / 100) * |x| := by
  obtain ⟨⟨h1, h2⟩, h3⟩ := (stepsToward_right hc hmem h x0).exit (natCast_length_pos hmem) tol _ _
    ⟨hx0, le_rfl⟩ hout
  exact ⟨h1, h2, by rwa [abs_of_nonneg (sub_nonneg.mpr h1)] at h3⟩

/-- **A value is returned** (positive, simple largest root `m`): the distance to `m` shrinks at least
by `q = 1 − 1/n` per pass, so with `(x0 − m)·100·q^(itermax−2) < tol·m` the relative stopping test
fires before the cap.  Over `ℝ` such an `itermax` always exists when `tol > 0` (for `n ≥ 2`, `q < 1`).

*Partial*: `m = 0` is excluded — in exact arithmetic the relative step towards a root at 0 never
drops below `100/(n−1)` %, so the exact model ends in `MaxIterationsReached`; the `f64` code reaches
`x = 0` through underflow and then stops with a vanishing step.  That case is covered by the
correspondence run and by the oracle (real-rooted polynomials incl. a root at 0, both sides, budget
≥ 2000); a largest root of either sign `≠ 0` and starts to the left of the smallest root are
`newton_monotone_returns` and `newton_monotone_returns_left` below. -/
theorem newton_monotone_returns_partial (c : K) (hc : c ≠ 0) (rs : List K) (m x0 tol : K)
    (itermax : Nat) (hmpos : 0 < m) (h : ∀ r ∈ rs, r ≤ m) (hmem : m ∈ rs)
    (hsimple : (derivative (C c * rootsProd rs)).eval m ≠ 0) (hx0 : m ≤ x0) (hiter : 2 ≤ itermax)
    (hbudget : (x0 - m) * 100 * (1 - 1 / (rs.length : K)) ^ (itermax - 2) < tol * m) :
    ∃ x, (newtonCore (evOf fun t => (C c * rootsProd rs).eval t)
      (evOf fun t => (derivative (C c * rootsProd rs)).eval t) x0 tol itermax).out = .ok x := by
  rw [newtonCore_of_two_le _ _ _ _ hiter]
  rw [mul_right_comm, ← abs_of_nonneg (sub_nonneg.mpr hx0)] at hbudget
  exact (stepsToward_right hc hmem h x0).returns (natCast_length_pos hmem) hsimple hmpos _ _
    ⟨hx0, le_rfl⟩ (fun y hy _ => le_trans hy.1 (le_abs_self y)) hbudget

/-- **Exit bound, other side.**  Started at or to the left of the smallest root `m`, whatever value
the solver returns lies in `[x0, m]` and within `(n − 1)·tol/100·|x|` of `m` (the Newton map steps
towards an extreme root from either side: `stepsToward_left`). -/
theorem newton_monotone_left (c : K) (hc : c ≠ 0) (rs : List K) (m x0 tol : K) (itermax : Nat) (x : K)
    (h : ∀ r ∈ rs, m ≤ r) (hmem : m ∈ rs) (hx0 : x0 ≤ m)
    (hout : (newtonCore (evOf fun t => (C c * rootsProd rs).eval t)
      (evOf fun t => (derivative (C c * rootsProd rs)).eval t) x0 tol itermax).out = .ok x) :
    x0 ≤ x ∧ x ≤ m ∧ m - x ≤ ((rs.length : K) - 1) * (tol / 100) * |x| := by
  obtain ⟨⟨h1, h2⟩, h3⟩ := (stepsToward_left hc hmem h x0).exit (natCast_length_pos hmem) tol _ _
    ⟨le_rfl, hx0⟩ hout
  exact ⟨h1, h2, by rwa [abs_sub_comm, abs_of_nonneg (sub_nonneg.mpr h2)] at h3⟩

/-- **A value is returned, simple extreme root `m ≠ 0` of either sign, start on the right.**  With
`q = 1 − 1/n` and `e = (x0 − m)·q^(itermax−2)`: if `e·100 < tol·|m|/2` and `2e ≤ |m|`, the relative
stopping test fires before the cap (once the distance to `m` is below `|m|/2` every iterate has
`|x| ≥ |m|/2`).  Over `ℝ` such an `itermax` always exists when `tol > 0` and `n ≥ 2`. -/
theorem newton_monotone_returns (c : K) (hc : c ≠ 0) (rs : List K) (m x0 tol : K)
    (itermax : Nat) (hm0 : m ≠ 0) (h : ∀ r ∈ rs, r ≤ m) (hmem : m ∈ rs)
    (hsimple : (derivative (C c * rootsProd rs)).eval m ≠ 0) (hx0 : m ≤ x0) (hiter : 2 ≤ itermax)
    (hb : (x0 - m) * (1 - 1 / (rs.length : K)) ^ (itermax - 2) * 100 < tol * (|m| / 2))
    (hn : (x0 - m) * (1 - 1 / (rs.length : K)) ^ (itermax - 2) * 2 ≤ |m|) :
    ∃ x, (newtonCore (evOf fun t => (C c * rootsProd rs).eval t)
      (evOf fun t => (derivative (C c * rootsProd rs)).eval t) x0 tol itermax).out = .ok x := by
  rw [newtonCore_of_two_le _ _ _ _ hiter]
  rw [← abs_of_nonneg (sub_nonneg.mpr hx0)] at hb hn
  exact (stepsToward_right hc hmem h x0).returns_ne (natCast_length_pos hmem) hsimple hm0 _ _
    ⟨hx0, le_rfl⟩ hb hn

/-- … and started on the left of the smallest root. -/
theorem newton_monotone_returns_left (c : K) (hc : c ≠ 0) (rs : List K) (m x0 tol : K)
    (itermax : Nat) (hm0 : m ≠ 0) (h : ∀ r ∈ rs, m ≤ r) (hmem : m ∈ rs)
    (hsimple : (derivative (C c * rootsProd rs)).eval m ≠ 0) (hx0 : x0 ≤ m) (hiter : 2 ≤ itermax)
    (hb : (m - x0) * (1 - 1 / (rs.length : K)) ^ (itermax - 2) * 100 < tol * (|m| / 2))
    (hn : (m - x0) * (1 - 1 / (rs.length : K)) ^ (itermax - 2) * 2 ≤ |m|) :
    ∃ x, (newtonCore (evOf fun t => (C c * rootsProd rs).eval t)
      (evOf fun t => (derivative (C c * rootsProd rs)).eval t) x0 tol itermax).out = .ok x := by
  rw [newtonCore_of_two_le _ _ _ _ hiter]
  rw [← abs_of_nonneg (sub_nonneg.mpr hx0), abs_sub_comm] at hb hn
  exact (stepsToward_left hc hmem h x0).returns_ne (natCast_length_pos hmem) hsimple hm0 _ _
    ⟨le_rfl, hx0⟩ hb hn

/-- non-vacuity of the monotone theorems: `(X − 1)(X − 3)` from `x0 = 4` -/
example : ∃ x, (newtonCore (evOf fun t => (C (1 : ℚ) * rootsProd [1, 3]).eval t)
    (evOf fun t => (derivative (C (1 : ℚ) * rootsProd [1, 3])).eval t) 4 (1 / 10) 40).out = .ok x := by
  apply newton_monotone_returns_partial 1 one_ne_zero [1, 3] 3 4 (1 / 10) 40 (by norm_num)
  · decide +kernel
  · decide +kernel
  · simp only [rootsProd_cons, rootsProd_nil, mul_one, derivative_mul, derivative_sub, derivative_X,
      derivative_C, sub_zero, eval_add, eval_mul, eval_sub, eval_X, eval_C, eval_one]
    norm_num
  · norm_num
  · norm_num
  · decide +kernel

/-- … and from the left of the smallest root, which is negative: `(X + 3)(X − 1)` from `x0 = −5` -/
example : ∃ x, (newtonCore (evOf fun t => (C (1 : ℚ) * rootsProd [-3, 1]).eval t)
    (evOf fun t => (derivative (C (1 : ℚ) * rootsProd [-3, 1])).eval t) (-5) (1 / 10) 40).out = .ok x := by
  apply newton_monotone_returns_left 1 one_ne_zero [-3, 1] (-3) (-5) (1 / 10) 40 (by norm_num)
  · decide +kernel
  · decide +kernel
  · simp only [rootsProd_cons, rootsProd_nil, mul_one, derivative_mul, derivative_sub, derivative_X,
      derivative_C, sub_zero, eval_add, eval_mul, eval_sub, eval_X, eval_C, eval_one]
    norm_num
  · norm_num
  · norm_num
  · decide +kernel
  · decide +kernel

/-- **The convergence half at full strength** (every real-rooted polynomial with separated roots,
start on either side, the extreme root anywhere *including 0*): kept as a definition, because it is
false for the exact model when the extreme root is 0 (see `newton_monotone_returns_partial`) and
true of the `f64` code only through underflow.  Proved: the returned value is the right root within
`(n−1)·tol %` for any root position and multiplicity, both sides (`newton_monotone`,
`newton_monotone_left`); a value is returned for every simple extreme root `m ≠ 0`, both sides
(`newton_monotone_returns`, `newton_monotone_returns_left`; sharper budget for `m > 0` in
`newton_monotone_returns_partial`).  Missing: termination for `m = 0` — needs a model of `f64`
underflow; covered by the correspondence run and the oracle. -/
def newton_monotone_full : Prop :=
  ∀ (c : ℝ) (rs : List ℝ) (m x0 tol : ℝ), c ≠ 0 → rs.Nodup → m ∈ rs →
    ((∀ r ∈ rs, r ≤ m) ∧ m < x0 ∨ (∀ r ∈ rs, m ≤ r) ∧ x0 < m) → 0 < tol →
    ∃ N : Nat, ∀ itermax ≥ N, ∃ x,
      (newtonCore (evOf fun t => (C c * rootsProd rs).eval t)
        (evOf fun t => (derivative (C c * rootsProd rs)).eval t) x0 tol itermax).out = .ok x ∧
      |x - m| ≤ rs.length * (tol / 100) * |x|

end SV.Props.C07
