import SV.Lemmas.C02Agree
import SV.Props.C02
import Mathlib.Analysis.SpecialFunctions.Pow.Real
/-!
# C02 (companion) — the univariate and the multivariate representation denote the same function

Clause of C02: *"On the common univariate sub-language the univariate and multivariate
representations denote the same function, and evaluating with a missing variable is an error rather
than a number."*  Property theorems only; about the same models as `SV.Props.C01` / `SV.Props.C02`:
`C01.parse` (`parse_simple_polynomial`), `C02.parse` (`parse_intermediate_polynomial`),
`Poly.evalSimple` (`eval_simple_polynomial`), `Poly.evalTerms` (`eval_intermediate_polynomial`) and
`Poly.evalUni` (`IntermediatePolynomial::eval_univariate`).

**The common language.**  The univariate grammar of `SV.Lemmas.C01` —

    polynomial ::= [+|-] term { (+|-) term }          term ::= udec | [udec] v [ '^' digits ]
    udec ::= digits | digits '.' | '.' digits | digits '.' digits        (digits ≤ MAX_POWER after '^')

with an ASCII letter as `v`, in any spacing — *is* the whole common language, not a convenient part of
it: `both_accept_is_common` shows that every text accepted by both parser models has this form.
Coefficient forms `a/b`, and exponents that are negative, fractional or decimal, belong to the
multivariate grammar only (`C01.parse` answers `InvalidCoefficient` / `InvalidExponent`: see the
examples at the end), and a non-ASCII variable letter belongs to the univariate grammar only.

**Numbers.**  Both models return `Text.Num` expressions (decimal literals and the `f64` operations
performed on them).  `numK K` (in `SV.Lemmas.C02Agree`) reads such an expression in a field `K` with
the field's own operations; `instPoly K` applies it to a parsed multivariate polynomial.  The power
function of the sparse evaluation is a parameter `powf`, as in `SV.Props.C02.eval_eq_sum_prod`; the only
fact used is that it is the natural-number power on natural exponents (`powf x n = x ^ n`), which
holds for the real power function (`rpow_is_pow`) — this is why `K` has characteristic 0: in
characteristic `p` the exponent `p` would not be told from `0`.
-/
namespace SV.Props.C02Agree
open SV SV.Text SV.Poly SV.C02Agree

variable {K : Type} [Field K] [CharZero K]

/-- A term list of the univariate grammar with an ASCII letter `v`, translated term by term into the
multivariate grammar (`tr v`: same sign, same coefficient spelling, factor list `[]`, `[v]` or
`[v^digits]`), is well formed there and renders to **the same text**.  So `SV.Props.C01.parse_render`
and `SV.Props.C02.parse_render_inter` speak about the same strings. -/
theorem same_text {cap : Nat} {v : Char} (hv : isAsciiLetter v = true) (lead : Bool)
    {ts : List C01.TermSyn} (hwf : C01.WellFormed cap ts) :
    (∀ u ∈ ts.map (tr v), u.WF) ∧ C02.render lead (ts.map (tr v)) = C01.render v lead ts :=
  ⟨tr_wf_all hv hwf, render_tr v lead ts⟩

/-- … and the same meaning: the signed coefficient value, and the letter with the power written
(no variable at all for a constant term). -/
theorem same_meaning (v : Char) (t : C01.TermSyn) :
    (tr v t).sem =
      (t.value, if t.body.writesVar then [(String.singleton v, (t.pow : ℚ))] else []) :=
  sem_tr v t

/-- In characteristic 0 the field reading of a parsed number is the image of its exact rational
value — the value `SV.Props.C01.parse_render` and `SV.Props.C02.parse_render_inter` speak about (the two
files' value functions `Num.val` and `C02.numVal` are the same function). -/
theorem numK_spec (n : Num) : numK K n = ((n.val : ℚ) : K) ∧ C02.numVal n = n.val :=
  ⟨numK_eq_cast n, C02.numVal_eq_val n⟩

/-- The driver's character classes satisfy every hypothesis the theorems below put on `cc`; and its
alphabetic class contains the ASCII letters. -/
theorem std_class_ok :
    stdClass.Sane ∧ C02.Sane stdClass ∧ stdClass.isAlpha '/' = false ∧
      ∀ c, isAsciiLetter c = true → stdClass.isAlpha c = true :=
  ⟨stdClass_sane, C02.stdClass_sane, by decide, fun c hc => by simp [stdClass, hc]⟩

/-- The real power function (the exact counterpart of `f64::powf`) is the natural-number power on
natural exponents — for every base, also negative ones and 0: the hypothesis `hpow` of the theorems
below is satisfied by the intended power function. -/
theorem rpow_is_pow (x : ℝ) (n : ℕ) : Real.rpow x (n : ℝ) = x ^ n := Real.rpow_natCast x n

/-- **The two representations denote the same function on the common language.**

For every well-formed term list `ts` of the univariate grammar (any number and order of terms,
repeated powers, optional leading sign, implicit coefficients, coefficient spellings `n`, `n.`, `n.d`,
`.d`, exponents `digits ≤ cap` with leading zeros allowed, constant terms), every ASCII letter `v` and
every text `s` whose non-white-space characters are the rendering of `ts` (so: every spacing):

* `parse_simple_polynomial` accepts `s` (result `p1`) and `parse_intermediate_polynomial` accepts `s`
  (result `p2`);
* the variable information agrees: `p1.var` is `v` and `p2.variables` is `[v]` when some term writes
  the variable, and `none` / `[]` for a constant polynomial — in particular `p2.variables ⊆ [v]`;
* for every field `K` of characteristic 0, every `powf` that is `x ^ n` on natural exponents and
  every point `x : K`: `eval_univariate` of the multivariate polynomial, and
  `eval_intermediate_polynomial` under the binding `v ↦ x`, return **exactly the number**
  `eval_simple_polynomial` computes from the dense coefficient vector — and that number is
  `Σ_t value(t) · x ^ pow(t)` over the terms as written. -/
theorem agree_on_common_language (powf : K → K → K)
    (hpow : ∀ (x : K) (n : ℕ), powf x (n : K) = x ^ n)
    {cc : CharClass} (h1 : cc.Sane) (h2 : C02.Sane cc) (cap : Nat) {v : Char}
    (hv : isAsciiLetter v = true) (hva : cc.isAlpha v = true) (lead : Bool)
    {ts : List C01.TermSyn} (hwf : C01.WellFormed cap ts)
    {s : List Char} (hs : stripWs cc s = C01.render v lead ts) :
    ∃ p1 p2, C01.parse cc cap s = .ok p1 ∧ C02.parse cc s = .ok p2 ∧
      p1.var = (if C01.writesVar ts then some v else none) ∧
      p2.variables = (if C01.writesVar ts then [String.singleton v] else []) ∧
      ∀ x : K,
        evalUni powf (instPoly K p2) x = .ok (evalSimple (p1.coeffs.map (numK K)) x) ∧
        evalTerms powf (instPoly K p2).terms [(String.singleton v, x)] =
          .ok (evalSimple (p1.coeffs.map (numK K)) x) ∧
        evalSimple (p1.coeffs.map (numK K)) x =
          (ts.map fun t => ((t.value : ℚ) : K) * x ^ t.pow).sum := by
  obtain ⟨p1, p2, hp1, hp2, hvar, hvars, hx⟩ :=
    agree_core powf hpow h1 h2 cap hv lead hwf (fun _ => hva) hs
  refine ⟨p1, p2, hp1, hp2, hvar, hvars, fun x => ?_⟩
  obtain ⟨e1, e2, e3⟩ := hx x
  exact ⟨by rw [e3, e1], by rw [e2, e1], e1⟩

/-- The same for the driver's character classes (the configuration K validates against the Rust
parsers), over the reals with the real power function. -/
theorem agree_on_common_language_real (cap : Nat) {v : Char} (hv : isAsciiLetter v = true)
    (lead : Bool) {ts : List C01.TermSyn} (hwf : C01.WellFormed cap ts)
    {s : List Char} (hs : stripWs stdClass s = C01.render v lead ts) :
    ∃ p1 p2, C01.parse stdClass cap s = .ok p1 ∧ C02.parse stdClass s = .ok p2 ∧
      ∀ x : ℝ, evalUni Real.rpow (instPoly ℝ p2) x = .ok (evalSimple (p1.coeffs.map (numK ℝ)) x) := by
  obtain ⟨p1, p2, hp1, hp2, _, _, hx⟩ := agree_on_common_language Real.rpow rpow_is_pow
    std_class_ok.1 std_class_ok.2.1 cap hv (std_class_ok.2.2.2 v hv) lead hwf hs
  exact ⟨p1, p2, hp1, hp2, fun x => (hx x).1⟩

/-- **The common language is exactly the grammar above**: a text accepted by both parser models is
(a spacing of) the univariate rendering of a well-formed term list with an ASCII variable letter.
(`hslash`: `/` is not alphabetic — true of `char::is_alphabetic`, not listed in either `Sane`.) -/
theorem both_accept_is_common {cc : CharClass} (h1 : cc.Sane) (hslash : cc.isAlpha '/' = false)
    {cap : Nat} {s : List Char} {p1 : C01.SParsed} {p2 : C02.IParsed}
    (hp1 : C01.parse cc cap s = .ok p1) (hp2 : C02.parse cc s = .ok p2) :
    ∃ (v : Char) (lead : Bool) (ts : List C01.TermSyn), isAsciiLetter v = true ∧
      (C01.writesVar ts = true → cc.isAlpha v = true) ∧ C01.WellFormed cap ts ∧
      stripWs cc s = C01.render v lead ts :=
  common_of_both_ok h1 hslash hp1 hp2

/-- **Agreement at full strength: for every text whatsoever.**  Whenever the univariate parser and the
multivariate parser both accept a text `s`, the two results name the same variable (none for a
constant polynomial, so `eval_univariate` applies) and, at every point `x` of every field of
characteristic 0, `eval_univariate` of the multivariate result returns exactly the value
`eval_simple_polynomial` computes from the univariate result. -/
theorem agree_of_both_accept (powf : K → K → K)
    (hpow : ∀ (x : K) (n : ℕ), powf x (n : K) = x ^ n)
    {cc : CharClass} (h1 : cc.Sane) (h2 : C02.Sane cc) (hslash : cc.isAlpha '/' = false)
    {cap : Nat} {s : List Char} {p1 : C01.SParsed} {p2 : C02.IParsed}
    (hp1 : C01.parse cc cap s = .ok p1) (hp2 : C02.parse cc s = .ok p2) :
    (p2.variables = match p1.var with | some v => [String.singleton v] | none => []) ∧
      ∀ x : K, evalUni powf (instPoly K p2) x = .ok (evalSimple (p1.coeffs.map (numK K)) x) := by
  obtain ⟨v, lead, ts, hv, hva, hwf, hs⟩ := common_of_both_ok h1 hslash hp1 hp2
  obtain ⟨q1, q2, hq1, hq2, hvar, hvars, hx⟩ := agree_core powf hpow h1 h2 cap hv lead hwf hva hs
  rw [hp1] at hq1
  rw [hp2] at hq2
  cases hq1
  cases hq2
  refine ⟨?_, fun x => ?_⟩
  · rw [hvar, hvars]
    cases C01.writesVar ts <;> rfl
  · obtain ⟨e1, _, e3⟩ := hx x
    rw [e3, e1]

/-- **Evaluating with the variable missing is an error rather than a number** (re-using
`SV.Props.C02.eval_missing_is_error`): if both parsers accept `s` and the univariate result has the
variable `v`, then `eval_intermediate_polynomial` of the multivariate result under any assignment
that does not bind `v` — the empty one, for instance — answers `VariableNotFound` of an unbound
name, whereas the univariate evaluation of the same text is always a number. -/
theorem missing_variable_is_error (powf : K → K → K)
    (hpow : ∀ (x : K) (n : ℕ), powf x (n : K) = x ^ n)
    {cc : CharClass} (h1 : cc.Sane) (h2 : C02.Sane cc) (hslash : cc.isAlpha '/' = false)
    {cap : Nat} {s : List Char} {p1 : C01.SParsed} {p2 : C02.IParsed}
    (hp1 : C01.parse cc cap s = .ok p1) (hp2 : C02.parse cc s = .ok p2)
    {v : Char} (hvar : p1.var = some v) (σ : List (String × K))
    (hσ : lookup σ (String.singleton v) = none) :
    ∃ name, evalTerms powf (instPoly K p2).terms σ = .error (.variableNotFound name) ∧
      lookup σ name = none := by
  have hvars := (agree_of_both_accept powf hpow h1 h2 hslash hp1 hp2).1
  rw [hvar] at hvars
  have hin : String.singleton v ∈ p2.variables := by rw [hvars]; simp
  obtain ⟨t, ht, p, hp, hname⟩ := ((SV.Props.C02.parse_canonical cc s p2 hp2).2.2.2 _).1 hin
  apply SV.Props.C02.eval_missing_is_error
  refine ⟨instTerm K t, List.mem_map.2 ⟨t, ht, rfl⟩, (p.1, numK K p.2), ?_, ?_⟩
  · exact List.mem_map.2 ⟨p, hp, rfl⟩
  · simp only [hname]
    exact hσ

/-- a power function on `ℚ` that is the natural power on natural exponents (anything elsewhere) -/
private def qpow (x e : ℚ) : ℚ := x ^ e.num.toNat

private theorem qpow_nat (x : ℚ) (n : ℕ) : qpow x (n : ℚ) = x ^ n := by simp [qpow]

private def exTerms : List C01.TermSyn :=
  [⟨false, some ⟨['3'], [], false⟩, .varPow ['2']⟩,
   ⟨true, some ⟨[], ['5'], true⟩, .var⟩,
   ⟨false, some ⟨['4'], [], false⟩, .const⟩]

/-- the hypotheses of `agree_on_common_language` are satisfiable: this text is a spacing of a
well-formed rendering with the ASCII letter `x` … -/
example : C01.WellFormed 65536 exTerms ∧ isAsciiLetter 'x' = true ∧ stdClass.isAlpha 'x' = true ∧
    stripWs stdClass "3x^2 - .5x + 4".toList = C01.render 'x' false exTerms :=
  ⟨C01.wellFormed_of_all (by decide), by decide, by decide, by decide +kernel⟩

/-- … both models accept it, as computed by the kernel: dense `[4, -.5, 3]` against the sparse
`3·x^2, -.5·x^1, 4` … -/
example :
    C01.parse stdClass 65536 "3x^2 - .5x + 4".toList =
      .ok ⟨[.add .zero (.dec ⟨false, 4, 0⟩), .add .zero (.dec ⟨true, 5, 1⟩),
            .add .zero (.dec ⟨false, 3, 0⟩)], some 'x'⟩ ∧
    (C02.parse stdClass "3x^2 - .5x + 4".toList).toOption.map
        (fun p => (p.terms.map fun t => (t.coef, t.vars), p.variables)) =
      some ([(.dec ⟨false, 3, 0⟩, [("x", .dec ⟨false, 2, 0⟩)]),
             (.dec ⟨true, 5, 1⟩, [("x", Num.one)]),
             (.dec ⟨false, 4, 0⟩, [])], ["x"]) := by
  decide +kernel

/-- … and the theorem gives: both evaluate to `3x² − x/2 + 4` at every rational point. -/
example : ∃ p1 p2, C01.parse stdClass 65536 "3x^2 - .5x + 4".toList = .ok p1 ∧
    C02.parse stdClass "3x^2 - .5x + 4".toList = .ok p2 ∧ p2.variables = ["x"] ∧
    ∀ x : ℚ, evalUni qpow (instPoly ℚ p2) x = .ok (evalSimple (p1.coeffs.map (numK ℚ)) x) ∧
      evalSimple (p1.coeffs.map (numK ℚ)) x = 3 * x ^ 2 - 1 / 2 * x + 4 := by
  obtain ⟨p1, p2, hp1, hp2, _, hvars, hx⟩ := agree_on_common_language qpow qpow_nat
    std_class_ok.1 std_class_ok.2.1 65536 (v := 'x') (by decide) (by decide) false
    (ts := exTerms) (C01.wellFormed_of_all (by decide)) (s := "3x^2 - .5x + 4".toList)
    (by decide +kernel)
  refine ⟨p1, p2, hp1, hp2, by rw [hvars]; rfl, fun x => ⟨(hx x).1, ?_⟩⟩
  rw [(hx x).2.2]
  have h3 : digitsVal (['3'] ++ []) = 3 := by decide
  have h5 : digitsVal ([] ++ ['5']) = 5 := by decide
  have h4 : digitsVal (['4'] ++ []) = 4 := by decide
  have h2 : digitsVal ['2'] = 2 := by decide
  simp only [exTerms, List.map_cons, List.map_nil, List.sum_cons, List.sum_nil, C01.TermSyn.value,
    C01.TermSyn.pow, C01.Body.pow, C01.coefValue, UDec.value, UDec.mant, h3, h5, h4, h2,
    Rat.cast_id, Bool.false_eq_true, if_false, if_true, List.length_nil, List.length_cons]
  ring

/-- the general theorem needs no grammar: the two `parse` equations are enough -/
example (p1 : C01.SParsed) (p2 : C02.IParsed)
    (hp1 : C01.parse stdClass 65536 " - y ^ 007 + 2.50y + y".toList = .ok p1)
    (hp2 : C02.parse stdClass " - y ^ 007 + 2.50y + y".toList = .ok p2) (x : ℝ) :
    evalUni Real.rpow (instPoly ℝ p2) x = .ok (evalSimple (p1.coeffs.map (numK ℝ)) x) :=
  (agree_of_both_accept Real.rpow rpow_is_pow std_class_ok.1 std_class_ok.2.1 std_class_ok.2.2.1
    hp1 hp2).2 x

/-- its hypotheses are satisfiable (both models accept that text) -/
example : (∃ p1, C01.parse stdClass 65536 " - y ^ 007 + 2.50y + y".toList = .ok p1) ∧
    (C02.parse stdClass " - y ^ 007 + 2.50y + y".toList).toOption.isSome = true := by
  decide +kernel

/-- outside the common language, fraction coefficient: `"3x^2 - 1/2x + 4"` is multivariate only -/
example : C01.parse stdClass 65536 "3x^2 - 1/2x + 4".toList = .error .invalidCoefficient ∧
    (C02.parse stdClass "3x^2 - 1/2x + 4".toList).toOption.isSome = true := by
  decide +kernel

/-- outside the common language, negative exponent: `"2x^-2"` is multivariate only -/
example : C01.parse stdClass 65536 "2x^-2".toList = .error .invalidExponent ∧
    (C02.parse stdClass "2x^-2".toList).toOption.isSome = true := by
  decide +kernel

/-- outside the common language, non-ASCII letter: `"2é^2"` is univariate only -/
example : (∃ p1, C01.parse stdClass 65536 "2é^2".toList = .ok p1) ∧
    C02.parse stdClass "2é^2".toList = .error .unexpectedChar := by
  decide +kernel

end SV.Props.C02Agree
