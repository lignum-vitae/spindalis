import SV.Model.C06
import SV.Lemmas.C06
/-!
# C06 — geometric invariants of the bisection loop

Over a linearly ordered field.  For every evaluation function (also a failing one): the initial
guess influences nothing but the range check (the first pass skips the relative-change estimate, the
only place `x_curr` is read), and brackets are nested, the candidate of a pass being the midpoint of
the previous bracket (or its lower end when that is an exact root).  For every total target function:
the width after `k` passes is `(upper − lower) / 2^k` as long as no exact root was hit, and passes
and brackets depend only on the signs of the function values.  Extrema mode on `p` is root mode on
`p'`.
-/
set_option linter.unusedSectionVars false

namespace SV.Props.C06Bracket
open SV SV.Poly SV.C06

variable {K : Type} [Field K] [LinearOrder K] [IsStrictOrderedRing K]

/-- The pass with `iter == 0` does not read `x_curr`: the guard `iter > 0` skips the relative-change
estimate, the only use of the old candidate. -/
theorem bisect_first_pass_no_test (ev : K → Except PErr K) (l u x₁ x₂ a : K) :
    bisectPass ev true ⟨l, u, x₁, a⟩ = bisectPass ev true ⟨l, u, x₂, a⟩ := by
  rw [bisectPass_eq, bisectPass_eq]
  simp only [passOf_first _ _ l u x₁ x₂ a]

/-- … and it leaves the estimate it was given (`100` at the start of a call), or `0` on an exact root -/
theorem bisect_first_pass_aerr {ev : K → Except PErr K} {st st' : BState K}
    (h : bisectPass ev true st = .ok st') : st'.aerr = st.aerr ∨ st'.aerr = 0 := by
  obtain ⟨fl, fm, -, -, hp⟩ := bisectPass_ok h
  cases hp with
  | left _ => exact .inl (nextErr_first ((st.lower + st.upper) / 2) st)
  | right _ => exact .inl (nextErr_first ((st.lower + st.upper) / 2) st)
  | rootLower _ => exact .inr rfl
  | rootMid _ _ => exact .inr rfl

theorem bisectLoop_init_irrelevant (ev : K → Except PErr K) (tol : K) (rem : Nat) (l u x₁ x₂ a : K) :
    bisectLoop ev tol rem 0 ⟨l, u, x₁, a⟩ = bisectLoop ev tol rem 0 ⟨l, u, x₂, a⟩ := by
  have hf : ((0 : Nat) == 0) = true := rfl
  cases rem with
  | zero =>
    unfold bisectLoop
    rw [hf, bisect_first_pass_no_test ev l u x₁ x₂ a]
  | succ n =>
    unfold bisectLoop
    rw [hf, bisect_first_pass_no_test ev l u x₁ x₂ a]

theorem bisectCore_init_irrelevant (ev : K → Except PErr K) (lo init₁ init₂ hi tol : K) (itermax : Nat)
    (h₁ : lo ≤ init₁ ∧ init₁ ≤ hi) (h₂ : lo ≤ init₂ ∧ init₂ ≤ hi) :
    bisectCore ev lo init₁ hi tol itermax = bisectCore ev lo init₂ hi tol itermax := by
  rw [bisectCore_of_in h₁, bisectCore_of_in h₂]
  exact bisectLoop_init_irrelevant ev tol itermax lo hi init₁ init₂ _

theorem bisection_init_irrelevant (powf : K → K → K) (p : AnyPoly K) (lo init₁ init₂ hi tol : K)
    (itermax : Nat) (mode : SolveMode)
    (h₁ : lo ≤ init₁ ∧ init₁ ≤ hi) (h₂ : lo ≤ init₂ ∧ init₂ ≤ hi) :
    bisection powf p lo init₁ hi tol itermax mode = bisection powf p lo init₂ hi tol itermax mode := by
  cases hq : target p mode with
  | error e =>
    rw [bisection_target_error powf hq, bisection_target_error powf hq,
      if_neg (not_or.mpr ⟨not_lt.mpr h₁.1, not_lt.mpr h₁.2⟩),
      if_neg (not_or.mpr ⟨not_lt.mpr h₂.1, not_lt.mpr h₂.2⟩)]
  | ok q =>
    rw [bisection_eq_core powf hq, bisection_eq_core powf hq]
    exact bisectCore_init_irrelevant _ lo init₁ init₂ hi tol itermax h₁ h₂

/-- a call is rejected (`XInitOutOfBounds`) or equal to the call with the guess at the lower end -/
theorem bisection_init_only_range_check (powf : K → K → K) (p : AnyPoly K) (lo init hi tol : K)
    (itermax : Nat) (mode : SolveMode) :
    ((init < lo ∨ hi < init) ∧
      (bisection powf p lo init hi tol itermax mode).out = .err .xInitOutOfBounds) ∨
    ((lo ≤ init ∧ init ≤ hi) ∧
      bisection powf p lo init hi tol itermax mode = bisection powf p lo lo hi tol itermax mode) := by
  by_cases h : init < lo ∨ hi < init
  · left
    rw [bisection_of_out powf p tol itermax mode h]
    exact ⟨h, rfl⟩
  · right
    rw [not_or, not_lt, not_lt] at h
    exact ⟨h, bisection_init_irrelevant powf p lo init lo hi tol itermax mode h ⟨le_rfl, h.1.trans h.2⟩⟩

/-- One pass: the new bracket is the left half, the right half, or (sign test exactly `0`) the old
bracket; the candidate `x` is the midpoint of the old bracket, or its lower end when the evaluation
there returned `0`; it lies in the old and in the new bracket. -/
theorem bisectPass_nested {ev : K → Except PErr K} {first : Bool} {st st' : BState K}
    (h : bisectPass ev first st = .ok st') (hle : st.lower ≤ st.upper) :
    st.lower ≤ st'.lower ∧ st'.lower ≤ st'.upper ∧ st'.upper ≤ st.upper ∧
    (st'.x = (st.lower + st.upper) / 2 ∨ (st'.x = st.lower ∧ ev st.lower = .ok 0)) ∧
    st.lower ≤ st'.x ∧ st'.x ≤ st.upper ∧ st'.lower ≤ st'.x ∧ st'.x ≤ st'.upper ∧
    ((st'.lower = st.lower ∧ st'.upper = (st.lower + st.upper) / 2) ∨
     (st'.lower = (st.lower + st.upper) / 2 ∧ st'.upper = st.upper) ∨
     (st'.lower = st.lower ∧ st'.upper = st.upper)) := by
  obtain ⟨fl, fm, hfl, -, hp⟩ := bisectPass_ok h
  have hm1 := le_mid hle
  have hm2 := mid_le hle
  cases hp with
  | left _ => exact ⟨le_rfl, hm1, hm2, .inl rfl, hm1, hm2, hm1, le_rfl, .inl ⟨rfl, rfl⟩⟩
  | right _ => exact ⟨hm1, hm2, le_rfl, .inl rfl, hm1, hm2, le_rfl, hm2, .inr (.inl ⟨rfl, rfl⟩)⟩
  | rootLower h0 =>
    exact ⟨le_rfl, hle, le_rfl, .inr ⟨rfl, h0 ▸ hfl⟩, le_rfl, hle, le_rfl, hle, .inr (.inr ⟨rfl, rfl⟩)⟩
  | rootMid _ _ =>
    exact ⟨le_rfl, hle, le_rfl, .inl rfl, hm1, hm2, hm1, hm2, .inr (.inr ⟨rfl, rfl⟩)⟩

/-- also for an `init` out of range: the bracket is then returned as given -/
theorem bisect_bracket_nested (ev : K → Except PErr K) (lo init hi tol : K) (itermax : Nat) :
    (lo ≤ hi →
      lo ≤ (bisectCore ev lo init hi tol itermax).lower ∧
      (bisectCore ev lo init hi tol itermax).lower ≤ (bisectCore ev lo init hi tol itermax).upper ∧
      (bisectCore ev lo init hi tol itermax).upper ≤ hi) := by
  intro hle
  by_cases hout : init < lo ∨ hi < init
  · rw [bisectCore_of_out hout]
    exact ⟨le_rfl, hle, le_rfl⟩
  · rw [not_or, not_lt, not_lt] at hout
    obtain ⟨a, b, c, -⟩ := (bisectCore_run ev tol itermax hout).bracket hle
    exact ⟨a, b, c⟩

/-- a returned root lies in the final bracket, hence in the caller's (`lo ≤ x ≤ hi` is also part of
`SV.Props.C06.bisection_sound_ev`) -/
theorem bisect_root_in_final_bracket (ev : K → Except PErr K) (lo init hi tol : K) (itermax : Nat)
    (x : K) (h : (bisectCore ev lo init hi tol itermax).out = .ok x) :
    lo ≤ (bisectCore ev lo init hi tol itermax).lower ∧
    (bisectCore ev lo init hi tol itermax).lower ≤ x ∧
    x ≤ (bisectCore ev lo init hi tol itermax).upper ∧
    (bisectCore ev lo init hi tol itermax).upper ≤ hi ∧ lo ≤ x ∧ x ≤ hi := by
  have hin := bisectCore_ok_in h
  obtain ⟨a, -, c, hok, -⟩ := (bisectCore_run ev tol itermax hin).bracket (hin.1.trans hin.2)
  obtain ⟨hx1, hx2, -⟩ := hok x h
  exact ⟨a, hx1, hx2, c, a.trans hx1, hx2.trans c⟩

/-- Width after `k` passes along any sequence of states linked by `bisectPass` (whatever the `first`
flags), as long as no pass found `g lower · g mid = 0`.  No sign-change or ordering hypothesis. -/
theorem bisect_width_halves_seq (g : K → K) (s : Nat → BState K) (fl : Nat → Bool) (k : Nat)
    (hstep : ∀ j, j < k → bisectPass (evOf g) (fl j) (s j) = .ok (s (j + 1)))
    (hnz : ∀ j, j < k → g (s j).lower * g (((s j).lower + (s j).upper) / 2) ≠ 0) :
    (s k).upper - (s k).lower = ((s 0).upper - (s 0).lower) / 2 ^ k := by
  induction k with
  | zero => simp
  | succ k ih =>
    have ih' := ih (fun j hj => hstep j (Nat.lt_succ_of_lt hj)) (fun j hj => hnz j (Nat.lt_succ_of_lt hj))
    rcases (bisectPass_evOf_ok (hstep k (Nat.lt_succ_self k))).halved_or_root with ⟨-, hw, -⟩ | ⟨h0, -⟩
    · rw [eq_div_of_mul_eq two_ne_zero hw, ih', pow_succ, div_div]
    · exact absurd h0 (hnz k (Nat.lt_succ_self k))

/-- The whole loop from any state: the starting width is halved `h` times, `h` the number of passes
made — unless some pass found `g lower · g mid = 0`; then `h ≤` that number and the lower end or the
midpoint of the final bracket is an exact root of `g`. -/
theorem bisect_width_halves (g : K → K) (tol : K) :
    ∀ (rem k : Nat) (st : BState K),
      ∃ h : Nat, h ≤ (bisectLoop (evOf g) tol rem k st).passes - k ∧
        ((bisectLoop (evOf g) tol rem k st).upper - (bisectLoop (evOf g) tol rem k st).lower) * 2 ^ h
          = st.upper - st.lower ∧
        (h = (bisectLoop (evOf g) tol rem k st).passes - k ∨
          ∃ x, g x = 0 ∧ (x = (bisectLoop (evOf g) tol rem k st).lower ∨
            x = ((bisectLoop (evOf g) tol rem k st).lower + (bisectLoop (evOf g) tol rem k st).upper) / 2)) :=
  fun rem k st => (bisectLoop_run (evOf g) tol rem k st).width

theorem bisect_width_halves_no_root (g : K → K) (lo init hi tol : K) (itermax : Nat)
    (hinit : lo ≤ init ∧ init ≤ hi) (hnz : ∀ x, lo ≤ x → x ≤ hi → g x ≠ 0) :
    (bisectCore (evOf g) lo init hi tol itermax).upper - (bisectCore (evOf g) lo init hi tol itermax).lower
      = (hi - lo) / 2 ^ (bisectCore (evOf g) lo init hi tol itermax).passes := by
  have h := bisectCore_run (evOf g) tol itermax hinit
  obtain ⟨a, b, c, -⟩ := h.bracket (hinit.1.trans hinit.2)
  obtain ⟨n, -, hw, rfl | ⟨x, hx0, rfl | rfl⟩⟩ := h.width
  · exact eq_div_of_mul_eq (pow_ne_zero _ two_ne_zero) hw
  · exact absurd hx0 (hnz _ a (b.trans c))
  · exact absurd hx0 (hnz _ (a.trans (le_mid b)) ((mid_le b).trans c))

/-- Same signs everywhere give the same passes and brackets.  Not the same outcome: the residual gate
after the loop is the one test that looks at a magnitude. -/
theorem bisect_progress_sign_only (g₁ g₂ : K → K)
    (hsign : ∀ x, (g₁ x < 0 ↔ g₂ x < 0) ∧ (0 < g₁ x ↔ 0 < g₂ x)) (tol : K) :
    ∀ (rem k : Nat) (st : BState K),
      (bisectLoop (evOf g₁) tol rem k st).passes = (bisectLoop (evOf g₂) tol rem k st).passes ∧
      (bisectLoop (evOf g₁) tol rem k st).lower = (bisectLoop (evOf g₂) tol rem k st).lower ∧
      (bisectLoop (evOf g₁) tol rem k st).upper = (bisectLoop (evOf g₂) tol rem k st).upper := by
  have hzero : ∀ x, g₁ x = 0 ↔ g₂ x = 0 := fun x => by
    rw [← not_iff_not, ← ne_eq, ← ne_eq, ← lt_or_lt_iff_ne, ← lt_or_lt_iff_ne, (hsign x).1, (hsign x).2]
  refine bisectLoop_congr_bracket (fun first st => ?_) tol
  rw [bisectPass_evOf, bisectPass_evOf]
  exact congrArg Except.ok (passOf_congr (by simp only [mul_neg_iff, (hsign _).1, (hsign _).2])
    (by simp only [mul_pos_iff, (hsign _).1, (hsign _).2]) (hzero _) first st)

/-- extrema mode on `p` is root mode on `derivate_univariate(p)` -/
theorem bisect_mode_uses_derivative (powf : K → K → K) (p q : AnyPoly K) (hq : p.derivUni = .ok q)
    (lo init hi tol : K) (itermax : Nat) :
    bisection powf p lo init hi tol itermax .extrema = bisection powf q lo init hi tol itermax .root :=
  bisection_congr_target powf (show target p .extrema = target q .root from hq) lo init hi tol itermax

/-- no pass is run: the error is the range error (checked first) or the one of `derivate_univariate` -/
theorem bisect_extrema_deriv_error (powf : K → K → K) (p : AnyPoly K) (e : PErr)
    (hq : p.derivUni = .error e) (lo init hi tol : K) (itermax : Nat) :
    (bisection powf p lo init hi tol itermax .extrema).passes = 0 ∧
    ((bisection powf p lo init hi tol itermax .extrema).out = .err .xInitOutOfBounds ∨
     (bisection powf p lo init hi tol itermax .extrema).out = .err (.functionError e)) := by
  rw [bisection_target_error powf (show target p .extrema = .error e from hq)]
  exact ⟨rfl, (ite_eq_or_eq _ _ _).imp (congrArg _) (congrArg _)⟩

theorem bisect_extrema_ignores_constant (powf : K → K → K) (c₁ c₂ : K) (cs : List K) (v : Option Char)
    (lo init hi tol : K) (itermax : Nat) :
    bisection powf (.simple ⟨c₁ :: cs, v⟩) lo init hi tol itermax .extrema =
      bisection powf (.simple ⟨c₂ :: cs, v⟩) lo init hi tol itermax .extrema :=
  bisection_congr_target powf rfl lo init hi tol itermax

/-- dense polynomials: extrema mode runs the core loop on `Polynomial.derivative (ofCoeffs cs)` -/
theorem bisect_extrema_simple (powf : K → K → K) (cs : List K) (v : Option Char)
    (lo init hi tol : K) (itermax : Nat) :
    bisection powf (.simple ⟨cs, v⟩) lo init hi tol itermax .extrema =
      bisection powf (.simple ⟨simpleDeriv cs, v⟩) lo init hi tol itermax .root ∧
    bisection powf (.simple ⟨cs, v⟩) lo init hi tol itermax .extrema =
      bisectCore (evOf fun x => (Polynomial.derivative (ofCoeffs cs)).eval x) lo init hi tol itermax :=
  ⟨bisect_mode_uses_derivative powf _ _ rfl lo init hi tol itermax,
   bisection_simple powf cs v .extrema lo init hi tol itermax⟩

/-- the guesses `0` (an end point) and `1` (the first midpoint) -/
example (tol : ℚ) (n : Nat) :
    bisectCore (evOf fun x : ℚ => x - 1) 0 0 2 tol n = bisectCore (evOf fun x : ℚ => x - 1) 0 1 2 tol n :=
  bisectCore_init_irrelevant _ 0 0 1 2 tol n (by norm_num) (by norm_num)

/-- the hypothesis `hnz` of `bisect_width_halves_no_root` can be met -/
example (tol : ℚ) (n : Nat) :
    (bisectCore (evOf fun x : ℚ => x * x + 1) 0 0 2 tol n).upper -
      (bisectCore (evOf fun x : ℚ => x * x + 1) 0 0 2 tol n).lower
      = (2 - 0) / 2 ^ (bisectCore (evOf fun x : ℚ => x * x + 1) 0 0 2 tol n).passes :=
  bisect_width_halves_no_root _ 0 0 2 tol n (by norm_num) (fun x _ _ => by nlinarith [mul_self_nonneg x])

/-- extrema of `x² − 2x + c` on `[0, 2]`: the root `1` of `2x − 2` for every `c`, also for `c = 0`, where
the polynomial itself vanishes at the lower end -/
example (c : ℚ) :
    (bisection (fun a _ => a) (.simple ⟨[c, -2, 1], some 'x'⟩) 0 0 2 (1 / 1000) 5 .extrema).out = .ok 1 := by
  rw [bisect_extrema_ignores_constant (fun a _ => a) c 0]
  decide +kernel

end SV.Props.C06Bracket
