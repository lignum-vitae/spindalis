import SV.Model.C09
import SV.Lemmas.Mat
import SV.Lemmas.LU
import Mathlib.LinearAlgebra.Matrix.Determinant.Basic
import Mathlib.LinearAlgebra.Matrix.Block
import Mathlib.LinearAlgebra.Matrix.Permutation
import Mathlib.LinearAlgebra.Matrix.ToLinearEquiv
/-!
# C09 — LU and PLU: factors have the advertised shape and multiply back to the input

`K` is any linearly ordered field, so the "to within `n·eps·|L||U|`" clause of the statement is
proved with rounding error 0: the algorithms are the right algorithms on every input of every size.
The same `SV.C09.lu` / `SV.C09.plu` run at `Float` in the driver (with `eps = 2^-52 =
f64::EPSILON`) and are compared bit for bit with `lu_decomposition` / `lu_pivot_decomposition` on
every run of the check.
-/
namespace SV.Props.C09
open SV SV.C09 Finset

variable {K : Type} [Field K] [LinearOrder K] [IsStrictOrderedRing K] [Inhabited K]

def Square (n : Nat) (M : Mat K) : Prop := M.h = n ∧ M.w = n ∧ M.WF

def UnitLower (n : Nat) (L : Mat K) : Prop :=
  (∀ i, i < n → L.get i i = 1) ∧ ∀ i j, i < n → j < n → i < j → L.get i j = 0

def Upper (n : Nat) (U : Mat K) : Prop := ∀ i j, i < n → j < n → j < i → U.get i j = 0

/-- `P` is the permutation matrix of `σ`: row `i` is the unit vector `e_{σ i}`, so that row `i` of
`P A` is row `σ i` of `A` -/
def IsPermMatrix (n : Nat) (P : Mat K) (σ : Equiv.Perm (Fin n)) : Prop :=
  ∀ i j : Fin n, P.get i j = if j = σ i then 1 else 0

/-- **Plain LU.**  Whenever `lu` returns `(L, U)`: the input was square, both factors are `n × n`,
`L` is unit lower triangular, `U` upper triangular, `L U = A` entry by entry, and every divisor the
run used — `U i i` for the passes `i` with a row below them, `i + 1 < n` — has size at least
`eps`, in particular is not zero (`lu_divisors_ne_zero`). -/
theorem lu_correct {eps : K} (heps : 0 < eps) {A L U : Mat K} (h : lu eps A = .ok (L, U)) :
    A.h = A.w ∧ Square A.h L ∧ Square A.h U ∧ UnitLower A.h L ∧ Upper A.h U ∧
    (∀ i j, i < A.h → j < A.h → ∑ k ∈ range A.h, L.get i k * U.get k j = A.get i j) ∧
    (∀ i, i + 1 < A.h → eps ≤ |U.get i i|) := by
  obtain ⟨hsq, inv⟩ := lu_ok heps h
  exact ⟨hsq, inv.dims.1, inv.dims.2,
    ⟨fun i hi => inv.Ld i hi hi, fun i j hi hj hij => inv.Lz i j hi hj (Or.inr hij)⟩,
    fun i j hi hj hji => inv.Uz i j hi hj (Or.inr hji),
    fun i j hi hj => inv.prod hi hj (Or.inl hi),
    fun i hi => inv.piv i hi (by omega)⟩

theorem lu_divisors_ne_zero {eps : K} (heps : 0 < eps) {A L U : Mat K}
    (h : lu eps A = .ok (L, U)) : ∀ i, i + 1 < A.h → U.get i i ≠ 0 :=
  fun i hi => ne_zero_of_eps heps ((lu_correct heps h).2.2.2.2.2.2 i hi)

/-- `lu_correct` through Mathlib's `Matrix`. -/
theorem lu_toMatrix {eps : K} (heps : 0 < eps) {A L U : Mat K} (h : lu eps A = .ok (L, U)) :
    L.toMatrix A.h A.h * U.toMatrix A.h A.h = A.toMatrix A.h A.h := by
  funext i j
  simp only [Mat.toMatrix, Matrix.mul_apply]
  rw [← (lu_correct heps h).2.2.2.2.2.1 i.val j.val i.isLt j.isLt, Finset.sum_range]

omit [IsStrictOrderedRing K] in
theorem lu_nonsquare (eps : K) (A : Mat K) (h : A.h ≠ A.w) : lu eps A = .err .nonSquare :=
  lu_of_nonsquare eps h

omit [IsStrictOrderedRing K] in
/-- a square input is either factored or refused as singular.  `lu` and `plu` have no `panic` branch
at all, so this (and `lu_never_panics`) is read off the shape of the model; that every index the Rust
loops read lies inside the `n × n` arrays is seen from the model (`Mat.tab` calls its closure at
`r, c < n` only, the sums run over `j < i ≤ n`), it is not what is proved here -/
theorem lu_square_outcome (eps : K) (A : Mat K) (h : A.h = A.w) :
    lu eps A = .err .singular ∨ ∃ L U, lu eps A = .ok (L, U) := by
  rw [lu_of_square eps h]
  cases iter (luStep eps A.h A) A.h 0
    (Mat.tab A.h A.h fun _ _ => (0:K), Mat.tab A.h A.h fun _ _ => (0:K)) with
  | none => left; rfl
  | some st => right; exact ⟨st.1, st.2, rfl⟩

set_option linter.unusedSectionVars false in
theorem lu_never_panics (eps : K) (A : Mat K) : lu eps A ≠ .panic :=
  lu_ne_panic eps A

/-- **PLU.**  Whenever `plu` returns `(L, U, P)`: the input was square, the three results are
`n × n`, `P` is the permutation matrix of some permutation `σ`, `L` is unit lower triangular, `U`
upper triangular, `L U = P A` entry by entry (row `i` of `P A` is row `σ i` of `A`), every
multiplier satisfies `|l_ij| ≤ 1`, and every pivot `|u_ii| ≥ eps`. -/
theorem plu_correct {eps : K} (heps : 0 < eps) {A L U P : Mat K}
    (h : plu eps A = .ok (L, U, P)) :
    A.h = A.w ∧ Square A.h L ∧ Square A.h U ∧ Square A.h P ∧
    ∃ σ : Equiv.Perm (Fin A.h), IsPermMatrix A.h P σ ∧ UnitLower A.h L ∧ Upper A.h U ∧
      (∀ i j : Fin A.h, ∑ k ∈ range A.h, L.get i k * U.get k j = A.get (σ i) j) ∧
      (∀ i j, i < A.h → j < i → |L.get i j| ≤ 1) ∧
      (∀ i, i < A.h → eps ≤ |U.get i i|) := by
  obtain ⟨hsq, lu, σ, inv, rfl, rfl⟩ := plu_ok heps h
  refine ⟨hsq, ⟨rfl, rfl, Mat.tab_WF _ _ _⟩, ⟨rfl, rfl, Mat.tab_WF _ _ _⟩,
    ⟨inv.ph, inv.pw, inv.pwf⟩, permFin σ A.h inv.fix, ?_, ⟨?_, ?_⟩, ?_, ?_, ?_, ?_⟩
  · intro i j
    rw [inv.perm i j i.isLt j.isLt]
    exact if_congr (by rw [Fin.ext_iff, permFin_val]) rfl rfl
  · intro i hi
    rw [splitL_get _ _ hi hi, if_pos rfl]
  · intro i j hi hj hij
    rw [splitL_get _ _ hi hj, if_neg (by omega), if_neg (by omega)]
  · intro i j hi hj hji
    rw [splitU_get _ _ hi hj, if_neg (by omega)]
  · intro i j
    rw [split_prod inv i.isLt j.isLt]
    rfl
  · intro i j hi hji
    rw [splitL_get _ _ hi (by omega), if_neg (by omega), if_pos hji]
    exact inv.mult i j hi (by omega)
  · intro i hi
    rw [splitU_get _ _ hi hi, if_pos (le_refl i)]
    exact inv.piv i hi

/-- `plu_correct` through Mathlib's `Matrix`: `P` denotes `σ.permMatrix`, and `L U = P A`. -/
theorem plu_toMatrix {eps : K} (heps : 0 < eps) {A L U P : Mat K}
    (h : plu eps A = .ok (L, U, P)) :
    ∃ σ : Equiv.Perm (Fin A.h), P.toMatrix A.h A.h = σ.permMatrix K ∧
      L.toMatrix A.h A.h * U.toMatrix A.h A.h = P.toMatrix A.h A.h * A.toMatrix A.h A.h ∧
      L.toMatrix A.h A.h * U.toMatrix A.h A.h = (A.toMatrix A.h A.h).submatrix σ id := by
  obtain ⟨_, _, _, _, σ, hP, _, _, hprod, _, _⟩ := plu_correct heps h
  have e1 : P.toMatrix A.h A.h = σ.permMatrix K := by
    funext i j
    simp only [Mat.toMatrix, Equiv.Perm.permMatrix, PEquiv.toMatrix_apply, Equiv.toPEquiv_apply,
      Option.mem_def, Option.some.injEq]
    rw [hP i j]
    exact if_congr eq_comm rfl rfl
  have e3 : L.toMatrix A.h A.h * U.toMatrix A.h A.h = (A.toMatrix A.h A.h).submatrix σ id := by
    funext i j
    simp only [Mat.toMatrix, Matrix.mul_apply, Matrix.submatrix_apply, id_eq]
    rw [← hprod i j, Finset.sum_range]
  refine ⟨σ, e1, ?_, e3⟩
  rw [e1, e3, Equiv.Perm.permMatrix, PEquiv.toMatrix_toPEquiv_mul]

omit [IsStrictOrderedRing K] in
theorem plu_nonsquare (eps : K) (A : Mat K) (h : A.h ≠ A.w) : plu eps A = .err .nonSquare :=
  plu_of_nonsquare eps h

set_option linter.unusedSectionVars false in
theorem plu_square_outcome (eps : K) (A : Mat K) (h : A.h = A.w) :
    plu eps A = .err .singular ∨ ∃ L U P, plu eps A = .ok (L, U, P) := by
  rw [plu_of_square eps h]
  cases iter (pluStep eps A.h) A.h 0 (A, Mat.ident A.h) with
  | none => left; rfl
  | some st => right; exact ⟨_, _, _, rfl⟩

set_option linter.unusedSectionVars false in
theorem plu_never_panics (eps : K) (A : Mat K) : plu eps A ≠ .panic :=
  plu_ne_panic eps A

/-- success determines the determinant: `sign σ · det A = ∏ u_ii`, and that product is not zero -/
theorem plu_det {eps : K} (heps : 0 < eps) {A L U P : Mat K} (h : plu eps A = .ok (L, U, P)) :
    ∃ σ : Equiv.Perm (Fin A.h),
      ((Equiv.Perm.sign σ : ℤ) : K) * (A.toMatrix A.h A.h).det = ∏ i : Fin A.h, U.get i i ∧
      ∏ i : Fin A.h, U.get i i ≠ 0 := by
  obtain ⟨_, lu, σ, inv, _, rfl⟩ := plu_ok heps h
  have hU : ∀ i : Fin A.h, (splitU A.h lu).get i i = lu.get i i := fun i => by
    rw [splitU_get _ _ i.isLt i.isLt, if_pos le_rfl]
  refine ⟨permFin σ A.h inv.fix, ?_, ?_⟩
  · rw [inv.det]
    exact Finset.prod_congr rfl fun i _ => (hU i).symm
  · rw [Finset.prod_ne_zero_iff]
    intro i _
    rw [hU i]
    exact ne_zero_of_eps heps (inv.piv i i.isLt)

theorem plu_ok_det_ne_zero {eps : K} (heps : 0 < eps) {A L U P : Mat K}
    (h : plu eps A = .ok (L, U, P)) : (A.toMatrix A.h A.h).det ≠ 0 := by
  obtain ⟨σ, h1, h2⟩ := plu_det heps h
  intro h0
  rw [h0, mul_zero] at h1
  exact h2 h1.symm

/-- **A singular matrix is never factored**: a square matrix with zero determinant yields
`SingularMatrix`, for every positive threshold. -/
theorem plu_refuses_singular {eps : K} (heps : 0 < eps) (A : Mat K) (hsq : A.h = A.w)
    (hdet : (A.toMatrix A.h A.h).det = 0) : plu eps A = .err .singular := by
  rcases plu_square_outcome eps A hsq with h | ⟨L, U, P, h⟩
  · exact h
  · exact absurd hdet (plu_ok_det_ne_zero heps h)

/-- the kernel form: a non-zero vector annihilated by `A` -/
theorem plu_refuses_kernel {eps : K} (heps : 0 < eps) (A : Mat K) (hsq : A.h = A.w)
    (x : Fin A.h → K) (hx : x ≠ 0) (hker : (A.toMatrix A.h A.h).mulVec x = 0) :
    plu eps A = .err .singular := by
  apply plu_refuses_singular heps A hsq
  exact Matrix.exists_mulVec_eq_zero_iff.1 ⟨x, hx, hker⟩

theorem plu_refuses_zero_row {eps : K} (heps : 0 < eps) (A : Mat K) (hsq : A.h = A.w)
    (r : Nat) (hr : r < A.h) (hz : ∀ j, j < A.h → A.get r j = 0) : plu eps A = .err .singular := by
  apply plu_refuses_singular heps A hsq
  exact Matrix.det_eq_zero_of_row_eq_zero ⟨r, hr⟩ (fun j => hz j.val j.isLt)

theorem plu_refuses_zero_column {eps : K} (heps : 0 < eps) (A : Mat K) (hsq : A.h = A.w)
    (c : Nat) (hc : c < A.h) (hz : ∀ i, i < A.h → A.get i c = 0) : plu eps A = .err .singular := by
  apply plu_refuses_singular heps A hsq
  exact Matrix.det_eq_zero_of_column_eq_zero ⟨c, hc⟩ (fun i => hz i.val i.isLt)

theorem plu_refuses_repeated_row {eps : K} (heps : 0 < eps) (A : Mat K) (hsq : A.h = A.w)
    (r s : Nat) (hr : r < A.h) (hs : s < A.h) (hne : r ≠ s)
    (heq : ∀ j, j < A.h → A.get r j = A.get s j) : plu eps A = .err .singular := by
  apply plu_refuses_singular heps A hsq
  apply Matrix.det_zero_of_row_eq (i := ⟨r, hr⟩) (j := ⟨s, hs⟩)
  · intro h; exact hne (Fin.mk.inj_iff.1 h)
  · funext j; exact heq j.val j.isLt

/-- **Plain LU refuses a vanishing leading minor**: if a leading principal minor of order
`k < n` (`k ≥ 1` is implied: the empty determinant is 1) is zero, the result is `SingularMatrix`.
(For `k = n` the matrix is singular but *can* be factored with `u_nn = 0`; the code then
succeeds, and `lu_correct` applies.) -/
theorem lu_refuses_vanishing_minor {eps : K} (heps : 0 < eps) (A : Mat K) (hsq : A.h = A.w)
    (k : Nat) (hk : k < A.h) (hminor : (A.toMatrix k k).det = 0) : lu eps A = .err .singular := by
  rcases lu_square_outcome eps A hsq with h | ⟨L, U, h⟩
  · exact h
  · exfalso
    obtain ⟨_, inv⟩ := lu_ok heps h
    rw [inv.det_leading (le_of_lt hk) (by omega) (le_of_lt hk), Finset.prod_eq_zero_iff] at hminor
    obtain ⟨i, _, h0⟩ := hminor
    exact ne_zero_of_eps heps (inv.piv i (by omega) (by omega)) h0

/-- the threshold only decides between success and refusal: a factorisation obtained with one
threshold is obtained, unchanged, with every smaller one -/
theorem plu_threshold_mono {eps eps' : K} (hle : eps' ≤ eps) {A L U P : Mat K}
    (h : plu eps A = .ok (L, U, P)) : plu eps' A = .ok (L, U, P) := by
  obtain ⟨hsq, st, hit, hst⟩ := plu_eq_ok_iff.1 h
  exact plu_eq_ok_iff.2 ⟨hsq, st, iter_mono (pluStep_mono hle) _ _ _ _ hit, hst⟩

/-- **A regular matrix is always factored**, provided the threshold is small enough for its
pivots: if `det A ≠ 0` there is a positive `eps0` and one triple `(L, U, P)` that `plu` returns for
every threshold `0 < eps ≤ eps0` (partial pivoting in exact arithmetic meets a zero pivot column
only on a singular matrix).  With `plu_refuses_singular`: below `eps0`, `plu` succeeds iff
`det A ≠ 0`. -/
theorem plu_accepts_regular (A : Mat K) (hsq : A.h = A.w)
    (hdet : (A.toMatrix A.h A.h).det ≠ 0) :
    ∃ eps0 : K, 0 < eps0 ∧ ∃ L U P, ∀ eps, 0 < eps → eps ≤ eps0 →
      plu eps A = .ok (L, U, P) := by
  obtain ⟨e, he, s, hs⟩ := plu_iter_regular rfl hsq.symm hdet A.h le_rfl
  exact ⟨e, he, _, _, _, fun eps h0 hle => plu_eq_ok_iff.2 ⟨hsq, s, hs eps h0 hle, rfl, rfl, rfl⟩⟩

theorem lu_threshold_mono {eps eps' : K} (hle : eps' ≤ eps) {A L U : Mat K}
    (h : lu eps A = .ok (L, U)) : lu eps' A = .ok (L, U) := by
  obtain ⟨hsq, hit⟩ := lu_eq_ok_iff.1 h
  exact lu_eq_ok_iff.2 ⟨hsq, iter_mono (luStep_mono hle) _ _ _ _ hit⟩

/-- **Plain LU factors every matrix whose leading minors of order `1 … n-1` are non-zero**, for
every threshold below some positive `eps0` (the converse of `lu_refuses_vanishing_minor`: below
`eps0`, `lu` succeeds iff no leading minor of order `< n` vanishes). -/
theorem lu_accepts (A : Mat K) (hsq : A.h = A.w)
    (hmin : ∀ k, 1 ≤ k → k < A.h → (A.toMatrix k k).det ≠ 0) :
    ∃ eps0 : K, 0 < eps0 ∧ ∃ L U, ∀ eps, 0 < eps → eps ≤ eps0 → lu eps A = .ok (L, U) := by
  obtain ⟨e, he, s, hs⟩ := lu_iter_regular hmin A.h le_rfl
  exact ⟨e, he, s.1, s.2, fun eps h0 hle => lu_eq_ok_iff.2 ⟨hsq, hs eps h0 hle⟩⟩

/-! ### non-vacuity: the hypotheses above are met by concrete runs over `ℚ`

(`decide +kernel` evaluates the model inside the kernel; no axiom is involved.) -/

section examples

/-- `f64::EPSILON` -/
def epsQ : ℚ := 1 / 4503599627370496

/-- the matrices of `plu::tests::test_known_solution` and `lu::tests::test_known_solution` -/
def Aplu : Mat ℚ := ⟨3, 3, #[0, 1, -2, 1, 0, 2, 3, -2, 2]⟩
def Alu : Mat ℚ := ⟨3, 3, #[2, -1, -2, -4, 6, 3, -4, -2, 8]⟩

def arraysLU : Outcome DecompErr (Mat ℚ × Mat ℚ) → Option (Array ℚ × Array ℚ)
  | .ok (l, u) => some (l.a, u.a)
  | _ => none
def arraysPLU : Outcome DecompErr (Mat ℚ × Mat ℚ × Mat ℚ) → Option (Array ℚ × Array ℚ × Array ℚ)
  | .ok (l, u, p) => some (l.a, u.a, p.a)
  | _ => none

/-- the model reproduces the expected factors of the library's own tests, exactly -/
example : arraysPLU (plu epsQ Aplu) =
    some (#[1, 0, 0, 0, 1, 0, 1/3, 2/3, 1], #[3, -2, 2, 0, 1, -2, 0, 0, 8/3],
          #[0, 0, 1, 1, 0, 0, 0, 1, 0]) := by decide +kernel
example : arraysLU (lu epsQ Alu) =
    some (#[1, 0, 0, -2, 1, 0, -2, -1, 1], #[2, -1, -2, 0, 4, -1, 0, 0, 3]) := by decide +kernel

/-- so the hypothesis of `plu_correct` / `lu_correct` is satisfiable … -/
theorem plu_ok_example : ∃ L U P, plu epsQ Aplu = .ok (L, U, P) := by
  have h : (arraysPLU (plu epsQ Aplu)).isSome = true := by decide +kernel
  cases hp : plu epsQ Aplu with
  | ok v => exact ⟨v.1, v.2.1, v.2.2, rfl⟩
  | err e => rw [hp] at h; simp [arraysPLU] at h
  | panic => rw [hp] at h; simp [arraysPLU] at h
theorem lu_ok_example : ∃ L U, lu epsQ Alu = .ok (L, U) := by
  have h : (arraysLU (lu epsQ Alu)).isSome = true := by decide +kernel
  cases hp : lu epsQ Alu with
  | ok v => exact ⟨v.1, v.2, rfl⟩
  | err e => rw [hp] at h; simp [arraysLU] at h
  | panic => rw [hp] at h; simp [arraysLU] at h

/-- … as are those of `plu_accepts_regular` and `lu_accepts` (the determinant / the leading minors
of the test matrices are not zero) … -/
example : (Aplu.toMatrix Aplu.h Aplu.h).det ≠ 0 := by
  obtain ⟨L, U, P, h⟩ := plu_ok_example
  exact plu_ok_det_ne_zero (by norm_num [epsQ]) h
example : ∀ k, 1 ≤ k → k < Alu.h → (Alu.toMatrix k k).det ≠ 0 := by
  obtain ⟨L, U, h⟩ := lu_ok_example
  intro k _ hk h0
  have := lu_refuses_vanishing_minor (eps := epsQ) (by norm_num [epsQ]) Alu rfl k hk h0
  rw [h] at this
  simp at this

/-- … and the error branches are reached: the exchange matrix has a vanishing first minor (the
input of defect D16: infinities before the repair), a repeated row is singular, 2×3 is not square -/
example : lu epsQ ⟨2, 2, #[0, 1, 1, 0]⟩ = .err .singular := by
  apply lu_refuses_vanishing_minor (by norm_num [epsQ]) _ rfl 1 (by decide)
  simp [Mat.toMatrix, Mat.get]
example : arraysPLU (plu epsQ ⟨2, 2, #[0, 1, 1, 0]⟩) = some (#[1, 0, 0, 1], #[1, 0, 0, 1], #[0, 1, 1, 0]) := by
  decide +kernel
example : plu epsQ ⟨3, 3, #[1, 2, -1, 2, 0, 1, 1, 2, -1]⟩ = .err .singular :=
  plu_refuses_repeated_row (by norm_num [epsQ]) _ rfl 0 2 (by decide) (by decide) (by decide)
    (by decide +kernel)
example : plu epsQ ⟨2, 3, #[1, 2, 3, 4, 5, 6]⟩ = .err .nonSquare := plu_nonsquare _ _ (by decide)
example : lu epsQ ⟨2, 3, #[1, 2, 3, 4, 5, 6]⟩ = .err .nonSquare := lu_nonsquare _ _ (by decide)

end examples

end SV.Props.C09
