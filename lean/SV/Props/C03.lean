import SV.Model.C03
import SV.Lemmas.C03
import Mathlib.Analysis.Calculus.Deriv.Polynomial
/-!
# C03 — symbolic derivatives are the derivative, and stay usable polynomials

Property theorems only (helpers: `SV.Lemmas.Poly`, `SV.Lemmas.C03`).  They speak about the shared model
`SV.Model.Poly` — `simpleDeriv` (`simple_derivative`), `partialDeriv` (`partial_derivative`), `derivUni` /
`integUni` / `evalUni` (the `PolynomialTraits` wrappers of `IntermediatePolynomial`), `evalTerms`
(`eval_intermediate_polynomial`) — the same definitions the driver runs at `Float` and the check
compares with the Rust code on every run.  Analysis is over `ℝ` with `powf := Real.rpow`.

Reading guide: DESIGN.md §6 "C03".  Well-formedness (`SV.C03.TermsWF`, `Usable`, `WF`) is defined in
`SV.Model.C03`; that the parser produces `WF` values is C02's `parse_canonical` and is re-checked on
every parsed polynomial by this property's search.
-/
namespace SV.Props.C03
open SV SV.Poly SV.C03 Polynomial

/-- `simple_derivative` is the formal derivative of the polynomial the coefficients denote
(any field, every length — `[]` and constants included). -/
theorem simple_deriv_correct {K : Type} [Field K] (cs : List K) :
    ofCoeffs (simpleDeriv cs) = derivative (ofCoeffs cs) :=
  ofCoeffs_simpleDeriv cs

/-- … hence evaluating the returned coefficients (with the code's own left-to-right `powi` fold)
gives the derivative of the function the input evaluates to, at every real point. -/
theorem simple_deriv_hasDerivAt (cs : List ℝ) (x : ℝ) :
    HasDerivAt (fun t => evalSimple cs t) (evalSimple (simpleDeriv cs) x) x := by
  rw [funext (evalSimple_eq cs), evalSimple_eq, ofCoeffs_simpleDeriv]
  exact (ofCoeffs cs).hasDerivAt x

/-- the univariate trait entry point of the dense type never fails and is `simple_derivative` -/
theorem simple_derivUni_ok {K : Type} [Field K] [LinearOrder K] (p : SPoly K) :
    (AnyPoly.simple p).derivUni = .ok (.simple ⟨simpleDeriv p.coeffs, p.var⟩) := rfl

/-- Domain of the derivative statement at the point `x` for the variable `v`: every power `p` that
`v` carries is differentiated either away from `0` or with `p ≥ 1`.

This contains the property's domain "positive values when an exponent is non-integer, non-zero when
negative" (`derivDomain_of_property_domain`) except for the single combination `x = 0`, `p = 0`: there
the code returns the term `0·v^(-1)`, which is `0·∞ = NaN` in IEEE arithmetic (DESIGN.md §5, judged
outside the natural domain of the result), while `Real.rpow 0 (-1) = 0` would make the statement
true for a reason that is not the code's — so it is left out rather than proved from a junk value.
For `x < 0` and a non-integer power `Real.rpow` is a total convention that IEEE `powf` does not share
(NaN); the theorem is still true there but says nothing about the `Float` instance. -/
def DerivDomain (ts : List (Term ℝ)) (v : String) (x : ℝ) : Prop :=
  ∀ t ∈ ts, ∀ p, (v, p) ∈ t.vars → x ≠ 0 ∨ 1 ≤ p

/-- "The domain" of the property statement ("positive values when an exponent is non-integer,
non-zero when negative"), read for the point `x` and each power `p` of `v`: `x > 0`, or `p` an integer
and `x ≠ 0`, or `p` a natural number `≥ 1` (then every `x`). -/
def PropertyDomain (ts : List (Term ℝ)) (v : String) (x : ℝ) : Prop :=
  ∀ t ∈ ts, ∀ p, (v, p) ∈ t.vars →
    0 < x ∨ ((∃ n : ℤ, p = n) ∧ x ≠ 0) ∨ (∃ n : ℕ, p = n ∧ 1 ≤ n)

theorem derivDomain_of_property_domain {ts : List (Term ℝ)} {v : String} {x : ℝ}
    (h : PropertyDomain ts v x) : DerivDomain ts v x := by
  intro t ht p hp
  rcases h t ht p hp with h | ⟨_, h⟩ | ⟨n, rfl, hn⟩
  · exact Or.inl (ne_of_gt h)
  · exact Or.inl h
  · exact Or.inr (by exact_mod_cast hn)

/-- **Power rule on one term** (`NodupVars` term, any real exponents: zero, negative, fractional).
For the variable list `vs` of a term and the differentiation variable `v`:

* `v` absent ⇒ the term is dropped (`derivVars = none`), and its value does not depend on `v`;
* `v` present with power `p` ⇒ the multiplier is `p`, the other variables are untouched, `v` is
  *removed* when `p - 1 = 0` and carries `p - 1` otherwise (never a literal `v^0`), and the value
  function of the term has derivative `c·p·(value of the new variable list)` at `x`. -/
theorem inter_deriv_term (vs : List (String × ℝ)) (hnd : strictSorted (names vs) = true)
    (v : String) (c : ℝ) (σ : String → ℝ) (x : ℝ) :
    (v ∉ names vs → derivVars v vs = none ∧
        ∀ t, c * varsVal Real.rpow (Function.update σ v t) vs = c * varsVal Real.rpow σ vs) ∧
    (∀ p, (v, p) ∈ vs → ∃ vs', derivVars v vs = some (p, vs') ∧
        (p - 1 = 0 → v ∉ names vs') ∧
        (p - 1 ≠ 0 → (v, p - 1) ∈ vs' ∧ ∀ q, (v, q) ∈ vs' → q = p - 1) ∧
        (∀ w q, w ≠ v → ((w, q) ∈ vs' ↔ (w, q) ∈ vs)) ∧
        ((x ≠ 0 ∨ 1 ≤ p) →
          HasDerivAt (fun t => c * varsVal Real.rpow (Function.update σ v t) vs)
            ((c * p) * varsVal Real.rpow (Function.update σ v x) vs') x)) := by
  refine ⟨fun hv => ⟨derivVars_none hv, fun t => by rw [varsVal_update_of_not_mem _ _ _ _ hv]⟩, ?_⟩
  intro p hp
  obtain ⟨pre, post, rfl, hpre, hpost⟩ := exists_split (strictSorted_nodup hnd) hp
  refine ⟨_, derivVars_append p hpre, fun h0 => ?_, fun h0 => ?_, fun w q hw => ?_, fun hdom => ?_⟩
  · rw [if_pos ((isZero_iff _).2 h0), names_append]
    exact fun h => (List.mem_append.1 h).elim hpre hpost
  · rw [if_neg (fun h => h0 ((isZero_iff _).1 h))]
    exact ⟨(mem_split_self hpre hpost).2 rfl, fun q => (mem_split_self hpre hpost).1⟩
  · rw [mem_split_other hw]
    split
    · rfl
    · exact mem_split_other hw
  · exact ((hasDerivAt_varsVal σ v x p hpre hpost (hdom.imp_right Or.inl)).const_mul c).congr_deriv
      (mul_assoc c p _).symm

/-- **`partial_derivative` / `derivate_multivariate` is the partial derivative.**  For a polynomial
whose terms are well-formed, any variable name `v` (present, absent, multi-letter), bindings `bs` of
the other variables and every point `x` of the domain: evaluating the source with `v ↦ t` (through the
model of `eval_intermediate_polynomial`, where the last binding of a name wins) succeeds for every `t`,
evaluating the returned polynomial at `v ↦ x` succeeds, and the latter is the derivative of the former
at `x`. -/
theorem inter_deriv_correct (p : IPoly ℝ) (hwf : TermsWF p.terms) (v : String)
    (bs : List (String × ℝ)) (hb : ∀ w ∈ termNames p.terms, w ≠ v → (lookup bs w).isSome)
    (x : ℝ) (hdom : DerivDomain p.terms v x) :
    ∃ (f : ℝ → ℝ) (d : ℝ),
      (∀ t, evalTerms Real.rpow p.terms (bs ++ [(v, t)]) = .ok (f t)) ∧
      evalTerms Real.rpow (partialDeriv p.terms v).terms (bs ++ [(v, x)]) = .ok d ∧
      HasDerivAt f d x :=
  ⟨_, _, evalTerms_update Real.rpow p.terms bs v hb,
    evalTerms_update Real.rpow _ bs v (fun w hw => hb w (partialDeriv_names p.terms v w hw)) x,
    hasDerivAt_partialDeriv (valuation bs) v x p.terms hwf
      (fun t ht q hq => (hdom t ht q hq).imp_right Or.inl)⟩

/-- terms that do not contain the variable vanish: the derivative has exactly one term per source
term containing `v`, in the same order -/
theorem deriv_term_count {K : Type} [Field K] [LinearOrder K] (ts : List (Term K)) (v : String) :
    (partialDeriv ts v).terms.length = (ts.filter fun t => decide (v ∈ names t.vars)).length := by
  rw [partialDeriv, List.length_map, derivTerms_eq_map_filter, List.length_map]

theorem wf_usable {S : Type} {p : IPoly S} (h : WF p) : Usable p := h.1

/-- **By-name entry points are closed.**  `derivate_multivariate` of a polynomial with well-formed
terms is a well-formed polynomial (sorted `NodupVars` terms; variable list sorted, duplicate-free,
exactly the names still in use), it introduces no variable, and every binding list that evaluates
the source evaluates the result. -/
theorem deriv_closed {K : Type} [Field K] [LinearOrder K] (powf : K → K → K)
    (p : IPoly K) (h : Usable p) (v : String) :
    WF (partialDeriv p.terms v) ∧
    (∀ w ∈ (partialDeriv p.terms v).variables, w ∈ p.variables) ∧
    (∀ bs : List (String × K), (∀ w ∈ p.variables, (lookup bs w).isSome) →
      (∃ y, evalTerms powf p.terms bs = .ok y) ∧
      (∃ y, evalTerms powf (partialDeriv p.terms v).terms bs = .ok y)) := by
  have hwf := partialDeriv_wf p.terms v h.1
  refine ⟨hwf, ?_, ?_⟩
  · intro w hw
    exact h.2.2 w (partialDeriv_names p.terms v w (hwf.2 w hw))
  · intro bs hbs
    refine ⟨⟨_, evalTerms_eq powf p.terms bs (fun w hw => hbs w (h.2.2 w hw))⟩,
      ⟨_, evalTerms_eq powf _ bs (fun w hw => hbs w (h.2.2 w (partialDeriv_names p.terms v w hw)))⟩⟩

/-- the invariant of the univariate interface: usable, at most one variable (none included) -/
def UniOK {S : Type} (p : IPoly S) : Prop := Usable p ∧ p.variables.length ≤ 1

/-- **Univariate entry points are closed** on every usable polynomial with at most one variable —
*including none*: `eval_univariate` returns a number at every point, `derivate_univariate` and
`indefinite_integral_univariate` return `Ok`, and what they return satisfies the same invariant
again (the derivative keeps the source's variable list, so it is `Usable` but in general not `WF`:
`x ↦ 1` still lists `x`; the integral is `WF`).  The model's result type has no panic outcome; that
the code has none either is what the correspondence run checks (constants were a panic before D8). -/
theorem uni_closed {K : Type} [Field K] [LinearOrder K] (powf : K → K → K)
    (p : IPoly K) (h : UniOK p) :
    (∀ x, ∃ y, evalUni powf p x = .ok y) ∧
    (∃ q, derivUni p = .ok q ∧ UniOK q) ∧
    (∃ q, integUni p = .ok q ∧ WF q ∧ UniOK q) := by
  obtain ⟨hu, h1⟩ := h
  exact ⟨fun x => ⟨_, evalUni_eq powf p hu h1 _ (eq_uniVar hu h1) x⟩,
    ⟨_, derivUni_eq p h1, partialDeriv_usable hu _, h1⟩, integUni_ok hu h1⟩

/-- a sequence of univariate operations: `true` = `derivate_univariate`,
`false` = `indefinite_integral_univariate` -/
def uniSteps {K : Type} [Field K] [LinearOrder K] : List Bool → IPoly K → Except PErr (IPoly K)
  | [], p => .ok p
  | b :: r, p =>
    match (if b then derivUni p else integUni p) with
    | .ok q => uniSteps r q
    | .error e => .error e

/-- **Chains of any length**: starting from a parsed polynomial with at most one variable, every
sequence of derivatives and integrals through the univariate interface succeeds and its result can
be evaluated at every point. -/
theorem uni_chain_ok {K : Type} [Field K] [LinearOrder K] (powf : K → K → K)
    (steps : List Bool) (p : IPoly K) (h : UniOK p) :
    ∃ q, uniSteps steps p = .ok q ∧ UniOK q ∧ ∀ x, ∃ y, evalUni powf q x = .ok y := by
  induction steps generalizing p with
  | nil => exact ⟨p, rfl, h, (uni_closed powf p h).1⟩
  | cons b r ih =>
    obtain ⟨_, ⟨q, hq, hqok⟩, ⟨q', hq', _, hq'ok⟩⟩ := uni_closed powf p h
    cases b with
    | true => rw [uniSteps, if_pos rfl, hq]; exact ih q hqok
    | false => rw [uniSteps, if_neg Bool.false_ne_true, hq']; exact ih q' hq'ok

/-- **`derivate_univariate` is the derivative** of the function `eval_univariate` computes, for every
usable polynomial with at most one variable (constants: the derivative is the zero polynomial). -/
theorem deriv_uni_correct (p : IPoly ℝ) (h : UniOK p) (x : ℝ)
    (hdom : ∀ v ∈ p.variables, DerivDomain p.terms v x) :
    ∃ (q : IPoly ℝ) (f : ℝ → ℝ) (d : ℝ), derivUni p = .ok q ∧
      (∀ t, evalUni Real.rpow p t = .ok (f t)) ∧ evalUni Real.rpow q x = .ok d ∧
      HasDerivAt f d x := by
  obtain ⟨hu, h1⟩ := h
  have hv := eq_uniVar hu h1
  refine ⟨_, _, _, derivUni_eq p h1, evalUni_eq Real.rpow p hu h1 _ hv,
    evalUni_eq Real.rpow _ (partialDeriv_usable hu _) h1 _
      (fun w hw => hv w (partialDeriv_names _ _ w hw)) x,
    hasDerivAt_partialDeriv _ _ x p.terms hu.1 (fun t ht q hq => ?_)⟩
  -- a variable that occurs in a term is listed, so `hdom` speaks about it
  have hmem := hu.2.2 _ (mem_termNames.2 ⟨t, ht, mem_names.2 ⟨q, hq⟩⟩)
  exact (hdom _ hmem t ht q hq).imp_right Or.inl

/-- `"x^3 + x^2"` as `IntermediatePolynomial::parse` returns it -/
def cubic : IPoly ℚ := ⟨[⟨1, [("x", 3)]⟩, ⟨1, [("x", 2)]⟩], ["x"]⟩

example : WF cubic := by decide
example : UniOK cubic := ⟨by decide, by decide⟩

/-- differentiated twice through the univariate entry point: `6x + 2`, still listing `x`
(before D9 the first derivative listed `["x","x"]` and the second call failed) -/
example : ∃ q1 q2, derivUni cubic = .ok q1 ∧ derivUni q1 = .ok q2 ∧
    q2.terms.map (fun t => (t.coef, t.vars)) = [(6, [("x", 1)]), (2, [])] ∧
    q2.variables = ["x"] := by
  refine ⟨_, _, rfl, rfl, ?_, rfl⟩
  decide +kernel

/-- … and by name: `∂/∂x` twice, the variable list is rebuilt each time -/
example : (partialDeriv (partialDeriv cubic.terms "x").terms "x").variables = ["x"] ∧
    (partialDeriv (partialDeriv (partialDeriv cubic.terms "x").terms "x").terms "y").terms.length = 0 := by
  decide +kernel

/-- a constant polynomial (`"5"`, no variable at all) goes through the univariate interface -/
example : UniOK (⟨[⟨5, []⟩], []⟩ : IPoly ℚ) := ⟨by decide, by decide⟩

/-- the hypotheses of `inter_deriv_correct` are satisfiable with a fractional and a negative
exponent: `3·x^(1/2)·y^(-1)` differentiated in `x` at `x = 4`, `y = 2` -/
example : ∃ (f : ℝ → ℝ) (d : ℝ),
    (∀ t, evalTerms Real.rpow [⟨3, [("x", 1 / 2), ("y", -1)]⟩] ([("y", 2)] ++ [("x", t)]) = .ok (f t)) ∧
    evalTerms Real.rpow (partialDeriv [(⟨3, [("x", 1 / 2), ("y", -1)]⟩ : Term ℝ)] "x").terms
      ([("y", 2)] ++ [("x", 4)]) = .ok d ∧ HasDerivAt f d 4 :=
  inter_deriv_correct ⟨[⟨3, [("x", 1 / 2), ("y", -1)]⟩], ["x", "y"]⟩ (by decide) "x" [("y", 2)]
    (by decide) 4 (fun _ _ _ _ => Or.inl (by norm_num))

end SV.Props.C03
