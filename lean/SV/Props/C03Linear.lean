import SV.Props.C03
import Mathlib.Algebra.CharZero.Defs
import Mathlib.Tactic.NormNum
import Mathlib.Tactic.Ring
/-!
# C03 — `simple_derivative` and `partial_derivative` are linear and act term by term

Dense lists (`simpleDeriv`): coefficient `k` of the result is `cs[k+1] * (k+1)`, the multiplier being
a cast natural number with no bound on `k`, and the map is linear for `addCoeffs`, the sum of two
lists of any lengths.  Sparse lists (`derivTerms` / `partialDeriv`): the derivative is a `filter`
followed by a `map` of the one-term power rule (`derivTerms_eq_filter_map`), so it commutes with `++`
and with scaling, and terms are never merged: the derivative `1.5·x^0.5 + 0.5·x^(-0.5)` of
`x^1.5 + x^0.5` is worth `13/4` at `x = 4`, its terms merged into `2·x^0.5` are worth `4`
(`merge_changes_value`).
-/
namespace SV.Props.C03Linear
open SV SV.Poly SV.C03

section simple
variable {K : Type} [Field K]

theorem simpleDeriv_coeff (cs : List K) (k : ℕ) :
    (simpleDeriv cs).getD k 0 = ((k + 1 : ℕ) : K) * cs.getD (k + 1) 0 :=
  (simpleDeriv_getD cs k).trans (mul_comm _ _)

theorem simpleDeriv_length (cs : List K) : (simpleDeriv cs).length = cs.length - 1 := by
  cases cs with
  | nil => rfl
  | cons c cs => rw [simpleDeriv, derivFrom_length, List.length_cons, Nat.add_sub_cancel]

theorem simpleDeriv_eq_nil_iff (cs : List K) : simpleDeriv cs = [] ↔ cs.length ≤ 1 := by
  rw [← List.length_eq_zero_iff, simpleDeriv_length]; omega

theorem simpleDeriv_short (cs : List K) (h : cs.length ≤ 1) : simpleDeriv cs = [] :=
  (simpleDeriv_eq_nil_iff cs).2 h

private theorem derivFrom_scale (c : K) (k : ℕ) (cs : List K) :
    derivFrom k (cs.map (c * ·)) = (derivFrom k cs).map (c * ·) := by
  induction cs generalizing k with
  | nil => rfl
  | cons a cs ih => rw [List.map_cons, derivFrom, derivFrom, List.map_cons, ih, mul_assoc]

theorem simpleDeriv_scale (c : K) (cs : List K) :
    simpleDeriv (cs.map (c * ·)) = (simpleDeriv cs).map (c * ·) := by
  cases cs with
  | nil => rfl
  | cons a cs => simp only [List.map_cons, simpleDeriv, derivFrom_scale]

/-- coefficient-wise sum of two dense polynomials of any lengths (unlike `List.zipWith`, the tail of
the longer list is kept) -/
def addCoeffs : List K → List K → List K
  | [], ys => ys
  | x :: xs, [] => x :: xs
  | x :: xs, y :: ys => (x + y) :: addCoeffs xs ys

theorem addCoeffs_coeff (xs ys : List K) (i : ℕ) :
    (addCoeffs xs ys).getD i 0 = xs.getD i 0 + ys.getD i 0 := by
  induction xs generalizing ys i with
  | nil => rw [addCoeffs, List.getD_nil, zero_add]
  | cons x xs ih =>
    cases ys with
    | nil => rw [addCoeffs, List.getD_nil, add_zero]
    | cons y ys =>
      cases i with
      | zero => rfl
      | succ i => exact ih ys i

theorem addCoeffs_length (xs ys : List K) :
    (addCoeffs xs ys).length = max xs.length ys.length := by
  induction xs generalizing ys with
  | nil => rw [addCoeffs, List.length_nil, Nat.zero_max]
  | cons x xs ih =>
    cases ys with
    | nil => rw [addCoeffs, List.length_nil, Nat.max_zero]
    | cons y ys =>
      rw [addCoeffs, List.length_cons, List.length_cons, List.length_cons, ih, Nat.succ_max_succ]

private theorem derivFrom_add (k : ℕ) (xs ys : List K) :
    derivFrom k (addCoeffs xs ys) = addCoeffs (derivFrom k xs) (derivFrom k ys) := by
  induction xs generalizing ys k with
  | nil => simp only [addCoeffs, derivFrom]
  | cons x xs ih =>
    cases ys with
    | nil => simp only [addCoeffs, derivFrom]
    | cons y ys => simp only [addCoeffs, derivFrom, ih, add_mul]

theorem simpleDeriv_add (xs ys : List K) :
    simpleDeriv (addCoeffs xs ys) = addCoeffs (simpleDeriv xs) (simpleDeriv ys) := by
  cases xs with
  | nil => simp [addCoeffs, simpleDeriv]
  | cons x xs =>
    cases ys with
    | nil =>
      cases xs <;> simp [addCoeffs, simpleDeriv, derivFrom]
    | cons y ys => simp only [addCoeffs, simpleDeriv, derivFrom_add]

theorem simpleDeriv_linear (a b : K) (xs ys : List K) :
    simpleDeriv (addCoeffs (xs.map (a * ·)) (ys.map (b * ·))) =
      addCoeffs ((simpleDeriv xs).map (a * ·)) ((simpleDeriv ys).map (b * ·)) := by
  rw [simpleDeriv_add, simpleDeriv_scale, simpleDeriv_scale]

/-- `addCoeffs` is `+` of Mathlib polynomials, and of the values `eval_simple_polynomial` computes -/
theorem addCoeffs_denotes (xs ys : List K) (x : K) :
    ofCoeffs (addCoeffs xs ys) = ofCoeffs xs + ofCoeffs ys ∧
    evalSimple (addCoeffs xs ys) x = evalSimple xs x + evalSimple ys x := by
  have h : ofCoeffs (addCoeffs xs ys) = ofCoeffs xs + ofCoeffs ys := Polynomial.ext fun i => by
    rw [Polynomial.coeff_add, coeff_ofCoeffs, coeff_ofCoeffs, coeff_ofCoeffs, addCoeffs_coeff]
  refine ⟨h, ?_⟩
  rw [evalSimple_eq, evalSimple_eq, evalSimple_eq, h, Polynomial.eval_add]

theorem evalSimple_simpleDeriv_add (xs ys : List K) (x : K) :
    evalSimple (simpleDeriv (addCoeffs xs ys)) x =
      evalSimple (simpleDeriv xs) x + evalSimple (simpleDeriv ys) x := by
  rw [simpleDeriv_add, (addCoeffs_denotes _ _ x).2]

theorem simpleDeriv_coeff_ne_zero [CharZero K] (cs : List K) (k : ℕ) (h : cs.getD (k + 1) 0 ≠ 0) :
    (simpleDeriv cs).getD k 0 ≠ 0 := by
  rw [simpleDeriv_coeff]
  exact mul_ne_zero (Nat.cast_ne_zero.2 (Nat.succ_ne_zero k)) h

/-- `65536 = 2^16`: a power counter narrowed to 16 bits would multiply the coefficient of `x^65536`
by `65536 mod 2^16 = 0`; in characteristic 0 the factor is not zero. -/
theorem simpleDeriv_coeff_65536 [CharZero K] (cs : List K) :
    (simpleDeriv cs).getD 65535 0 = ((65536 : ℕ) : K) * cs.getD 65536 0 ∧
    ((65536 : ℕ) : K) ≠ 0 ∧
    (cs.getD 65536 0 ≠ 0 → (simpleDeriv cs).getD 65535 0 ≠ 0) :=
  ⟨simpleDeriv_coeff cs 65535, Nat.cast_ne_zero.2 (Nat.succ_ne_zero 65535),
    simpleDeriv_coeff_ne_zero cs 65535⟩

end simple

section inter
variable {K : Type} [Field K] [LinearOrder K]

theorem derivTerms_append (v : String) (ts₁ ts₂ : List (Term K)) :
    derivTerms v (ts₁ ++ ts₂) = derivTerms v ts₁ ++ derivTerms v ts₂ := by
  simp only [derivTerms_eq_filterMap, List.filterMap_append]

/-- also for `c = 0`: the terms stay, with coefficient `0` -/
theorem derivTerms_scale (v : String) (c : K) (ts : List (Term K)) :
    derivTerms v (ts.map fun t => ⟨c * t.coef, t.vars⟩) =
      (derivTerms v ts).map fun t => ⟨c * t.coef, t.vars⟩ := by
  rw [derivTerms_eq_filterMap, derivTerms_eq_filterMap, List.filterMap_map, List.map_filterMap]
  congr 1
  funext t
  simp only [derivTerm?, Function.comp_def, Option.map_map, mul_assoc]

theorem partialDeriv_terms_append (v : String) (ts₁ ts₂ : List (Term K)) :
    (partialDeriv (ts₁ ++ ts₂) v).terms = (partialDeriv ts₁ v).terms ++ (partialDeriv ts₂ v).terms := by
  simp only [partialDeriv, derivTerms_append, List.map_append]

theorem polyVal_derivTerms_append (powf : K → K → K) (σ : String → K) (v : String)
    (ts₁ ts₂ : List (Term K)) :
    polyVal powf σ (partialDeriv (ts₁ ++ ts₂) v).terms =
      polyVal powf σ (partialDeriv ts₁ v).terms + polyVal powf σ (partialDeriv ts₂ v).terms := by
  rw [partialDeriv_terms_append, polyVal_append]

/-- `polyVal_derivTerms_append` through `eval_intermediate_polynomial`: bindings that cover the names
of the sources cover those of the derivatives (`partialDeriv_names`), so the three evaluations are `Ok` -/
theorem evalTerms_partialDeriv_append (powf : K → K → K) (v : String) (ts₁ ts₂ : List (Term K))
    (bs : List (String × K)) (h₁ : ∀ w ∈ termNames ts₁, (lookup bs w).isSome)
    (h₂ : ∀ w ∈ termNames ts₂, (lookup bs w).isSome) :
    ∃ a b, evalTerms powf (partialDeriv ts₁ v).terms bs = .ok a ∧
      evalTerms powf (partialDeriv ts₂ v).terms bs = .ok b ∧
      evalTerms powf (partialDeriv (ts₁ ++ ts₂) v).terms bs = .ok (a + b) := by
  have c₁ := fun w hw => h₁ w (partialDeriv_names ts₁ v w hw)
  have c₂ := fun w hw => h₂ w (partialDeriv_names ts₂ v w hw)
  refine ⟨_, _, evalTerms_eq powf _ bs c₁, evalTerms_eq powf _ bs c₂, ?_⟩
  rw [evalTerms_eq powf _ bs, polyVal_derivTerms_append]
  intro w hw
  rw [partialDeriv_terms_append] at hw
  simp only [termNames, List.flatMap_append, List.mem_append] at hw
  rcases hw with hw | hw
  · exact c₁ w hw
  · exact c₂ w hw

/-- the power rule on one term that contains the variable (the `none` branch is never reached
below: `derivTerm` is only applied after the filter) -/
def derivTerm (v : String) (t : Term K) : Term K :=
  match derivVars v t.vars with
  | some (m, vs') => ⟨t.coef * m, vs'⟩
  | none => t

theorem derivTerms_eq_filter_map (v : String) (ts : List (Term K)) :
    derivTerms v ts = (ts.filter fun t => decide (v ∈ names t.vars)).map (derivTerm v) := by
  rw [derivTerms_eq_map_filter]
  congr 1
  funext t
  unfold derivTerm derivTerm?
  cases derivVars v t.vars <;> rfl

/-- sharpens `SV.Props.C03.deriv_term_count`, which only counts: term `i` of the derivative depends
on the `i`-th input term containing `v` and on nothing else -/
theorem derivTerms_getElem (v : String) (ts : List (Term K)) (i : ℕ)
    (hi : i < (derivTerms v ts).length) :
    ∃ hi' : i < (ts.filter fun t => decide (v ∈ names t.vars)).length,
      (derivTerms v ts)[i] = derivTerm v ((ts.filter fun t => decide (v ∈ names t.vars))[i]) := by
  have hlen : (derivTerms v ts).length = (ts.filter fun t => decide (v ∈ names t.vars)).length := by
    rw [derivTerms_eq_filter_map, List.length_map]
  refine ⟨hlen ▸ hi, ?_⟩
  simp only [derivTerms_eq_filter_map, List.getElem_map]

/-- `derivTerm` on `c · pre · v^p · post`; the variable is removed when `p - 1 = 0`, never left as
`v^0` -/
theorem derivTerm_split (v : String) (c p : K) (pre post : List (String × K)) (hpre : v ∉ names pre) :
    derivTerm v ⟨c, pre ++ (v, p) :: post⟩ =
      ⟨c * p, pre ++ (if isZero (p - 1) then post else (v, p - 1) :: post)⟩ := by
  simp only [derivTerm, derivVars_append p hpre]

/-- Terms are not merged: terms with equal or different exponents stay separate, in order.
`pᵢ ≠ 1` only so that every result term can be written with `(v, pᵢ - 1)` present. -/
theorem derivTerms_powers (v : String) (cps : List (K × K)) (h : ∀ cp ∈ cps, cp.2 - 1 ≠ 0) :
    derivTerms v (cps.map fun cp => (⟨cp.1, [(v, cp.2)]⟩ : Term K)) =
      cps.map fun cp => (⟨cp.1 * cp.2, [(v, cp.2 - 1)]⟩ : Term K) := by
  induction cps with
  | nil => rfl
  | cons cp cps ih =>
    have hz : ¬ isZero (cp.2 - 1) = true := fun hh =>
      h cp (List.mem_cons_self ..) ((isZero_iff _).1 hh)
    simp only [List.map_cons, derivTerms, derivVars, if_true, hz]
    rw [ih (fun cp' hcp' => h cp' (List.mem_cons_of_mem _ hcp'))]
    simp

end inter

/-- lists of different lengths -/
example : simpleDeriv (addCoeffs ([3, 5, 7].map ((2 : ℚ) * ·)) ([1, 1].map ((-1 : ℚ) * ·))) = [9, 28] := by
  rw [simpleDeriv_linear]
  norm_num [simpleDeriv, derivFrom, addCoeffs]

example : simpleDeriv ([4] : List ℚ) = [] := simpleDeriv_short _ (by simp)

example : ((65536 : ℕ) : ℚ) ≠ 0 := (simpleDeriv_coeff_65536 ([] : List ℚ)).2.1

/-- `x^1.5 + x^0.5` differentiates to `1.5·x^0.5 + 0.5·x^(-0.5)`, worth `13/4` at `x = 4` for any
`powf` with the true values `4^0.5 = 2`, `4^(-0.5) = 1/2`; the two terms merged into `2·x^0.5`
are worth `4` there. -/
theorem merge_changes_value {K : Type} [Field K] [LinearOrder K] [IsStrictOrderedRing K]
    (powf : K → K → K) (h1 : powf 4 (1 / 2) = 2) (h2 : powf 4 (-1 / 2) = 1 / 2)
    (σ : String → K) (hσ : σ "x" = 4) :
    (partialDeriv [(⟨1, [("x", 3 / 2)]⟩ : Term K), ⟨1, [("x", 1 / 2)]⟩] "x").terms =
        [⟨3 / 2, [("x", 1 / 2)]⟩, ⟨1 / 2, [("x", -1 / 2)]⟩] ∧
    polyVal powf σ (partialDeriv [(⟨1, [("x", 3 / 2)]⟩ : Term K), ⟨1, [("x", 1 / 2)]⟩] "x").terms
        = 13 / 4 ∧
    polyVal powf σ [(⟨2, [("x", 1 / 2)]⟩ : Term K)] = 4 ∧
    (13 / 4 : K) ≠ 4 := by
  -- the value (second part) is computed from the terms (first part)
  refine (fun h => ⟨h.1, h.2 h.1⟩ : _ ∧ (_ → _) → _) ⟨?_, fun hd => ⟨?_, ?_, by norm_num⟩⟩
  · have := derivTerms_powers (K := K) "x" [(1, 3 / 2), (1, 1 / 2)] (by
      intro cp hcp
      simp only [List.mem_cons, List.not_mem_nil, or_false] at hcp
      rcases hcp with rfl | rfl <;> norm_num)
    simp only [List.map_cons, List.map_nil] at this
    simp only [partialDeriv, this, List.map_cons, List.map_nil, sortVars, List.mergeSort]
    norm_num
  · rw [hd]
    simp only [polyVal_cons, polyVal_nil, termVal, varsVal_cons, varsVal_nil, hσ, h1, h2]
    norm_num
  · simp only [polyVal_cons, polyVal_nil, termVal, varsVal_cons, varsVal_nil, hσ, h1]
    norm_num

/-- `merge_changes_value` at `powf := Real.rpow` -/
theorem merge_changes_value_real (σ : String → ℝ) (hσ : σ "x" = 4) :
    polyVal Real.rpow σ (partialDeriv [(⟨1, [("x", 3 / 2)]⟩ : Term ℝ), ⟨1, [("x", 1 / 2)]⟩] "x").terms
        = 13 / 4 ∧
    polyVal Real.rpow σ [(⟨2, [("x", 1 / 2)]⟩ : Term ℝ)] = 4 := by
  have h4 : (4 : ℝ) = (2 : ℝ) ^ (2 : ℝ) := by rw [Real.rpow_two]; norm_num
  have h1 : Real.rpow 4 (1 / 2) = 2 := by
    show (4 : ℝ) ^ ((1 : ℝ) / 2) = 2
    rw [h4, ← Real.rpow_mul (by norm_num)]
    norm_num
  have h2 : Real.rpow 4 (-1 / 2) = 1 / 2 := by
    show (4 : ℝ) ^ ((-1 : ℝ) / 2) = 1 / 2
    rw [show ((-1 : ℝ) / 2) = -(1 / 2) by norm_num, Real.rpow_neg (by norm_num)]
    have : (4 : ℝ) ^ ((1 : ℝ) / 2) = 2 := h1
    rw [this]; norm_num
  obtain ⟨_, ha, hb, _⟩ := merge_changes_value Real.rpow h1 h2 σ hσ
  exact ⟨ha, hb⟩

/-- the hypotheses of `merge_changes_value` can also be met over ℚ -/
example : ∃ powf : ℚ → ℚ → ℚ, powf 4 (1 / 2) = 2 ∧ powf 4 (-1 / 2) = 1 / 2 :=
  ⟨fun _ p => if p = 1 / 2 then 2 else 1 / 2, by norm_num, by norm_num⟩

example : derivTerms "x" ([(⟨1, [("x", 2)]⟩ : Term ℚ), ⟨1, [("y", 1)]⟩] ++ [⟨3, [("x", 1), ("y", 1)]⟩]) =
    [⟨1 * 2, [("x", 2 - 1)]⟩] ++ [⟨3 * 1, [("y", 1)]⟩] := by
  rw [derivTerms_append]
  norm_num [derivTerms, derivVars, isZero, (by decide : ¬ ("y" : String) = "x")]

end SV.Props.C03Linear
