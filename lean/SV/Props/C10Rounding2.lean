import SV.Model.C10
import SV.Lemmas.C10
import SV.Lemmas.RoundingC09Ex
import SV.Props.C09Rounding
import SV.Props.C10Rounding
/-!
# C10, rounding half, second part — the residual of the computed inverse against `A` itself

`SV.Props.C10Rounding.inverse_column_residual` bounds the residual of every column of the matrix
`SV.C10.inverse` returns at `Fl M` **with respect to the computed factors** (`|P e_j − L U x|`), leaving the
error of the factorisation aside; `SV.Props.C09Rounding.plu_backward_PA` bounds that error
(`|P A − L U| ≤ γ_n·|L||U|`).  Here the two are composed (Higham, *Accuracy and Stability*,
Thm 9.4): for **the same definition** `SV.C10.inverse` run at the rounding scalar `Fl M`, with
`m = max(n, 2)`, `m·u < 1` and `eps > 0`, every column `x = B e_j` of the result satisfies

    |P e_j − (P A) x| ≤ (3γ_m + γ_m²)·|L||U||x|      componentwise,

`P A` being the exact product (row `i` of `P A` is row `σ i` of `A`), `L`, `U` the computed factors.
All the side conditions of `inverse_column_residual` (triangular factors, non-zero diagonals) are
discharged from the shape theorem of the factorisation, so the only hypotheses left are `eps > 0`
and `m·u < 1`.  Since `P` is a permutation matrix this is a bound on `I − A B`
(`inverse_right_residual`): the computed inverse is a right inverse up to `(3γ_m + γ_m²)·Pᵀ|L||U||B|`.

NOT covered: overflow, underflow, NaN/∞, the decimal→binary conversion of the inputs — see the
header of `SV.Lemmas.Rounding`; no bound on `|L||U|` in terms of `|A|` (the growth factor of partial
pivoting) is proved.
-/
namespace SV.Props.C10Rounding2
open SV SV.C09 SV.C10 Finset

variable {M : FlModel}

/-- **Residual of the computed inverse against `P A` (Higham, Thm 9.4).**  Whenever
`inverse` returns `B` at `Fl M` (`eps > 0`, `m = max(n,2)`, `m·u < 1`), with `L, U, P` the factors the
factorisation produced, for all `i, j < n`

    |P_ij − Σ_m (P A)_im·B_mj| ≤ (3γ_m + γ_m²) · Σ_k |l_ik| Σ_m |u_km|·|B_mj|,

`(P A)_im = Σ_k p_ik·a_km` the exact product. -/
theorem inverse_residual_PA (eps : Fl M) (heps : 0 < eps.val) (A B : Mat (Fl M))
    (h : inverse eps A = .ok B) (hu : ((max A.h 2 : ℕ) : ℝ) * M.u < 1) :
    ∃ L U P : Mat (Fl M), plu eps A = .ok (L, U, P) ∧
      ∀ i j, i < A.h → j < A.h →
        |(P.get i j).val - ∑ m ∈ range A.h,
            (∑ k ∈ range A.h, (P.get i k).val * (A.get k m).val) * (B.get m j).val|
          ≤ (3 * M.gamma (max A.h 2) + M.gamma (max A.h 2) ^ 2)
            * ∑ k ∈ range A.h, |(L.get i k).val|
              * ∑ m ∈ range A.h, |(U.get k m).val| * |(B.get m j).val| := by
  obtain ⟨L, U, P, hp, hres⟩ := SV.Props.C10Rounding.inverse_column_residual eps A B h hu
  refine ⟨L, U, P, hp, ?_⟩
  obtain ⟨_, _, _, _, σ, _, _, hLow, hUp, hpiv⟩ := SV.Props.C09Rounding.plu_shape heps hp
  have hPA := SV.Props.C09Rounding.plu_backward_PA heps hp (M.hyp_mono (le_max_left A.h 2) hu)
  have hγ : M.gamma A.h ≤ M.gamma (max A.h 2) := M.gamma_mono (le_max_left A.h 2) hu
  have hdL : ∀ i, i < A.h → (L.get i i).val ≠ 0 := fun i hi => by
    rw [hLow.1 i hi]
    exact one_ne_zero
  have hdU : ∀ i, i < A.h → (U.get i i).val ≠ 0 := fun i hi h0 => by
    have := hpiv i hi
    rw [h0, abs_zero, zero_mul] at this
    linarith
  have htL : ∀ i k, i < A.h → i < k → k < A.h → (L.get i k).val = 0 := fun i k hi hik hk => by
    rw [hLow.2 i k hi hk hik]; rfl
  have htU : ∀ i k, i < A.h → k < i → (U.get i k).val = 0 := fun i k hi hki => by
    rw [hUp i k hi (by omega) hki]; rfl
  intro i j hi hj
  have h1 := hres hdL hdU htL htU i j hi hj
  -- regroup `L (U x)` as `(L U) x`, then replace `L U` by `P A`
  rw [sum_mul_sum_assoc, sum_mul_sum_assoc A.h (fun k => |(L.get i k).val|)] at h1
  rw [sum_mul_sum_assoc A.h (fun k => |(L.get i k).val|),
    show 3 * M.gamma (max A.h 2) + M.gamma (max A.h 2) ^ 2
      = 2 * M.gamma (max A.h 2) + M.gamma (max A.h 2) ^ 2 + M.gamma (max A.h 2) by ring]
  refine residual_perturb A.h _ _ _ _ _ _ _ h1 fun m hm => ?_
  rw [abs_sub_comm]
  exact (hPA i m hi hm).trans (mul_le_mul_of_nonneg_right hγ
    (Finset.sum_nonneg fun _ _ => mul_nonneg (abs_nonneg _) (abs_nonneg _)))

/-- **The computed inverse is a right inverse up to rounding**: with `σ` the permutation `P`
denotes, for every row `σ i` of `A` and every column `j` of `B`

    |δ_{σ i, j} − Σ_m a_{σ i, m}·B_mj| ≤ (3γ_m + γ_m²) · (|L||U||B|)_ij,

i.e. `|I − A B| ≤ (3γ_m + γ_m²)·Pᵀ|L||U||B|` (`σ` is a bijection: every row of `A` occurs). -/
theorem inverse_right_residual (eps : Fl M) (heps : 0 < eps.val) (A B : Mat (Fl M))
    (h : inverse eps A = .ok B) (hu : ((max A.h 2 : ℕ) : ℝ) * M.u < 1) :
    ∃ (L U P : Mat (Fl M)) (σ : Equiv.Perm (Fin A.h)), plu eps A = .ok (L, U, P) ∧
      SV.Props.C09Rounding.IsPermMatrix A.h P σ ∧
      ∀ i j : Fin A.h,
        |(if j = σ i then (1 : ℝ) else 0)
            - ∑ m ∈ range A.h, (A.get (σ i) m).val * (B.get m j).val|
          ≤ (3 * M.gamma (max A.h 2) + M.gamma (max A.h 2) ^ 2)
            * ∑ k ∈ range A.h, |(L.get i k).val|
              * ∑ m ∈ range A.h, |(U.get k m).val| * |(B.get m j).val| := by
  obtain ⟨L, U, P, hp, hres⟩ := inverse_residual_PA eps heps A B h hu
  obtain ⟨_, _, _, _, σ, hσ, hPA, _⟩ := SV.Props.C09Rounding.plu_shape heps hp
  refine ⟨L, U, P, σ, hp, hσ, fun i j => ?_⟩
  have := hres i.val j.val i.isLt j.isLt
  have e1 : (P.get i j).val = if j = σ i then (1 : ℝ) else 0 := by
    rw [hσ i j]
    split_ifs <;> rfl
  have e2 : ∑ m ∈ range A.h,
        (∑ k ∈ range A.h, (P.get i k).val * (A.get k m).val) * (B.get m j).val
      = ∑ m ∈ range A.h, (A.get (σ i) m).val * (B.get m j).val := by
    refine Finset.sum_congr rfl fun m hm => ?_
    rw [hPA i ⟨m, mem_range.1 hm⟩]
  rw [e1, e2] at this
  exact this

/-- With exact arithmetic (`u = 0`) the residual vanishes: `(P A) B = P`, i.e. `A B = I`
(`SV.C10.inverse_toMatrix`). -/
theorem inverse_residual_ideal (eps : Fl FlModel.ideal) (heps : 0 < eps.val)
    (A B : Mat (Fl FlModel.ideal)) (h : inverse eps A = .ok B) :
    ∃ L U P : Mat (Fl FlModel.ideal), plu eps A = .ok (L, U, P) ∧
      ∀ i j, i < A.h → j < A.h →
        ∑ m ∈ range A.h, (∑ k ∈ range A.h, (P.get i k).val * (A.get k m).val) * (B.get m j).val
          = (P.get i j).val := by
  obtain ⟨L, U, P, hp, hres⟩ := inverse_residual_PA eps heps A B h (FlModel.ideal_hyp _)
  exact ⟨L, U, P, hp, fun i j hi hj => FlModel.eq_of_ideal_bound_sq fun _ => hres i j hi hj⟩

/-- **binary64, numerically**: `3γ_m + γ_m² ≤ 4·m·2⁻⁵²` for `m = max(n,2) ≤ 2⁵²`. -/
theorem inverse_residual_binary64 (eps : Fl FlModel.binary64) (heps : 0 < eps.val)
    (A B : Mat (Fl FlModel.binary64)) (h : inverse eps A = .ok B) (hn : A.h ≤ 2 ^ 52) :
    ∃ L U P : Mat (Fl FlModel.binary64), plu eps A = .ok (L, U, P) ∧
      ∀ i j, i < A.h → j < A.h →
        |(P.get i j).val - ∑ m ∈ range A.h,
            (∑ k ∈ range A.h, (P.get i k).val * (A.get k m).val) * (B.get m j).val|
          ≤ 4 * ((max A.h 2 : ℕ) : ℝ) * (2⁻¹ : ℝ) ^ 52
            * ∑ k ∈ range A.h, |(L.get i k).val|
              * ∑ m ∈ range A.h, |(U.get k m).val| * |(B.get m j).val| := by
  have hm : max A.h 2 ≤ 2 ^ 52 := max_le hn (by norm_num)
  obtain ⟨L, U, P, hp, hres⟩ :=
    inverse_residual_PA eps heps A B h (FlModel.binary64_gamma_le hm).1
  exact ⟨L, U, P, hp, fun i j hi hj => FlModel.abs_le_binary64_sq hm zero_le_three (by norm_num)
    fun _ => hres i j hi hj⟩

/-- the hypotheses are satisfiable in a model with `u > 0` whose rounding is not the identity:
`inverse` returns on `[[1, 1], [2, 1]]` with `rnd t = t·(1 + 1/16)` (`u = 1/8`, `2·u < 1`,
`eps = 1/4`; the run of the factorisation is evaluated in `SV.Lemmas.RoundingC09Ex`, where it is also
shown that its `L U` differs from `P A`) -/
example : ∃ (M : FlModel) (eps : Fl M) (A B : Mat (Fl M)), 0 < M.u ∧ 0 < eps.val ∧
    inverse eps A = .ok B ∧ ((max A.h 2 : ℕ) : ℝ) * M.u < 1 := by
  obtain ⟨xs, _, h⟩ := inverse_ok_of_plu Ex.plu_ex_ok
  exact ⟨Ex.M8, Ex.epsx, Ex.Bex, _, Ex.M8_pos, Ex.epsx_pos, h, Ex.M8_hyp (by decide)⟩

end SV.Props.C10Rounding2
