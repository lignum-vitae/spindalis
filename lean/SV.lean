-- Root of the `SV` library: models (import-free), lemmas and property theorems.
import SV.Model.Basic
import SV.Model.Wire
import SV.Model.C11
import SV.Model.Poly
import SV.Model.PolyWire
import SV.Model.PolyOps
import SV.Lemmas.Mat
import SV.Lemmas.C11
import SV.Lemmas.Poly
import SV.Lemmas.Sparse
import SV.Props.C11
import SV.Model.Text
import SV.Model.C01
import SV.Model.C02
import SV.Model.C16
import SV.Model.C17
import SV.Lemmas.Text
import SV.Lemmas.C01
import SV.Props.C01
import SV.Props.C02
import SV.Props.C16
import SV.Props.C16Simple
import SV.Props.C17
import SV.Model.Subst
import SV.Model.C08
import SV.Model.C18
import SV.Model.C15
import SV.Lemmas.Subst
import SV.Lemmas.Elim
import SV.Lemmas.Gauss
import SV.Lemmas.C15
import SV.Lemmas.C18
import SV.Props.C08
import SV.Props.C15
import SV.Props.C18
import SV.Model.C12
import SV.Lemmas.C12
import SV.Lemmas.C12Layout
import SV.Lemmas.Fold
import SV.Props.C12
import SV.Model.C09
import SV.Lemmas.LU
import SV.Props.C09
import SV.Model.C03
import SV.Model.C04
import SV.Lemmas.C03
import SV.Lemmas.C04
import SV.Lemmas.C04Integral
import SV.Props.C03
import SV.Props.C04
import SV.Model.C13
import SV.Model.C14
import SV.Lemmas.C13
import SV.Lemmas.C14
import SV.Props.C13
import SV.Props.C14
import SV.Lemmas.C02
import SV.Lemmas.C02Text
import SV.Lemmas.C02Grammar
import SV.Lemmas.C02Render
import SV.Model.C05
import SV.Lemmas.C05
import SV.Lemmas.C05Romberg
import SV.Props.C05
import SV.Model.C06
import SV.Model.C07
import SV.Lemmas.C06
import SV.Lemmas.C07
import SV.Props.C06
import SV.Props.C07
import SV.Model.C10
import SV.Lemmas.C10
import SV.Props.C10
import SV.Lemmas.C17
import SV.Lemmas.C17Simple
import SV.Lemmas.C17Inter
import SV.Lemmas.C17InterDisplay
import SV.Lemmas.C17InterValue
import SV.Props.C17Roundtrip
import SV.Lemmas.C19
import SV.Lemmas.C19Implied
import SV.Lemmas.C19Lex
import SV.Lemmas.C19Eval
import SV.Lemmas.C19Fold
import SV.Lemmas.C19Print
import SV.Lemmas.C19Wf
import SV.Lemmas.C19Num
import SV.Lemmas.C19Show
import SV.Lemmas.C19Spell
import SV.Lemmas.C19Norm
import SV.Props.C19Total
import SV.Props.C19Fold
import SV.Props.C19Display
import SV.Lemmas.C19Yield
import SV.Props.C19Yield
import SV.Lemmas.C16Inter
import SV.Lemmas.C16InterSem
import SV.Props.C16Inter
import SV.Lemmas.Rounding
import SV.Lemmas.RoundingC18
import SV.Lemmas.RoundingPoly
import SV.Lemmas.RoundingNearest
import SV.Props.C11Rounding
import SV.Props.C18Rounding
import SV.Props.C01Rounding
import SV.Lemmas.C02Agree
import SV.Props.C02Agree
import SV.Lemmas.C13AccSeq
import SV.Lemmas.C13AccSpec
import SV.Lemmas.C13AccLoop
import SV.Props.C13Accuracy
import SV.Lemmas.RoundingDot
import SV.Lemmas.RoundingEx
import SV.Lemmas.RoundingC08
import SV.Props.C08Rounding
import SV.Lemmas.RoundingSum
import SV.Lemmas.RoundingC05
import SV.Props.C05Rounding
import SV.Props.C10Rounding
import SV.Lemmas.C04Nat
import SV.Props.C03Natural
import SV.Props.C04Natural
import SV.Lemmas.RoundingC09
import SV.Lemmas.RoundingC09Plu
import SV.Lemmas.RoundingC09Mult
import SV.Lemmas.RoundingC09Ex
import SV.Props.C09Rounding
import SV.Props.C10Rounding2
import SV.Props.C20Tokens
import SV.Props.C06Midpoint
import SV.Props.C10Findings
import SV.Gen.Consts
import SV.Lemmas.C17Model
import SV.Model.C19
import SV.Model.C20
import SV.Props.C01Spelling
import SV.Props.C02Bindings
import SV.Props.C03Linear
import SV.Props.C04Linear
import SV.Props.C05Linear
import SV.Props.C06Bracket
import SV.Props.C07Scale
import SV.Props.C08Laws
import SV.Props.C08Scale
import SV.Props.C09Unique
import SV.Lemmas.C10Laws
import SV.Props.C10Laws
import SV.Props.C11Laws
import SV.Props.C11Panels
import SV.Props.C12Laws
import SV.Props.C13Laws
import SV.Props.C13Scale
import SV.Props.C14Laws
import SV.Props.C14Scale
import SV.Props.C15Affine
import SV.Props.C15Stationary
import SV.Props.C16Tail
import SV.Props.C17Laws
import SV.Props.C18OnePass
import SV.Props.C18Perm
import SV.Props.C19
import SV.Props.C19FoldLaws
import SV.Props.C19PowPow
import SV.Props.C20
